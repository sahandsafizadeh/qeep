import QeepProofs.Index
import QeepProofs.Bcast
import QeepProofs.Heap
import QeepProofs.Graph
import QeepProofs.Transpose
import QeepProofs.Slice
import QeepProofs.Patch
import QeepProofs.Concat
import QeepProofs.Along
import QeepProofs.MatMul
import QeepProofs.Vals
import QeepProofs.ValueOps
import QeepProofs.Run
import QeepProofs.Real
import QeepProofs.Calculus
import QeepProofs.FC
import QeepProofs.Dag
import QeepProofs.AlongAt
import QeepProofs.BcastSum
import QeepProofs.Duality
import QeepProofs.BcastCopies
import QeepProofs.Block
import QeepProofs.Gates
import QeepProofs.RuleEqs
import QeepProofs.Alloc
import QeepProofs.BlockCover
import QeepProofs.BlockAct
import QeepProofs.Live
