import QeepProofs.Run
/-!
# Allocation lemmas: which nodes a public operation pushes, with values *and* gradient contexts

`Alloc H n v ops es H'`: `H'` is `H` plus the node `n = H.size`, holding `v`, whose context is what `mkCtx` makes of the older
operands `ops` and the back edges `es`. Since the operands are older than the node, the context is the same `mkCtx` in
every later heap (`Alloc.final`): that is the form in which a component's graph is stated. `*_alloc` runs an operation
whose value-level function succeeds and records the `Alloc` of each node: `alloc_push` on the nodes that `hOp1_run`
(`QeepProofs.Heap`), `hArith_run`, `hMatMul_run` (`QeepProofs.Vals`) say it pushes; only the operations of `fcForward` have one.
-/
set_option linter.unusedSectionVars false

namespace Qeep
namespace C16x

variable {α : Type} [Scalar α]

structure Alloc (H : Heap α) (n : Nat) (v : Tensor α) (ops : List Nat) (es : List (Edge α)) (H' : Heap α) : Prop where
  id : H.size = n
  size : H'.size = n + 1
  val : H'.val n = v
  ctx : H'.ctx n = mkCtx H ops es
  ext : Extends H H'
  old : ∀ m ∈ ops, m < n

theorem alloc_push (H : Heap α) (v : Tensor α) (ops : List Nat) (es : List (Edge α)) {n : Nat} (hn : H.size = n)
    (old : ∀ m ∈ ops, m < n) : Alloc H n v ops es (H.push ⟨v, mkCtx H ops es⟩) := by
  subst hn
  exact ⟨rfl, by simp, push_val_new _ _, by simp [Heap.ctx], extends_push _ _, old⟩

section
variable {H H1 H2 : Heap α} {n : Nat} {v : Tensor α} {ops : List Nat} {es : List (Edge α)}

theorem Alloc.new (a : Alloc H n v ops es H1) : n < H1.size := by rw [a.size]; exact Nat.lt_succ_self _

theorem Alloc.lt (a : Alloc H n v ops es H1) {m : Nat} (h : m < H.size) : m < H1.size := Nat.lt_of_lt_of_le h a.ext.1

theorem Alloc.final (a : Alloc H n v ops es H1) (e : Extends H1 H2) : H2.val n = v ∧ H2.ctx n = mkCtx H2 ops es :=
  ⟨by rw [e.val a.new, a.val],
    by rw [e.ctx a.new, a.ctx, mkCtx_ext (a.ext.trans e) ops (fun m hm => a.id ▸ a.old m hm)]⟩

end

/-! ## one operand: `getHeap`, a value computed from the heap, `hOp1` -/

theorem one_old {x n : Nat} (hx : x < n) : ∀ m ∈ [x], m < n := fun m hm => by rw [List.mem_singleton.1 hm]; exact hx

theorem op1_alloc (x : Nat) (f : Heap α → Out (Tensor α)) (rule : Nat → Rule α) (H : Heap α) (v : Tensor α) {n : Nat}
    (hn : H.size = n) (hx : x < n) (h : f H = .ok v) :
    ∃ H1, (getHeap >>= fun H => hOp1 x (f H) rule) H = .ok (n, H1) ∧ Alloc H n v [x] [⟨x, rule n⟩] H1 := by
  subst hn
  exact ⟨_, by rw [bind_run (getHeap_run H), h, hOp1_run],
    alloc_push H v _ _ rfl (one_old hx)⟩

theorem hUnSqueeze_alloc (x : Nat) (dim : Int) (H : Heap α) (v : Tensor α) {n : Nat} (hn : H.size = n) (hx : x < n)
    (h : vUnSqueeze (H.val x) dim = .ok v) :
    ∃ H1, hUnSqueeze x dim H = .ok (n, H1) ∧ Alloc H n v [x] [⟨x, .reshapeX x⟩] H1 :=
  op1_alloc x (fun H => vUnSqueeze (H.val x) dim) (fun _ => .reshapeX x) H v hn hx h

theorem hSumAlong_alloc (x : Nat) (d : Int) (H : Heap α) (v : Tensor α) {n : Nat} (hn : H.size = n) (hx : x < n)
    (h : vAlong .sum (H.val x) d = .ok v) :
    ∃ H1, hAlong .sum x d H = .ok (n, H1) ∧ Alloc H n v [x] [⟨x, .sumAlongX x d.toNat⟩] H1 :=
  op1_alloc x (fun H => vAlong .sum (H.val x) d) (fun y => alongRule .sum x y d.toNat) H v hn hx h

/-! ## two operands: both go through `Broadcast`, then the result node has the two copies as operands -/

theorem pair_old (n : Nat) : ∀ m ∈ [n, n + 1], m < n + 2 := by
  intro m hm
  simp only [List.mem_cons, List.not_mem_nil, or_false] at hm
  omega

/-- `MatMul`: two `Broadcast` nodes, then the product node with the two MatMul edges -/
theorem hMatMul_alloc (a b : Nat) (H : Heap α) {n : Nat} (hn : H.size = n) (ha : a < n) (hb : b < n) (va vb v : Tensor α)
    (hv : validMatMul (H.val a).dims (H.val b).dims = true)
    (hba : vBroadcastN (H.val a) (matMulShape (targetBroadcastDims (H.val a).dims (H.val b).dims) (H.val a).dims) = .ok va)
    (hbb : vBroadcastN (H.val b) (matMulShape (targetBroadcastDims (H.val a).dims (H.val b).dims) (H.val b).dims) = .ok vb)
    (hm : va.matMulRaw vb = some v) :
    ∃ H1 H2 H3, hMatMul a b H = .ok (n + 2, H3) ∧
      Alloc H n va [a] [⟨a, .bcastX a n⟩] H1 ∧
      Alloc H1 (n + 1) vb [b] [⟨b, .bcastX b (n + 1)⟩] H2 ∧
      Alloc H2 (n + 2) v [n, n + 1] [⟨n, .matmulA (n + 1)⟩, ⟨n + 1, .matmulB n⟩] H3 := by
  subst hn
  obtain ⟨Ha, Hb, rfl, rfl, hs, run⟩ := hMatMul_run hb hv hba hbb hm
  exact ⟨_, _, _, run, alloc_push H va _ _ rfl (one_old ha), alloc_push _ vb _ _ (Array.size_push ..) (one_old (Nat.lt_succ_of_lt hb)),
    alloc_push _ v _ _ hs (pair_old _)⟩

/-- `Add`: two `Broadcast` nodes, then the sum node with two identity edges -/
theorem hAdd_alloc (a b : Nat) (H : Heap α) {n : Nat} (hn : H.size = n) (ha : a < n) (hb : b < n) (va vb v : Tensor α)
    (hba : vBroadcastN (H.val a) (targetBroadcastDims (H.val a).dims (H.val b).dims) = .ok va)
    (hbb : vBroadcastN (H.val b) (targetBroadcastDims (H.val a).dims (H.val b).dims) = .ok vb)
    (hz : Tensor.zipRaw Scalar.add va vb = some v) :
    ∃ H1 H2 H3, hArith .add a b H = .ok (n + 2, H3) ∧
      Alloc H n va [a] [⟨a, .bcastX a n⟩] H1 ∧
      Alloc H1 (n + 1) vb [b] [⟨b, .bcastX b (n + 1)⟩] H2 ∧
      Alloc H2 (n + 2) v [n, n + 1] [⟨n, .idG⟩, ⟨n + 1, .idG⟩] H3 := by
  subst hn
  obtain ⟨Ha, Hb, rfl, rfl, hs, run⟩ := hArith_run .add hb hba hbb hz
  exact ⟨_, _, _, run, alloc_push H va _ _ rfl (one_old ha), alloc_push _ vb _ _ (Array.size_push ..) (one_old (Nat.lt_succ_of_lt hb)),
    alloc_push _ v _ _ hs (pair_old _)⟩

end C16x
end Qeep
