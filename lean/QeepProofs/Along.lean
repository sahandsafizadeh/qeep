import QeepProofs.Slice
/-!
# The window generator of the `…Along` reductions (`linearElemGeneratorWithReducedDim`)

`incrSkip k` is an odometer over all positions except `k`. With `insLE k` (insert a 0 at little-endian position `k`)
and `delLE k` (delete position `k`): one step of `incrSkip k` on `insLE k u` is `insLE k` of one ordinary odometer
step on `u` over the dims with position `k` deleted — position `k` is never touched.
-/

namespace Qeep

def insLE : Nat → Nat → List Nat → List Nat
  | 0, v, l => v :: l
  | k + 1, v, x :: l => x :: insLE k v l
  | _ + 1, v, [] => [v]

def delLE : Nat → List Nat → List Nat
  | _, [] => []
  | 0, _ :: l => l
  | k + 1, x :: l => x :: delLE k l

theorem incrSkip_ins (k : Nat) (ds u : List Nat) (hk : k < ds.length) (hl : u.length = (delLE k ds).length) :
    incrSkip k ds (insLE k 0 u) = insLE k 0 (incr (delLE k ds) u) := by
  induction k generalizing ds u with
  | zero =>
    match ds, hk with
    | d :: ds, _ => rfl
  | succ k ih =>
    match ds, u, hk, hl with
    | d :: ds, x :: u, hk, hl =>
      show (if x + 1 < d then (x + 1) :: insLE k 0 u else 0 :: incrSkip k ds (insLE k 0 u))
        = insLE (k + 1) 0 (if x + 1 < d then (x + 1) :: u else 0 :: incr (delLE k ds) u)
      split
      · rfl
      · rw [ih ds u (Nat.lt_of_succ_lt_succ hk) (Nat.succ.inj hl)]; rfl

theorem delLE_length : ∀ (k : Nat) (ds : List Nat), k < ds.length → (delLE k ds).length = ds.length - 1
  | _, [], hk => by simp at hk
  | 0, _ :: l, _ => by simp [delLE]
  | k + 1, x :: l, hk => by
    have hk' : k < l.length := by simpa using hk
    have := delLE_length k l hk'
    simp only [delLE, List.length_cons, this]; omega

theorem zeros_ins : ∀ (k : Nat) (ds : List Nat), k < ds.length → zerosLike ds = insLE k 0 (zerosLike (delLE k ds))
  | _, [], hk => by simp at hk
  | 0, _ :: l, _ => by simp [zerosLike, insLE, delLE]
  | k + 1, x :: l, hk => by
    have := zeros_ins k l (by simpa using hk)
    simp only [zerosLike, List.map_cons, delLE, insLE] at this ⊢
    rw [this]

theorem mem_delLE : ∀ {k : Nat} {l : List Nat} {d : Nat}, d ∈ delLE k l → d ∈ l
  | _, [], _, h => by simp [delLE] at h
  | 0, _ :: _, _, h => List.mem_cons_of_mem _ h
  | k + 1, x :: l, d, h => by
    rcases List.mem_cons.mp h with rfl | h
    · exact List.mem_cons_self
    · exact List.mem_cons_of_mem _ (mem_delLE h)

/-- the generator state after `j` calls: the `j`-th index over the other dims, with a 0 at position `k` -/
theorem iterSkip (k : Nat) (ds : List Nat) (hk : k < ds.length) (j : Nat) :
    iterN (incrSkip k ds) j (zerosLike ds) = insLE k 0 (iterN (incr (delLE k ds)) j (zerosLike (delLE k ds))) := by
  rw [zeros_ins k ds hk]
  exact (iterN_conj (P := fun u => u.length = (delLE k ds).length)
    (fun u hu => ⟨incrSkip_ins k ds u hk hu, by rw [incr_length' hu]⟩) (by simp [zerosLike]) j).1

end Qeep

namespace Qeep
variable {α : Type}

theorem flatten_singletons {β γ : Type} (l : List β) (g : β → γ) : (l.map (fun i => [g i])).flatten = l.map g := by
  induction l with
  | nil => rfl
  | cons x xs ih => simp [ih]

theorem sliceData_unit_cons (idx : List (Nat × Nat)) {s d : Nat} (ds : List Nat) (data : List α) (hs : s < d)
    (hl : data.length = d * prod ds) :
    sliceData ((s, s + 1) :: idx) (d :: ds) data = sliceData idx ds (chunk data (prod ds) s) := by
  simp only [sliceData]
  rw [if_pos ⟨hs, hl⟩, Nat.add_sub_cancel_left]
  simp only [List.range_one, List.map_cons, List.map_nil, Nat.zero_add]
  cases sliceData idx ds (chunk data (prod ds) s) <;> simp [allSome]

theorem slice_unit {ds st : List Nat} (hv : Valid ds st) : ∀ (data : List α), data.length = prod ds →
    ∃ x, sliceData (unitWin st) ds data = some [x] ∧ (⟨ds, data⟩ : Tensor α).at? st = some x := by
  induction hv with
  | nil =>
    intro data hl
    match data, hl with
    | [x], _ => exact ⟨x, rfl, rfl⟩
  | @cons d s ds st hs hv ih =>
    intro data hl
    obtain ⟨x, h1, h2⟩ := ih (chunk data (prod ds) s) (chunk_length data (prod ds) s d hl hs)
    exact ⟨x, (sliceData_unit_cons _ ds data hs hl).trans h1, (at?_cons d ds data s st hs hv.length_eq).trans h2⟩

theorem fibre_of_rows {d s : Nat} {ds st : List Nat} {data : List α} (hs : s < d) (hl : data.length = d * prod ds)
    (hrow : ∀ i, i < d → ∃ x, sliceData (unitWin st) ds (chunk data (prod ds) i) = some [x] ∧
      (⟨d :: ds, data⟩ : Tensor α).at? (i :: st) = some x) :
    ∃ fib, sliceData (windowOf 0 (d :: ds) (s :: st)) (d :: ds) data = some fib ∧ fib.length = (d :: ds).getD 0 0 ∧
      ∀ i, i < (d :: ds).getD 0 0 →
        fib[i]? = (⟨d :: ds, data⟩ : Tensor α).at? ((s :: st).set 0 i) ∧ (fib[i]?).isSome := by
  -- the element at `s :: st` serves as a default to name the fibre entries
  obtain ⟨dflt, _, _⟩ := hrow s hs
  let g : Nat → α := fun i => ((⟨d :: ds, data⟩ : Tensor α).at? (i :: st)).getD dflt
  have hg : ∀ i, i < d → sliceData (unitWin st) ds (chunk data (prod ds) (i + 0)) = some [g i] := by
    intro i hi
    obtain ⟨x, h1, h2⟩ := hrow i hi
    simp only [Nat.add_zero, g, h2, Option.getD_some]; exact h1
  refine ⟨(List.range d).map g, ?_, by simp only [List.length_map, List.length_range, List.getD_cons_zero], ?_⟩
  · simp only [windowOf, sliceData]
    rw [if_pos ⟨Nat.le_refl d, hl⟩, Nat.sub_zero, allSome_range d _ (fun i => [g i]) hg]
    rw [Option.map_some, flatten_singletons]
  · intro i hi
    simp only [List.getD_cons_zero] at hi
    obtain ⟨x, _, h2⟩ := hrow i hi
    simp only [List.getElem?_map, List.getElem?_range hi, Option.map_some, g, h2, Option.getD_some,
      Option.isSome_some, List.set_cons_zero, and_self]

/-- the window of the `…Along` generator (`t.slice(state)`) copies one fibre: all elements whose index agrees with `st`
    outside position `dim`, in order of their coordinate along `dim` -/
theorem slice_window : ∀ (dim : Nat) {dims st : List Nat}, Valid dims st → dim < dims.length →
    ∀ (data : List α), data.length = prod dims →
    ∃ fib, sliceData (windowOf dim dims st) dims data = some fib ∧ fib.length = dims.getD dim 0 ∧
      ∀ i, i < dims.getD dim 0 → fib[i]? = (⟨dims, data⟩ : Tensor α).at? (st.set dim i) ∧ (fib[i]?).isSome
  | 0, _, _, .cons (d := d) (s := s) (ds := ds) (ss := st) hs hv, _, data, hl => by
    simp only [prod] at hl
    have hrow : ∀ i, i < d → ∃ x, sliceData (unitWin st) ds (chunk data (prod ds) i) = some [x] ∧
        (⟨d :: ds, data⟩ : Tensor α).at? (i :: st) = some x := by
      intro i hi
      obtain ⟨x, h1, h2⟩ := slice_unit hv (chunk data (prod ds) i) (chunk_length data (prod ds) i d hl hi)
      exact ⟨x, h1, by rw [at?_cons d ds data i st hi hv.length_eq]; exact h2⟩
    exact fibre_of_rows hs hl hrow
  | dim + 1, _, _, .cons (d := d) (s := s) (ds := ds) (ss := st) hs hv, hdim, data, hl => by
    simp only [prod] at hl
    obtain ⟨fib, h1, h2, h3⟩ := slice_window dim hv (Nat.lt_of_succ_lt_succ hdim) (chunk data (prod ds) s)
      (chunk_length data (prod ds) s d hl hs)
    refine ⟨fib, (sliceData_unit_cons _ ds data hs hl).trans h1, h2, fun i hi => ?_⟩
    obtain ⟨e1, e2⟩ := h3 i hi
    refine ⟨?_, e2⟩
    rw [e1, List.set_cons_succ,
      at?_cons d ds data s (st.set dim i) hs (by rw [List.length_set]; exact hv.length_eq)]
termination_by structural dim => dim

end Qeep

namespace Qeep
variable {α : Type}

theorem completeIndex_unitWin {ds st : List Nat} (hv : Valid ds st) : completeIndex (unitWin st) ds = unitWin st := by
  induction hv with
  | nil => rfl
  | @cons d s ds st _ _ ih =>
    show (if s = 0 ∧ s + 1 = 0 then (0, d) else (s, s + 1)) :: completeIndex (unitWin st) ds = (s, s + 1) :: unitWin st
    rw [if_neg (fun h => Nat.succ_ne_zero s h.2), ih]

theorem completeIndex_window (dim : Nat) {dims st : List Nat} (hv : Valid dims st) (hpos : ∀ d ∈ dims, 0 < d)
    (hdim : dim < dims.length) : completeIndex (windowOf dim dims st) dims = windowOf dim dims st := by
  induction hv generalizing dim with
  | nil => exact absurd hdim (Nat.not_lt_zero _)
  | @cons d s ds st hs hv ih =>
    cases dim with
    | zero =>
      show (if (0 : Nat) = 0 ∧ d = 0 then (0, d) else (0, d)) :: completeIndex (unitWin st) ds = (0, d) :: unitWin st
      rw [ite_self, completeIndex_unitWin hv]
    | succ dim =>
      show (if s = 0 ∧ s + 1 = 0 then (0, d) else (s, s + 1)) :: completeIndex (windowOf dim ds st) ds
        = (s, s + 1) :: windowOf dim ds st
      rw [if_neg (fun h => Nat.succ_ne_zero s h.2),
        ih dim (fun x hx => hpos x (List.mem_cons_of_mem _ hx)) (Nat.lt_of_succ_lt_succ hdim)]

theorem valid_insLE (k : Nat) {ds u : List Nat} (hk : k < ds.length) (hv : Valid (delLE k ds) u) (hpos : ∀ d ∈ ds, 0 < d) :
    Valid ds (insLE k 0 u) := by
  induction k generalizing ds u with
  | zero =>
    match ds, hk with
    | d :: ds, _ => exact .cons (hpos d List.mem_cons_self) hv
  | succ k ih =>
    match ds, hk with
    | d :: ds, hk =>
      obtain _ | @⟨_, x, _, u, hx, hv'⟩ := hv
      exact .cons hx (ih (Nat.lt_of_succ_lt_succ hk) hv' fun y hy => hpos y (List.mem_cons_of_mem _ hy))

theorem delLE_append_length : ∀ (p : List Nat) (x : Nat) (q : List Nat), delLE p.length (p ++ x :: q) = p ++ q
  | [], _, _ => rfl
  | a :: p, x, q => by simp [delLE, delLE_append_length p x q]

/-- deleting BE position `dim` = deleting LE position `n-1-dim` of the reversed list -/
theorem squeeze_rev (dim : Nat) (dims : List Nat) (h : dim < dims.length) :
    (squeezeDims dim dims).reverse = delLE (dims.length - 1 - dim) dims.reverse := by
  unfold squeezeDims
  have hsplit : dims = dims.take dim ++ dims[dim] :: dims.drop (dim + 1) := by
    rw [← List.drop_eq_getElem_cons h, List.take_append_drop]
  have hl : (dims.drop (dim + 1)).reverse.length = dims.length - 1 - dim := by simp; omega
  have hrev : dims.reverse = (dims.drop (dim + 1)).reverse ++ dims[dim] :: (dims.take dim).reverse := by
    conv => lhs; rw [hsplit]
    simp only [List.reverse_append, List.reverse_cons, List.append_assoc, List.singleton_append]
  rw [hrev, ← hl, delLE_append_length, List.reverse_append]

/-- the `…Along` generator run (`reduceDimUsingFunc`), for every `dim` and every reducer `trf`: no panic, and the `j`-th
    element (row-major) of the result is `trf` of the `j`-th fibre: the window tensor holding the source elements along
    `dim` through `S j`, the `j`-th output index with a 0 inserted at `dim`. -/
theorem reduceDim_spec (t : Tensor α) (hwf : t.WF) (dim : Nat) (hdim : dim < t.dims.length) (trf : Tensor α → α) :
    let k := t.dims.length - 1 - dim
    let S := fun j => (insLE k 0 (iterN (incr (delLE k t.dims.reverse)) j (zerosLike (delLE k t.dims.reverse)))).reverse
    ∃ data', t.reduceDimRaw dim trf = some ⟨squeezeDims dim t.dims, data'⟩ ∧
      data'.length = prod (squeezeDims dim t.dims) ∧
      ∀ j, j < prod (squeezeDims dim t.dims) →
        ∃ fib : List α, fib.length = t.dims.getD dim 0 ∧
          (∀ i, i < t.dims.getD dim 0 → fib[i]? = t.at? ((S j).set dim i) ∧ (fib[i]?).isSome) ∧
          data'[j]? = some (trf ⟨sliceDims (windowOf dim t.dims (S j)), fib⟩) := by
  intro k S
  have hk : k < t.dims.reverse.length := by simp; omega
  have hposR := pos_reverse hwf.2
  have hvalid : ∀ j, Valid t.dims (S j) := fun j => by
    simpa [S] using valid_reverse (valid_insLE k hk (valid_iter (fun d hd => hposR d (mem_delLE hd)) j) hposR)
  -- every step: the generator state is `S j` reversed back, and its window copies the fibre through `S j`
  obtain ⟨data', h1, h2, h3⟩ := allSome_range_exists (prod (squeezeDims dim t.dims))
    (fun j => (t.sliceRaw (windowOf dim t.dims (iterN (incrSkip k t.dims.reverse) j (zerosLike t.dims)).reverse)).map trf)
    (fun j v => ∃ fib : List α, fib.length = t.dims.getD dim 0 ∧
      (∀ i, i < t.dims.getD dim 0 → fib[i]? = t.at? ((S j).set dim i) ∧ (fib[i]?).isSome) ∧
      v = trf ⟨sliceDims (windowOf dim t.dims (S j)), fib⟩)
    (fun j _ => by
      obtain ⟨fib, f1, f2, f3⟩ := slice_window dim (hvalid j) hdim t.data hwf.1
      refine ⟨_, ?_, fib, f2, f3, rfl⟩
      rw [← zerosLike_reverse, iterSkip k t.dims.reverse hk j]
      unfold Tensor.sliceRaw
      simp only [completeIndex_window dim (hvalid j) hwf.2 hdim, S, f1, Option.map_some])
  refine ⟨data', ?_, h2, fun j hj => ?_⟩
  · unfold Tensor.reduceDimRaw
    simp only []
    rw [iterGen_eq, h1]; rfl
  · obtain ⟨v, e, fib, f2, f3, rfl⟩ := h3 j hj
    exact ⟨fib, f2, f3, e⟩

end Qeep
