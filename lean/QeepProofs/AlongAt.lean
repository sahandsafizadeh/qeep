import QeepProofs.Along
/-!
# Index-level form of the `…Along` specification

`reduceDim_spec` speaks about the `j`-th element in row-major order. Here the same fact for a multi-index:
the element of the result at the (big-endian) index `u` is the reducer applied to the fibre
`t[u with i inserted at dim]`, `i = 0 … n-1`.
-/

namespace Qeep
variable {α : Type}

/-- insert `i` at big-endian position `dim` -/
def insAt (dim i : Nat) (u : List Nat) : List Nat := u.take dim ++ i :: u.drop dim

theorem insLE_eq : ∀ (k v : Nat) (l : List Nat), k ≤ l.length → insLE k v l = l.take k ++ v :: l.drop k
  | 0, v, l, _ => by simp [insLE]
  | k + 1, v, [], h => by simp at h
  | k + 1, v, x :: l, h => by
    simp only [insLE, List.take_succ_cons, List.drop_succ_cons, List.cons_append]
    rw [insLE_eq k v l (by simpa using h)]

theorem insLE_rev_set (u : List Nat) (dim k i : Nat) (hk : k + dim = u.length) :
    ((insLE k 0 u.reverse).reverse).set dim i = insAt dim i u := by
  rw [insLE_eq k 0 u.reverse (by simp; omega)]
  simp only [List.reverse_append, List.reverse_cons, List.append_assoc, List.singleton_append]
  have h1 : (u.reverse.drop k).reverse = u.take dim := by
    rw [List.drop_reverse, List.reverse_reverse]; congr 1; omega
  have h2 : (u.reverse.take k).reverse = u.drop dim := by
    rw [List.take_reverse, List.reverse_reverse]; congr 1; omega
  rw [h1, h2]
  unfold insAt
  have hl : (u.take dim).length = dim := by simp; omega
  have gen : ∀ (A B : List Nat) (x : Nat), (A ++ x :: B).set A.length i = A ++ i :: B := by
    intro A B x; induction A with
    | nil => simp
    | cons a A ih => simp [ih]
  have := gen (u.take dim) (u.drop dim) 0
  rw [hl] at this
  exact this

/-- index-level `…Along`: the element of the result at a valid index `u` is the reducer applied to the fibre of the
    operand along `dim` through `u`. -/
theorem reduceDim_at (t : Tensor α) (hwf : t.WF) (dim : Nat) (hdim : dim < t.dims.length) (trf : Tensor α → α) :
    ∃ r, t.reduceDimRaw dim trf = some r ∧ r.dims = squeezeDims dim t.dims ∧ r.data.length = prod (squeezeDims dim t.dims) ∧
      ∀ u, Valid (squeezeDims dim t.dims) u →
        ∃ (wd : List Nat) (fib : List α), fib.length = t.dims.getD dim 0 ∧
          (∀ i, i < t.dims.getD dim 0 → fib[i]? = t.at? (insAt dim i u) ∧ (fib[i]?).isSome) ∧
          r.at? u = some (trf ⟨wd, fib⟩) := by
  obtain ⟨data', h1, h2, h3⟩ := reduceDim_spec t hwf dim hdim trf
  refine ⟨⟨squeezeDims dim t.dims, data'⟩, h1, rfl, h2, fun u hu => ?_⟩
  have hD := squeeze_rev dim t.dims hdim
  have hpos : ∀ d ∈ squeezeDims dim t.dims, 0 < d := fun d hd =>
    hwf.2 d (List.mem_reverse.mp (mem_delLE (hD ▸ List.mem_reverse.mpr hd)))
  have hlen : (squeezeDims dim t.dims).length = t.dims.length - 1 := by
    unfold squeezeDims; rw [List.length_append, List.length_take, List.length_drop]; omega
  -- `reduceDim_spec` at the step number of `u`, where the odometer shows `u`
  have key := at?_of_steps (shape := squeezeDims dim t.dims) (data := data')
    (fun w o => ∃ (wd : List Nat) (fib : List α), fib.length = t.dims.getD dim 0 ∧
      (∀ i, i < t.dims.getD dim 0 → fib[i]? = t.at? (insAt dim i w.reverse) ∧ (fib[i]?).isSome) ∧
      o = some (trf ⟨wd, fib⟩))
    hpos (fun k hk => by
      obtain ⟨fib, f1, f2, f3⟩ := h3 k hk
      have hl := (valid_iter (pos_reverse hpos) k).length_eq
      refine ⟨_, fib, f1, fun i hi => ?_, f3⟩
      have := f2 i hi
      dsimp only at this
      rw [← hD] at this
      rwa [← insLE_rev_set _ dim (t.dims.length - 1 - dim) i (by rw [List.length_reverse, hl, List.length_reverse, hlen]; omega),
        List.reverse_reverse])
    (valid_reverse hu)
  rwa [List.reverse_reverse] at key

end Qeep
