import QeepProofs.BcastSum
import QeepProofs.Duality
import QeepProofs.Real
import QeepProps.C03
/-!
# The copies of an element under broadcasting, and the rule's sum as an unordered sum over them

`copies src dst idx` lists the positions of the target shape `dst` that the element `idx` of a `src`-shaped operand is
copied to by right-aligned broadcasting. Over the reals the iterated sum `copiesSum` (what the rule computes, `BcastSum`)
is the plain sum of the upstream gradient over that list; the list has no duplicates and contains exactly the valid
positions `j` of `dst` whose projection `projBE src dst j` (drop the extra leading coordinates, set expanded coordinates
to 0) is `idx`.
-/

namespace Qeep

/-- all big-endian indices of `dims`, row-major -/
def allIdx : List Nat → List (List Nat)
  | [] => [[]]
  | d :: ds => (List.range d).flatMap (fun c => (allIdx ds).map (c :: ·))

/-- positions of the aligned part that `idx` is copied to -/
def expIdx : (src dst idx : List Nat) → List (List Nat)
  | s :: src, d :: dst, i :: idx =>
      if s ≠ d then (List.range d).flatMap (fun c => (expIdx src dst idx).map (c :: ·))
      else (expIdx src dst idx).map (i :: ·)
  | _, _, _ => [[]]

def copies (src dst idx : List Nat) : List (List Nat) :=
  (allIdx (dst.take (dst.length - src.length))).flatMap
    (fun r => (expIdx src (dst.drop (dst.length - src.length)) idx).map (r ++ ·))

def projBE (src dst j : List Nat) : List Nat :=
  projLE src (dst.drop (dst.length - src.length)) (j.drop (dst.length - src.length))

theorem mem_allIdx : ∀ (ds : List Nat) (r : List Nat), r ∈ allIdx ds ↔ Valid ds r
  | [], r => by
    simp only [allIdx, List.mem_singleton]
    constructor
    · rintro rfl; exact .nil
    · intro h; cases h; rfl
  | d :: ds, r => by
    simp only [allIdx, List.mem_flatMap, List.mem_range, List.mem_map]
    constructor
    · rintro ⟨c, hc, q, hq, rfl⟩
      exact .cons hc ((mem_allIdx ds q).mp hq)
    · intro h
      cases h with
      | cons hc hv => exact ⟨_, hc, _, (mem_allIdx ds _).mpr hv, rfl⟩

theorem mem_expIdx : ∀ {src dst : List Nat}, Compat src dst → ∀ (idx q : List Nat), Valid src idx →
    (q ∈ expIdx src dst idx ↔ Valid dst q ∧ projLE src dst q = idx)
  | _, _, .nil, idx, q, hv => by
    cases hv
    simp only [expIdx, List.mem_singleton]
    constructor
    · rintro rfl; exact ⟨.nil, rfl⟩
    · rintro ⟨h, _⟩; cases h; rfl
  | _, _, .cons (s := s) (d := d) (src := src) (dst := dst) hsd hc, _, q, .cons (s := i) (ss := idx) hi hv => by
    have ih := mem_expIdx hc idx
    by_cases hne : s ≠ d
    · have hs1 : s = 1 := by rcases hsd with h | h; exact absurd h hne; exact h
      have hi0 : i = 0 := by omega
      simp only [expIdx, hne, ne_eq, not_false_eq_true, if_true, List.mem_flatMap, List.mem_range, List.mem_map]
      constructor
      · rintro ⟨c, hc', q', hq', rfl⟩
        obtain ⟨h1, h2⟩ := (ih q' hv).mp hq'
        refine ⟨.cons hc' h1, ?_⟩
        have : ¬ s = d := hne
        simp [projLE, this, h2, hi0]
      · rintro ⟨h1, h2⟩
        cases h1 with
        | cons hc' hv' =>
          rename_i c q'
          have : ¬ s = d := hne
          simp only [projLE, this, if_false, List.cons.injEq] at h2
          exact ⟨c, hc', q', (ih q' hv).mpr ⟨hv', h2.2⟩, rfl⟩
    · have hse : s = d := by simpa using hne
      simp only [expIdx, hse, ne_eq, not_true_eq_false, if_false, List.mem_map]
      constructor
      · rintro ⟨q', hq', rfl⟩
        obtain ⟨h1, h2⟩ := (ih q' hv).mp hq'
        exact ⟨.cons (hse ▸ hi) h1, by simp [projLE, h2]⟩
      · rintro ⟨h1, h2⟩
        cases h1 with
        | cons hc' hv' =>
          rename_i c q'
          simp only [projLE, if_true, List.cons.injEq] at h2
          exact ⟨q', (ih q' hv).mpr ⟨hv', h2.2⟩, by rw [h2.1]⟩

theorem mem_copies {src dst : List Nat} (hv : validBroadcast src dst = true) (idx : List Nat) (hi : Valid src idx)
    (j : List Nat) : j ∈ copies src dst idx ↔ Valid dst j ∧ projBE src dst j = idx := by
  obtain ⟨hle, hc⟩ := compat_of_valid hv
  have hsplit : dst = dst.take (dst.length - src.length) ++ dst.drop (dst.length - src.length) :=
    (List.take_append_drop _ _).symm
  have hlt : (dst.take (dst.length - src.length)).length = dst.length - src.length := by
    rw [List.length_take]; omega
  unfold copies projBE
  simp only [List.mem_flatMap, List.mem_map]
  constructor
  · rintro ⟨r, hr, q, hq, rfl⟩
    have hr' := (mem_allIdx _ r).mp hr
    obtain ⟨h1, h2⟩ := (mem_expIdx hc idx q hi).mp hq
    refine ⟨by rw [hsplit]; exact valid_app hr' h1, ?_⟩
    have : (r ++ q).drop (dst.length - src.length) = q := by
      rw [← hlt, ← hr'.length_eq]; exact List.drop_left
    rw [this]; exact h2
  · rintro ⟨h1, h2⟩
    have hjl : j.length = dst.length := h1.length_eq
    have hj : j = j.take (dst.length - src.length) ++ j.drop (dst.length - src.length) :=
      (List.take_append_drop _ _).symm
    rw [hsplit, hj] at h1
    obtain ⟨v1, v2⟩ := valid_split (by rw [List.length_take, hlt]; omega) h1
    exact ⟨_, (mem_allIdx _ _).mpr v1, _, (mem_expIdx hc idx _ hi).mpr ⟨v2, h2⟩, hj.symm⟩

theorem nodup_flatMap_cons {β : Type} (n : Nat) (l : List (List β)) (hl : l.Nodup) (f : Nat → β) (hf : ∀ a b, f a = f b → a = b) :
    ((List.range n).flatMap (fun c => l.map (f c :: ·))).Nodup := by
  rw [List.nodup_flatMap]
  constructor
  · intro c _
    exact hl.map (fun a b h => by injection h)
  · apply List.Pairwise.imp_of_mem (R := fun a b => a ≠ b)
    · intro a b _ _ hab x hx1 hx2
      simp only [List.mem_map] at hx1 hx2
      obtain ⟨q1, _, rfl⟩ := hx1
      obtain ⟨q2, _, h⟩ := hx2
      injection h with h1 _
      exact hab (hf _ _ h1).symm
    · exact List.nodup_range

theorem allIdx_nodup : ∀ ds : List Nat, (allIdx ds).Nodup
  | [] => by simp [allIdx]
  | d :: ds => nodup_flatMap_cons d _ (allIdx_nodup ds) id (fun _ _ h => h)

theorem expIdx_nodup : ∀ (src dst idx : List Nat), (expIdx src dst idx).Nodup
  | s :: src, d :: dst, i :: idx => by
    simp only [expIdx]
    split
    · exact nodup_flatMap_cons d _ (expIdx_nodup src dst idx) id (fun _ _ h => h)
    · exact (expIdx_nodup src dst idx).map (fun a b h => by injection h)
  | [], _, _ => by simp [expIdx]
  | _ :: _, [], _ => by simp [expIdx]
  | _ :: _, _ :: _, [] => by simp [expIdx]

theorem copies_nodup (src dst idx : List Nat) : (copies src dst idx).Nodup := by
  unfold copies
  rw [List.nodup_flatMap]
  constructor
  · intro r _
    exact (expIdx_nodup _ _ _).map (fun a b h => List.append_cancel_left h)
  · apply List.Pairwise.imp_of_mem (R := fun a b => a ≠ b)
    · intro a b ha hb hab x hx1 hx2
      simp only [List.mem_map] at hx1 hx2
      obtain ⟨q1, _, rfl⟩ := hx1
      obtain ⟨q2, _, h⟩ := hx2
      have la := ((mem_allIdx _ a).mp ha).length_eq
      have lb := ((mem_allIdx _ b).mp hb).length_eq
      exact hab (List.append_inj_left h (by rw [la, lb])).symm
    · exact allIdx_nodup _

theorem sumOver_real (n : Nat) (f : Nat → ℝ) : sumOver n f = ((List.range n).map f).sum := by
  unfold sumOver
  have gen : ∀ (l : List ℝ) (a : ℝ), l.foldl Scalar.add a = a + l.sum := by
    intro l
    induction l with
    | nil => intro a; simp
    | cons x l ih => intro a; simp only [List.foldl_cons, List.sum_cons, ih]; show (a + x) + l.sum = _; ring
  rw [gen]
  rw [RealScalar.zero_eq]; ring

theorem sum_flatMap' {β γ : Type} (L : List β) (g : β → List γ) (f : γ → ℝ) :
    ((L.flatMap g).map f).sum = (L.map (fun u => ((g u).map f).sum)).sum := by
  induction L with
  | nil => simp
  | cons u L ih => simp only [List.flatMap_cons, List.map_append, List.sum_append, List.map_cons, List.sum_cons, ih]

theorem leadSum_real : ∀ (pre : List Nat) (f : List Nat → ℝ), leadSum pre f = ((allIdx pre).map f).sum
  | [], f => by simp [leadSum, allIdx]
  | p :: ps, f => by
    simp only [leadSum, allIdx]
    rw [leadSum_real ps, sum_flatMap']
    simp only [sumOver_real, List.map_map]
    rw [sum_swap (allIdx ps) (List.range p) (fun r c => f (c :: r))]
    rfl

theorem expSum_real : ∀ (src dst idx : List Nat) (f : List Nat → ℝ), expSum src dst idx f = ((expIdx src dst idx).map f).sum
  | s :: src, d :: dst, i :: idx, f => by
    simp only [expSum, expIdx]
    split
    · rw [expSum_real src dst idx, sum_flatMap']
      simp only [sumOver_real, List.map_map]
      rw [sum_swap (expIdx src dst idx) (List.range d) (fun q c => f (c :: q))]
      rfl
    · rw [expSum_real src dst idx, List.map_map]; rfl
  | [], _, _, f => by simp [expSum, expIdx]
  | _ :: _, [], _, f => by simp [expSum, expIdx]
  | _ :: _, _ :: _, [], f => by simp [expSum, expIdx]

theorem copiesSum_real (src dst idx : List Nat) (gy : Tensor ℝ) :
    copiesSum src dst idx gy = ((copies src dst idx).map gy.el).sum := by
  unfold copiesSum copies
  rw [expSum_real, sum_flatMap']
  simp only [leadSum_real, List.map_map]
  rw [sum_swap (expIdx src (dst.drop (dst.length - src.length)) idx) (allIdx (dst.take (dst.length - src.length)))
    (fun q r => gy.el (r ++ q))]
  rfl

theorem projLE_snoc : ∀ (a b c : List Nat) (x y z : Nat), a.length = b.length → a.length = c.length →
    projLE (a ++ [x]) (b ++ [y]) (c ++ [z]) = projLE a b c ++ [if x = y then z else 0]
  | [], [], [], x, y, z, _, _ => by simp [projLE]
  | a0 :: a, b0 :: b, c0 :: c, x, y, z, h1, h2 => by
    simp only [List.cons_append, projLE]
    rw [projLE_snoc a b c x y z (by simpa using h1) (by simpa using h2)]
  | [], _ :: _, _, _, _, _, h, _ => by simp at h
  | _ :: _, [], _, _, _, _, h, _ => by simp at h
  | [], [], _ :: _, _, _, _, _, h => by simp at h
  | _ :: _, _ :: _, [], _, _, _, _, h => by simp at h

theorem projLE_reverse : ∀ (a b c : List Nat), a.length = b.length → a.length = c.length →
    projLE a.reverse b.reverse c.reverse = (projLE a b c).reverse
  | [], [], [], _, _ => by simp [projLE]
  | a0 :: a, b0 :: b, c0 :: c, h1, h2 => by
    have h1' : a.length = b.length := by simpa using h1
    have h2' : a.length = c.length := by simpa using h2
    simp only [List.reverse_cons, projLE]
    rw [projLE_snoc _ _ _ _ _ _ (by simpa using h1') (by simpa using h2'), projLE_reverse a b c h1' h2']
  | [], _ :: _, _, h, _ => by simp at h
  | _ :: _, [], _, h, _ => by simp at h
  | [], [], _ :: _, _, h => by simp at h
  | _ :: _, _ :: _, [], _, h => by simp at h

theorem projLE_prefix : ∀ (a b1 c1 b2 c2 : List Nat), a.length = b1.length → a.length = c1.length →
    projLE a (b1 ++ b2) (c1 ++ c2) = projLE a b1 c1
  | [], [], [], b2, c2, _, _ => by cases b2 <;> cases c2 <;> simp [projLE]
  | a0 :: a, b0 :: b, c0 :: c, b2, c2, h1, h2 => by
    simp only [List.cons_append, projLE]
    rw [projLE_prefix a b c b2 c2 (by simpa using h1) (by simpa using h2)]
  | [], _ :: _, _, _, _, h, _ => by simp at h
  | _ :: _, [], _, _, _, h, _ => by simp at h
  | [], [], _ :: _, _, _, _, h => by simp at h
  | _ :: _, _ :: _, [], _, _, _, h => by simp at h

theorem projLE_reverse_eq_projBE {src dst j : List Nat} (hle : src.length ≤ dst.length) (hjl : j.length = dst.length) :
    (projLE src.reverse dst.reverse j.reverse).reverse = projBE src dst j := by
  unfold projBE
  have hd : dst = dst.take (dst.length - src.length) ++ dst.drop (dst.length - src.length) :=
    (List.take_append_drop _ _).symm
  have hjs : j = j.take (dst.length - src.length) ++ j.drop (dst.length - src.length) :=
    (List.take_append_drop _ _).symm
  have l1 : src.reverse.length = (dst.drop (dst.length - src.length)).reverse.length := by
    simp only [List.length_reverse, List.length_drop]; omega
  have l2 : src.reverse.length = (j.drop (dst.length - src.length)).reverse.length := by
    simp only [List.length_reverse, List.length_drop]; omega
  conv => lhs; rw [hd, hjs]
  rw [List.reverse_append, List.reverse_append, projLE_prefix _ _ _ _ _ l1 l2,
    projLE_reverse _ _ _ (by simpa using l1) (by simpa using l2), List.reverse_reverse]

/-- the forward `Broadcast` fills position `j` of the target from element `projBE src dst j` of the operand: the copies
    are the positions filled from that element -/
theorem broadcast_el {α : Type} (x : Tensor α) (hwf : x.WF) (dst : List Nat) (hpos : ∀ h ∈ dst, 0 < h)
    (hv : validBroadcast x.dims dst = true) :
    ∃ y, x.broadcastRaw dst = some y ∧ y.dims = dst ∧ y.WF ∧
      ∀ j, Valid dst j → y.at? j = x.at? (projBE x.dims dst j) := by
  obtain ⟨data, e, wf, hget⟩ := C03.broadcast_get x hwf dst hpos hv
  refine ⟨_, e, rfl, wf, fun j hj => ?_⟩
  have := (hget j.reverse (valid_reverse hj)).1
  rwa [List.reverse_reverse, projLE_reverse_eq_projBE (compat_of_valid hv).1 hj.length_eq] at this

theorem vBroadcastN_el {α : Type} (x : Tensor α) (hwf : x.WF) (dst : List Nat) (hpos : ∀ h ∈ dst, 0 < h)
    (hv : validBroadcast x.dims dst = true) :
    ∃ y, vBroadcastN x dst = .ok y ∧ y.dims = dst ∧ y.WF ∧
      ∀ j, Valid dst j → y.at? j = x.at? (projBE x.dims dst j) := by
  obtain ⟨y, e, h⟩ := broadcast_el x hwf dst hpos hv
  refine ⟨y, ?_, h⟩
  unfold vBroadcastN vBroadcast
  rw [validInputDims_ofNat _ hpos, natDims_ofNat, hv, e]
  rfl

end Qeep
