import QeepProofs.AlongAt
import QeepProps.C09
/-!
# The Broadcast backward rule with `BMode.sum` is the sum over the copies

`bcastRule .sum src dst gy` is the body of the `Broadcast` gradFn with `SumAlong` as reducer. Its result has shape `src`,
and its element at `idx` is the iterated sum of `gy` over every position of `dst` that `idx` was copied to: the extra
leading dims and the expanded dims (`src = 1 ≠ dst`) run over their whole range, an unexpanded dim is fixed to `idx`'s
coordinate. The nesting order of the sums is the one the code performs (exact also for non-associative scalars).
Indices are in Go order (big-endian).
-/

namespace Qeep
variable {α : Type} [Scalar α]

/-- element at a multi-index (zero when out of range; only used at valid indices) -/
def Tensor.el (t : Tensor α) (u : List Nat) : α := (t.at? u).getD Scalar.zero

theorem el_of_at? {t : Tensor α} {u : List Nat} {v : α} (h : t.at? u = some v) : t.el u = v := by
  unfold Tensor.el; rw [h]; rfl

/-- `f 0 + f 1 + … + f (n-1)`, left fold from zero like `Tensor.sum` -/
def sumOver (n : Nat) (f : Nat → α) : α := ((List.range n).map f).foldl Scalar.add Scalar.zero

theorem sumOver_congr {n : Nat} {f f' : Nat → α} (h : ∀ i, i < n → f i = f' i) : sumOver n f = sumOver n f' := by
  unfold sumOver
  congr 1
  apply List.map_congr_left
  intro i hi
  exact h i (List.mem_range.mp hi)

theorem at?_some_el (t : Tensor α) (hwf : t.WF) {u : List Nat} (hu : Valid t.dims u) : t.at? u = some (t.el u) := by
  have := at?_valid t hwf hu
  unfold Tensor.el
  cases h : t.at? u with
  | none => rw [h] at this; simp at this
  | some v => rfl

theorem valid_split : ∀ {A a B b : List Nat}, a.length = A.length → Valid (A ++ B) (a ++ b) → Valid A a ∧ Valid B b
  | [], [], _, _, _, h => ⟨.nil, h⟩
  | x :: A, y :: a, B, b, hl, h => by
    cases h with
    | cons h0 h1 =>
      obtain ⟨h2, h3⟩ := valid_split (A := A) (a := a) (by simpa using hl) h1
      exact ⟨.cons h0 h2, h3⟩
  | [], _ :: _, _, _, hl, _ => by simp at hl
  | _ :: _, [], _, _, hl, _ => by simp at hl

theorem val_app : ∀ {A a : List Nat} (B b : List Nat), a.length = A.length →
    val (A ++ B) (a ++ b) = val A a + prod A * val B b
  | [], [], B, b, _ => by simp [val, prod]
  | x :: A, y :: a, B, b, h => by
    have h' : a.length = A.length := by simpa using h
    simp only [List.cons_append, val, prod, val_app B b h', Nat.mul_add, Nat.mul_assoc]
    omega
  | [], _ :: _, _, _, h => by simp at h
  | _ :: _, [], _, _, h => by simp at h

theorem sumAlong_el (t : Tensor α) (hwf : t.WF) (dim : Nat) (hdim : dim < t.dims.length) :
    ∃ r, vAlong .sum t (dim : Int) = .ok r ∧ r.WF ∧ r.dims = squeezeDims dim t.dims ∧
      ∀ u, Valid (squeezeDims dim t.dims) u → r.el u = sumOver (t.dims.getD dim 0) (fun i => t.el (insAt dim i u)) := by
  obtain ⟨r, h1, h2, h3, h4⟩ := reduceDim_at t hwf dim hdim (Reducer.fn .sum)
  have hvd : validDimLt (dim : Int) t.dims = true :=
    validDimLt_iff.2 ⟨Int.natCast_nonneg dim, by rw [Int.toNat_natCast]; exact hdim⟩
  refine ⟨r, ?_, ⟨by rw [h2]; exact h3, ?_⟩, h2, ?_⟩
  · simp [vAlong, vReduceDim, hvd, h1, Out.ofOpt]
  · rw [h2]
    intro d hd
    unfold squeezeDims at hd
    rcases List.mem_append.mp hd with h | h
    · exact hwf.2 d (List.mem_of_mem_take h)
    · exact hwf.2 d (List.mem_of_mem_drop h)
  · intro u hu
    obtain ⟨wd, fib, f1, f2, f3⟩ := h4 u hu
    have hfib : fib = (List.range (t.dims.getD dim 0)).map (fun i => t.el (insAt dim i u)) := by
      apply List.ext_getElem?
      intro i
      by_cases hi : i < t.dims.getD dim 0
      · obtain ⟨e1, e2⟩ := f2 i hi
        rw [List.getElem?_map, List.getElem?_range hi]
        simp only [Option.map_some]
        rw [e1] at e2 ⊢
        unfold Tensor.el
        cases h : t.at? (insAt dim i u) with
        | none => rw [h] at e2; simp at e2
        | some v => rfl
      · rw [List.getElem?_eq_none (by omega), List.getElem?_eq_none (by rw [List.length_map, List.length_range]; omega)]
    unfold Tensor.el
    rw [f3]
    simp only [Option.getD_some, Reducer.fn, Tensor.sum, Tensor.fold]
    rw [hfib]
    rfl

theorem unsqueeze_el (t : Tensor α) (hwf : t.WF) (P R : List Nat) (hd : t.dims = P ++ R) :
    ∃ r, vUnSqueeze t (P.length : Int) = .ok r ∧ r.WF ∧ r.dims = P ++ 1 :: R ∧
      ∀ p q, Valid P p → Valid R q → r.el (p ++ 0 :: q) = t.el (p ++ q) := by
  have hvu : validUnSqueeze (P.length : Int) t.dims = true := by
    simp only [validUnSqueeze, Bool.and_eq_true, decide_eq_true_eq, hd, List.length_append]; omega
  have hun : unsqueezeDims P.length t.dims = P ++ 1 :: R := by
    unfold unsqueezeDims; rw [hd]; simp
  have hok := (C09.vUnSqueeze_total t hwf (P.length : Int)).1 hvu
  simp only [Int.toNat_natCast] at hok
  rw [hun] at hok
  have hprod : prod (P ++ 1 :: R) = prod t.dims := by
    rw [hd, prod_append, prod_append]; simp [prod]
  refine ⟨_, hok, ⟨by simp only []; rw [hprod]; exact hwf.1, ?_⟩, rfl, ?_⟩
  · intro d hdm
    simp only [List.mem_append, List.mem_cons] at hdm
    rcases hdm with h | h | h
    · exact hwf.2 d (by rw [hd]; exact List.mem_append_left _ h)
    · omega
    · exact hwf.2 d (by rw [hd]; exact List.mem_append_right _ h)
  · intro p q hp hq
    have hv1 : Valid (P ++ 1 :: R) (p ++ 0 :: q) := valid_app hp (.cons (by omega) hq)
    have hv2 : Valid t.dims (p ++ q) := by rw [hd]; exact valid_app hp hq
    have r1 := Tensor.at?_reverse (⟨P ++ 1 :: R, t.data⟩ : Tensor α) (st := (p ++ 0 :: q).reverse)
      (by simpa using valid_reverse hv1)
    have r2 := Tensor.at?_reverse t (st := (p ++ q).reverse) (by simpa using valid_reverse hv2)
    rw [List.reverse_reverse] at r1 r2
    unfold Tensor.el
    rw [r1, r2]
    simp only [hd]
    have hlq : q.reverse.length = R.reverse.length := by simp [hq.length_eq]
    have hlp : p.reverse.length = P.reverse.length := by simp [hp.length_eq]
    have e1 : val (P ++ 1 :: R).reverse (p ++ 0 :: q).reverse
        = val R.reverse q.reverse + prod R.reverse * val P.reverse p.reverse := by
      have : (P ++ 1 :: R).reverse = R.reverse ++ (1 :: P.reverse) := by simp
      rw [this]
      have : (p ++ 0 :: q).reverse = q.reverse ++ (0 :: p.reverse) := by simp
      rw [this, val_app _ _ hlq]
      simp [val]
    have e2 : val (P ++ R).reverse (p ++ q).reverse
        = val R.reverse q.reverse + prod R.reverse * val P.reverse p.reverse := by
      rw [List.reverse_append, List.reverse_append, val_app _ _ hlq]
    rw [e1, e2]

/-- sum over the extra leading dims (innermost: the first dim, as the loop reduces dim 0 first) -/
def leadSum : List Nat → (List Nat → α) → α
  | [], f => f []
  | p :: ps, f => leadSum ps (fun r => sumOver p (fun c => f (c :: r)))

theorem leadSum_congr : ∀ (ps : List Nat) {f f' : List Nat → α}, (∀ r, Valid ps r → f r = f' r) → leadSum ps f = leadSum ps f'
  | [], f, f', h => h [] .nil
  | p :: ps, f, f', h => by
    simp only [leadSum]
    apply leadSum_congr ps
    intro r hr
    apply sumOver_congr
    intro c hc
    exact h (c :: r) (.cons hc hr)

def expSum : (src dst idx : List Nat) → (List Nat → α) → α
  | s :: src, d :: dst, i :: idx, f =>
      if s ≠ d then expSum src dst idx (fun q => sumOver d (fun c => f (c :: q)))
      else expSum src dst idx (fun q => f (i :: q))
  | _, _, _, f => f []

theorem expSum_congr : ∀ (src dst idx : List Nat) {f f' : List Nat → α}, src.length = dst.length → Valid src idx →
    (∀ q, Valid dst q → f q = f' q) → expSum src dst idx f = expSum src dst idx f'
  | [], [], _, f, f', _, hv, h => by
    cases hv; simpa [expSum] using h [] .nil
  | s :: src, d :: dst, _, f, f', hl, .cons (s := i) (ss := idx) hi hv, h => by
    have hl' : src.length = dst.length := by simpa using hl
    simp only [expSum]
    split
    · apply expSum_congr src dst idx hl' hv
      intro q hq
      apply sumOver_congr
      intro c hc
      exact h (c :: q) (.cons hc hq)
    · rename_i hsd
      have hsd' : s = d := by simpa using hsd
      apply expSum_congr src dst idx hl' hv
      intro q hq
      exact h (i :: q) (.cons (hsd' ▸ hi) hq)
  | [], _ :: _, _, _, _, hl, _, _ => by simp at hl
  | _ :: _, [], _, _, _, hl, _, _ => by simp at hl

def redSum : Tensor α → Int → Out (Tensor α) := fun t d => vAlong .sum t d

/-- first loop: the `pre.length` extra leading dims are summed away -/
theorem lead_spec : ∀ (pre rest : List Nat) (g : Tensor α), g.WF → g.dims = pre ++ rest →
    ∃ r, bcastLead redSum pre.length g = .ok r ∧ r.WF ∧ r.dims = rest ∧
      ∀ u, Valid rest u → r.el u = leadSum pre (fun q => g.el (q ++ u))
  | [], rest, g, hwf, hd => ⟨g, rfl, hwf, by simpa using hd, fun u _ => by simp [leadSum]⟩
  | p :: ps, rest, g, hwf, hd => by
    have hrank : 0 < g.dims.length := by rw [hd]; simp
    obtain ⟨r1, h1, w1, d1, e1⟩ := sumAlong_el g hwf 0 hrank
    have hsq : squeezeDims 0 g.dims = ps ++ rest := by rw [hd]; simp [squeezeDims]
    rw [hsq] at d1 e1
    obtain ⟨r, h2, w2, d2, e2⟩ := lead_spec ps rest r1 w1 d1
    have h1' : redSum g 0 = .ok r1 := h1
    refine ⟨r, ?_, w2, d2, ?_⟩
    · simp only [List.length_cons, bcastLead, bind, Out.bind, h1', h2]
    · intro u hu
      rw [e2 u hu]
      simp only [leadSum]
      apply leadSum_congr
      intro q hq
      rw [e1 (q ++ u) (valid_app hq hu)]
      have : g.dims.getD 0 0 = p := by rw [hd]; rfl
      rw [this]
      apply sumOver_congr
      intro c _
      simp [insAt]

inductive Compat : List Nat → List Nat → Prop
  | nil : Compat [] []
  | cons {s d src dst} : (s = d ∨ s = 1) → Compat src dst → Compat (s :: src) (d :: dst)

theorem Compat.length_eq : ∀ {src dst}, Compat src dst → src.length = dst.length
  | _, _, .nil => rfl
  | _, _, .cons _ h => by simp [h.length_eq]

/-- second loop: every expanded position is summed and re-inserted with size 1 -/
theorem expand_spec : ∀ {src dst : List Nat}, Compat src dst → ∀ (P : List Nat) (g : Tensor α), g.WF → g.dims = P ++ dst →
    ∃ r, bcastExpand redSum P.length src dst g = .ok r ∧ r.WF ∧ r.dims = P ++ src ∧
      ∀ p idx, Valid P p → Valid src idx → r.el (p ++ idx) = expSum src dst idx (fun q => g.el (p ++ q))
  | _, _, .nil, P, g, hwf, hd => by
    refine ⟨g, by simp [bcastExpand], hwf, hd, ?_⟩
    intro p idx _ hi
    cases hi
    simp [expSum]
  | _, _, .cons (s := s) (d := d) (src := src) (dst := dst) hsd hc, P, g, hwf, hd => by
    by_cases hne : s ≠ d
    ·
      have hs1 : s = 1 := by rcases hsd with h | h; exact absurd h hne; exact h
      have hrank : P.length < g.dims.length := by rw [hd]; simp
      obtain ⟨r1, h1, w1, d1, e1⟩ := sumAlong_el g hwf P.length hrank
      have hsq : squeezeDims P.length g.dims = P ++ dst := by
        rw [hd]; unfold squeezeDims; simp
      rw [hsq] at d1 e1
      obtain ⟨r2, h2, w2, d2, e2⟩ := unsqueeze_el r1 w1 P dst d1
      have hd2 : r2.dims = (P ++ [1]) ++ dst := by rw [d2]; simp
      obtain ⟨r, h3, w3, d3, e3⟩ := expand_spec hc (P ++ [1]) r2 w2 hd2
      have h1' : redSum g (P.length : Int) = .ok r1 := h1
      refine ⟨r, ?_, w3, ?_, ?_⟩
      · have hl : (P ++ [1]).length = P.length + 1 := by simp
        rw [hl] at h3
        simp only [bcastExpand, hne, ne_eq, not_false_eq_true, if_true, bind, Out.bind, h1', h2, h3]
      · rw [d3, hs1]; simp
      · intro p idx hp hi
        cases hi with
        | cons hi0 hi' =>
          rename_i i idx'
          have hi00 : i = 0 := by omega
          subst hi00
          have := e3 (p ++ [0]) idx' (valid_append hp (by omega)) hi'
          simp only [List.append_assoc, List.singleton_append] at this
          rw [this]
          simp only [expSum, hne, ne_eq, not_false_eq_true, if_true]
          apply expSum_congr src dst idx' hc.length_eq hi'
          intro q hq
          rw [e2 p q hp hq, e1 (p ++ q) (valid_app hp hq)]
          have hg : g.dims.getD P.length 0 = d := by rw [hd]; simp [List.getD]
          rw [hg]
          apply sumOver_congr
          intro c _
          unfold insAt
          rw [List.take_left' hp.length_eq, List.drop_left' hp.length_eq]
    · have hse : s = d := by simpa using hne
      subst hse
      have hd2 : g.dims = (P ++ [s]) ++ dst := by rw [hd]; simp
      obtain ⟨r, h3, w3, d3, e3⟩ := expand_spec hc (P ++ [s]) g hwf hd2
      refine ⟨r, ?_, w3, ?_, ?_⟩
      · have hl : (P ++ [s]).length = P.length + 1 := by simp
        rw [hl] at h3
        simp only [bcastExpand, ne_eq, not_true_eq_false, if_false, h3]
      · rw [d3]; simp
      · intro p idx hp hi
        cases hi with
        | cons hi0 hi' =>
          rename_i i idx'
          have := e3 (p ++ [i]) idx' (valid_append hp hi0) hi'
          simp only [List.append_assoc, List.singleton_append] at this
          rw [this]
          simp only [expSum, ne_eq, not_true_eq_false, if_false]

theorem Compat.append : ∀ {a b c d : List Nat}, Compat a b → Compat c d → Compat (a ++ c) (b ++ d)
  | _, _, _, _, .nil, h => h
  | _, _, _, _, .cons h0 h1, h => .cons h0 (Compat.append h1 h)

theorem Compat.reverse : ∀ {a b : List Nat}, Compat a b → Compat a.reverse b.reverse
  | _, _, .nil => .nil
  | _, _, .cons h0 h1 => by
    simp only [List.reverse_cons]
    exact Compat.append (Compat.reverse h1) (.cons h0 .nil)

theorem compatLE_of_valid : ∀ (sr dr : List Nat), validBroadcastLE sr dr = true →
    ∃ dr1 dr2, dr = dr1 ++ dr2 ∧ Compat sr dr1
  | [], dr, _ => ⟨[], dr, rfl, .nil⟩
  | _ :: _, [], h => by simp [validBroadcastLE] at h
  | s :: ss, d :: ds, h => by
    simp only [validBroadcastLE, Bool.and_eq_true, Bool.or_eq_true, beq_iff_eq] at h
    obtain ⟨dr1, dr2, e, hc⟩ := compatLE_of_valid ss ds h.2
    exact ⟨d :: dr1, dr2, by rw [e]; rfl, .cons h.1 hc⟩

theorem compat_of_valid {src dst : List Nat} (h : validBroadcast src dst = true) :
    src.length ≤ dst.length ∧ Compat src (dst.drop (dst.length - src.length)) := by
  unfold validBroadcast at h
  obtain ⟨dr1, dr2, e, hc⟩ := compatLE_of_valid _ _ h
  have hl := hc.length_eq
  have hdst : dst = dr2.reverse ++ dr1.reverse := by
    have := congrArg List.reverse e
    simpa using this
  have hlen : src.length = dr1.length := by simpa using hl
  have hc' := hc.reverse
  rw [List.reverse_reverse] at hc'
  constructor
  · rw [hdst]; simp; omega
  · have : dst.drop (dst.length - src.length) = dr1.reverse := by
      rw [hdst]
      have : (dr2.reverse ++ dr1.reverse).length - src.length = dr2.reverse.length := by simp; omega
      rw [this, List.drop_left]
    rw [this]; exact hc'

/-- the iterated sum of `gy` over every position of `dst` that the element `idx` of a `src`-shaped operand is copied to -/
def copiesSum (src dst idx : List Nat) (gy : Tensor α) : α :=
  expSum src (dst.drop (dst.length - src.length)) idx
    (fun q => leadSum (dst.take (dst.length - src.length)) (fun r => gy.el (r ++ q)))

/-- the `Broadcast` backward rule in `sum` mode is the sum over the copies, for every accepted shape pair -/
theorem bcastRule_sum_spec (src dst : List Nat) (gy : Tensor α) (hwf : gy.WF) (hd : gy.dims = dst)
    (hv : validBroadcast src dst = true) :
    ∃ g, bcastRule .sum src dst gy = .ok g ∧ g.WF ∧ g.dims = src ∧
      ∀ idx, Valid src idx → g.el idx = copiesSum src dst idx gy := by
  obtain ⟨hle, hc⟩ := compat_of_valid hv
  have hsplit : gy.dims = dst.take (dst.length - src.length) ++ dst.drop (dst.length - src.length) := by
    rw [List.take_append_drop]; exact hd
  obtain ⟨g0, h0, w0, d0, e0⟩ := lead_spec _ _ gy hwf hsplit
  have hl : (dst.take (dst.length - src.length)).length = dst.length - src.length := by
    rw [List.length_take]; omega
  rw [hl] at h0
  obtain ⟨g, h1, w1, d1, e1⟩ := expand_spec hc [] g0 w0 (by simpa using d0)
  refine ⟨g, ?_, w1, by simpa using d1, ?_⟩
  · unfold bcastRule
    simp only [bind, Out.bind]
    have hred : (fun (t : Tensor α) (d : Int) => vAlong (match BMode.sum with | .mean => Reducer.avg | .sum => Reducer.sum) t d)
        = redSum := rfl
    rw [hred, h0]
    simpa using h1
  · intro idx hi
    have := e1 [] idx .nil hi
    simp only [List.nil_append] at this
    rw [this]
    unfold copiesSum
    apply expSum_congr _ _ _ hc.length_eq hi
    intro q hq
    exact e0 q hq

end Qeep
