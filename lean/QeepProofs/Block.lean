import QeepProps.C01p
/-!
# Blocks of fresh tensors

A component (an activation, a loss, a layer) appends a block of tensors `k, k+1, …, k+N-1` to the heap. Their back edges
point at earlier tensors of the block or at the component's inputs `ins`, all older than `k`. What a walk does inside such
a block is a function of the block's edge table alone; this file states it once. To use it for a component:

1. Write the edge table as closed data. `xShape : Table`: position `i` is `none` for an untracked tensor, else the targets
   of the back edges of `k + i` in order (`.loc j`: the `j`-th tensor of the block, `.inp j`: the `j`-th input). Where every
   rule acts position by position on gradients of one shape `d` (`dz G Z φ ↦ dz G Z (φ·c)`), `xTable : DTable ι` gives per
   edge the target, the rule and the coefficient `c : ι → ℝ`; `Z : List ι` lists, in data order, the values the
   coefficients depend on (`X.data` for an activation on `X`, `t.data.zip p.data` for a loss). The side conditions
   `Table.scoped`, `Table.connected` are about the closed table: `rfl` / `decide`.
2. Realise it in the heap after the forward run: `Table.Holds` / `DTable.Holds` (a nested conjunction, one component per
   tensor; `RulesOK` is the rule fact of each edge) give `Shape.of` / `Diag.of`. `Fits` is `Shape` without the flags;
   `Cover` (`BlockCover.lean`) is the case of a table that gives every row.
3. Read off: `Fits.foot`, `Shape.foot` (where the edges of a block tensor point), `Shape.no_other` (who else points at a
   tensor), `Shape.visited` (what a walk from a root at or above `k` visits); `Diag.pull1/2/3` (the gradient of one tensor from
   those of its one, two or three consumers: `Open` says it can be delivered to, `Got` what a tensor received),
   `Diag.adj1/2/3` (the same step for the adjoint coefficient `adj`, reverse accumulation over the table), `Diag.grad` /
   `Diag.grad_inp` (all of it in one statement: what the walk leaves is the gradient of the block's top tensor times
   `adj`), `Diag.accepts` / `Diag.backprop_ok` (progress: every edge accepts gradients of shape `d`).
-/

set_option linter.unusedSectionVars false

namespace Qeep
namespace Block
open C01 C01x C01z C01w C01p

/-- target of a back edge of a block tensor: the `j`-th tensor of the block or the `j`-th input -/
inductive Tgt | loc (j : Nat) | inp (j : Nat)
deriving DecidableEq, Repr

/-- the tensor a target stands for in a block at `k` with inputs `ins`. An input position beyond `ins` reads as tensor 0:
    `Table.scoped` rules that out for the tables in use. -/
def Tgt.abs (k : Nat) (ins : List Nat) : Tgt → Nat
  | .loc j => k + j
  | .inp j => ins.getD j 0

def Tgt.below (nin i : Nat) : Tgt → Bool
  | .loc j => j < i
  | .inp j => j < nin

abbrev Table := List (Option (List Tgt))

/-- every edge of position `i` points at an earlier position or at one of the `nin` inputs -/
def Table.scoped (sh : Table) (nin : Nat) : Bool :=
  (List.range sh.length).all fun i => match sh[i]? with
    | some (some l) => l.all (Tgt.below nin i)
    | _ => true

def Table.consumers (sh : Table) (τ : Tgt) : List Nat :=
  (List.range sh.length).filter fun i => match sh[i]? with
    | some (some l) => l.contains τ
    | _ => false

/-- every tracked position but the last is consumed inside the block (the last one is the block's result: its consumers,
    if any, lie above the block) -/
def Table.connected (sh : Table) : Bool :=
  (List.range (sh.length - 1)).all fun j => match sh[j]? with
    | some (some _) => !(sh.consumers (.loc j)).isEmpty
    | _ => true

section shape
variable {α : Type} [Scalar α]

theorem Tgt.abs_inp (k : Nat) {ins : List Nat} {j : Nat} (hj : j < ins.length) : (Tgt.inp j).abs k ins = ins[j] := by
  simp [Tgt.abs, List.getD_eq_getElem?_getD, List.getElem?_eq_getElem hj]

/-- the rows of `sh` that are given list where the back edges of their tensors point: every back edge of `k + i` points
    at one of the targets `sh[i]` names. A row `none` claims nothing. Who points at whom does not depend on which
    tensors are tracked, so the questions answered by evaluating the table are answered for every pattern of flags. -/
structure Fits (H : Heap α) (k : Nat) (ins : List Nat) (sh : Table) : Prop where
  ins_lt : ∀ x ∈ ins, x < k
  inScope : sh.scoped ins.length = true
  targets : ∀ i (h : i < sh.length) l, sh[i] = some l →
    ∀ e ∈ (H.ctx (k + i)).edges, e.target ∈ l.map (Tgt.abs k ins)

namespace Fits
variable {H : Heap α} {k : Nat} {ins : List Nat} {sh : Table}

theorem below (F : Fits H k ins sh) {i : Nat} (h : i < sh.length) {l : List Tgt} (hl : sh[i] = some l) {τ : Tgt}
    (hτ : τ ∈ l) : τ.below ins.length i = true := by
  have := List.all_eq_true.mp F.inScope i (List.mem_range.mpr h)
  rw [List.getElem?_eq_getElem h, hl] at this
  exact List.all_eq_true.mp this τ hτ

theorem foot (F : Fits H k ins sh) {i : Nat} (h : i < sh.length) {l : List Tgt} (hl : sh[i] = some l) :
    ∀ e ∈ (H.ctx (k + i)).edges, (k ≤ e.target ∧ e.target < k + i) ∨ e.target ∈ ins := by
  intro e he
  obtain ⟨τ, hτ, hτe⟩ := List.mem_map.mp (F.targets i h l hl e he)
  have hb := F.below h hl hτ
  rw [← hτe]
  cases τ with
  | loc j => exact Or.inl ⟨Nat.le_add_right _ _, Nat.add_lt_add_left (of_decide_eq_true hb) _⟩
  | inp j =>
    have hj : j < ins.length := of_decide_eq_true hb
    rw [Tgt.abs_inp k hj]; exact Or.inr (List.getElem_mem hj)

theorem eq_loc (F : Fits H k ins sh) {i : Nat} {τ : Tgt} (hτ : τ.below ins.length i = true) {j : Nat}
    (h : τ.abs k ins = k + j) : τ = .loc j := by
  cases τ with
  | loc j' => rw [Nat.add_left_cancel h]
  | inp j' =>
    have hj : j' < ins.length := of_decide_eq_true hτ
    have := F.ins_lt _ (List.getElem_mem hj)
    rw [Tgt.abs_inp k hj] at h; omega

theorem eq_inp (F : Fits H k ins sh) {i : Nat} {τ : Tgt} (hτ : τ.below ins.length i = true) {j : Nat}
    (hj : j < ins.length) (hd : ∀ y ∈ ins.eraseIdx j, y ≠ ins[j]) (h : τ.abs k ins = ins[j]) : τ = .inp j := by
  cases τ with
  | loc j' => have := F.ins_lt _ (List.getElem_mem hj); simp only [Tgt.abs] at h; omega
  | inp j' =>
    have hb : j' < ins.length := of_decide_eq_true hτ
    rw [Tgt.abs_inp k hb] at h
    by_cases hjj : j' = j
    · rw [hjj]
    · exact absurd h (hd _ (List.mem_eraseIdx_iff_getElem.mpr ⟨j', hb, hjj, rfl⟩))

theorem abs_inj (F : Fits H k ins sh) (nd : ins.Nodup) {i i' : Nat} {τ τ' : Tgt} (hτ : τ.below ins.length i = true)
    (hτ' : τ'.below ins.length i' = true) (h : τ.abs k ins = τ'.abs k ins) : τ = τ' := by
  cases τ' with
  | loc j => exact F.eq_loc hτ h
  | inp j =>
    have hj : j < ins.length := of_decide_eq_true hτ'
    rw [Tgt.abs_inp k hj] at h
    refine F.eq_inp hτ hj (fun y hy heq => ?_) h
    obtain ⟨m, hm, hne, rfl⟩ := List.mem_eraseIdx_iff_getElem.mp hy
    exact hne ((List.Nodup.getElem_inj_iff nd).mp heq)

theorem no_other_of (F : Fits H k ins sh) (root : Nat) (τ : Tgt)
    (hrow : ∀ i (h : i < sh.length), k + i ∈ backwardOrder H root → ∃ l, sh[i] = some l)
    (hinj : ∀ i τ', τ'.below ins.length i = true → τ'.abs k ins = τ.abs k ins → τ' = τ)
    (hout : ∀ v ∈ backwardOrder H root, (v < k ∨ k + sh.length ≤ v) → ∀ e ∈ (H.ctx v).edges, e.target ≠ τ.abs k ins)
    {cs : List Nat} (hcs : sh.consumers τ = cs) :
    ∀ v ∈ backwardOrder H root, v ∉ cs.map (k + ·) → ∀ e ∈ (H.ctx v).edges, e.target ≠ τ.abs k ins := by
  intro v hv hnot e he heq
  by_cases hb : v < k ∨ k + sh.length ≤ v
  · exact hout v hv hb e he heq
  · obtain ⟨i, rfl⟩ : ∃ i, v = k + i := ⟨v - k, by omega⟩
    have hi : i < sh.length := by omega
    obtain ⟨l, hl⟩ := hrow i hi hv
    obtain ⟨τ', hτ', hτe⟩ := List.mem_map.mp (F.targets i hi l hl e he)
    have := hinj i τ' (F.below hi hl hτ') (hτe.trans heq)
    subst this
    apply hnot
    rw [← hcs]
    refine List.mem_map.mpr ⟨i, List.mem_filter.mpr ⟨List.mem_range.mpr hi, ?_⟩, rfl⟩
    rw [List.getElem?_eq_getElem hi, hl]
    simpa using hτ'

theorem no_other_loc (F : Fits H k ins sh) (root j : Nat)
    (hrow : ∀ i (h : i < sh.length), k + i ∈ backwardOrder H root → ∃ l, sh[i] = some l)
    (hout : ∀ v ∈ backwardOrder H root, (v < k ∨ k + sh.length ≤ v) → ∀ e ∈ (H.ctx v).edges, e.target ≠ k + j)
    {cs : List Nat} (hcs : sh.consumers (.loc j) = cs) :
    ∀ v ∈ backwardOrder H root, v ∉ cs.map (k + ·) → ∀ e ∈ (H.ctx v).edges, e.target ≠ k + j :=
  F.no_other_of root (.loc j) hrow (fun _ _ hτ' heq => F.eq_loc hτ' heq) hout hcs

theorem no_other_inp (F : Fits H k ins sh) (root j : Nat) (hj : j < ins.length) (hd : ∀ y ∈ ins.eraseIdx j, y ≠ ins[j])
    (hrow : ∀ i (h : i < sh.length), k + i ∈ backwardOrder H root → ∃ l, sh[i] = some l)
    (hout : ∀ v ∈ backwardOrder H root, (v < k ∨ k + sh.length ≤ v) → ∀ e ∈ (H.ctx v).edges, e.target ≠ ins[j])
    {cs : List Nat} (hcs : sh.consumers (.inp j) = cs) :
    ∀ v ∈ backwardOrder H root, v ∉ cs.map (k + ·) → ∀ e ∈ (H.ctx v).edges, e.target ≠ ins[j] := by
  rw [← Tgt.abs_inp k hj] at hout ⊢
  exact F.no_other_of root (.inp j) hrow
    (fun _ _ hτ' heq => F.eq_inp hτ' hj hd (heq.trans (Tgt.abs_inp k hj))) hout hcs

end Fits

structure Shape (H : Heap α) (k : Nat) (ins : List Nat) (sh : Table) : Prop where
  fits : Fits H k ins sh
  size : k + sh.length ≤ H.size
  ins_nd : ins.Nodup
  tracked : ∀ i (h : i < sh.length), H.tracked (k + i) = (sh[i]).isSome

namespace Shape
variable {H : Heap α} {k : Nat} {ins : List Nat} {sh : Table}

theorem ins_lt (B : Shape H k ins sh) : ∀ x ∈ ins, x < k := B.fits.ins_lt

theorem row (B : Shape H k ins sh) {i : Nat} (h : i < sh.length) (ht : H.tracked (k + i) = true) : ∃ l, sh[i] = some l :=
  Option.isSome_iff_exists.mp ((B.tracked i h).symm.trans ht)

theorem foot (B : Shape H k ins sh) (v : Nat) (hk : k ≤ v) (hv : v < k + sh.length) (ht : H.tracked v = true) :
    ∀ e ∈ (H.ctx v).edges, (k ≤ e.target ∧ e.target < v) ∨ e.target ∈ ins := by
  obtain ⟨i, rfl⟩ : ∃ i, v = k + i := ⟨v - k, by omega⟩
  have hi : i < sh.length := by omega
  obtain ⟨l, hl⟩ := B.row hi ht
  exact B.fits.foot hi hl

theorem no_other (B : Shape H k ins sh) (root : Nat) (htr : H.tracked root = true) {i0 : Nat} (τ : Tgt)
    (hτ : τ.below ins.length i0 = true)
    (hout : ∀ v ∈ backwardOrder H root, (v < k ∨ k + sh.length ≤ v) → ∀ e ∈ (H.ctx v).edges, e.target ≠ τ.abs k ins)
    (cs : List Nat) (hcs : sh.consumers τ = cs) :
    ∀ v ∈ backwardOrder H root, v ∉ cs.map (k + ·) → ∀ e ∈ (H.ctx v).edges, e.target ≠ τ.abs k ins :=
  B.fits.no_other_of root τ (fun _ h hv => B.row h (C01.mem_order_tracked hv))
    (fun _ _ hτ' heq => B.fits.abs_inj B.ins_nd hτ' hτ heq) hout hcs

theorem visited (B : Shape H k ins sh) (hdag : HeapDag H) (root : Nat) (htr : H.tracked root = true) (hk : k ≤ root)
    (hhead : ∀ u, k + sh.length ≤ u → u ≤ root → ∀ e ∈ (H.ctx u).edges, k ≤ e.target ∨ e.target ∈ ins) :
    ∀ v ∈ backwardOrder H root, k ≤ v ∨ ∃ x ∈ ins, H.tracked x = true ∧ v ≤ x := by
  intro v hv
  refine (order_subset H root (fun v => (H.tracked v = true ∧ v ≤ root) ∧
      (k ≤ v ∨ ∃ x ∈ ins, H.tracked x = true ∧ v ≤ x)) ⟨⟨htr, Nat.le_refl _⟩, Or.inl hk⟩ ?_ v hv).2
  intro u ⟨⟨hut, hur⟩, hu⟩ v hv
  have hvt : H.tracked v = true := by unfold succs at hv; exact (List.mem_filter.mp hv).2
  obtain ⟨_, e, he, rfl⟩ := mem_succs.mp hv
  have hlt := hdag u e he
  refine ⟨⟨hvt, by omega⟩, ?_⟩
  rcases hu with h1 | ⟨x, hx, hxt, hle⟩
  · by_cases h2 : u < k + sh.length
    · rcases B.foot u h1 h2 hut e he with h | h
      · exact Or.inl h.1
      · exact Or.inr ⟨_, h, hvt, Nat.le_refl _⟩
    · rcases hhead u (by omega) hur e he with h | h
      · exact Or.inl h
      · exact Or.inr ⟨_, h, hvt, Nat.le_refl _⟩
  · exact Or.inr ⟨x, hx, hxt, by omega⟩

end Shape

def Table.Holds (H : Heap α) (k : Nat) (ins : List Nat) : Nat → Table → Prop
  | _, [] => True
  | i, none :: sh => H.tracked (k + i) = false ∧ Table.Holds H k ins (i + 1) sh
  | i, some l :: sh =>
      (H.tracked (k + i) = true ∧ (H.ctx (k + i)).edges.map (·.target) = l.map (Tgt.abs k ins)) ∧
        Table.Holds H k ins (i + 1) sh

theorem Table.Holds.get {H : Heap α} {k : Nat} {ins : List Nat} : ∀ {sh : Table} {i0 : Nat}, Table.Holds H k ins i0 sh →
    ∀ i (h : i < sh.length), H.tracked (k + (i0 + i)) = (sh[i]).isSome ∧
      ∀ l, sh[i] = some l → (H.ctx (k + (i0 + i))).edges.map (·.target) = l.map (Tgt.abs k ins)
  | [], _, _, i, h => absurd h (Nat.not_lt_zero _)
  | none :: sh, i0, hh, 0, _ => ⟨hh.1, fun l hl => by cases hl⟩
  | some l :: sh, i0, hh, 0, _ => ⟨hh.1.1, fun l' hl => by cases hl; exact hh.1.2⟩
  | none :: sh, i0, hh, i + 1, h => by
      have := Table.Holds.get hh.2 i (Nat.lt_of_succ_lt_succ h)
      rwa [Nat.add_right_comm i0 1 i] at this
  | some l :: sh, i0, hh, i + 1, h => by
      have := Table.Holds.get hh.2 i (Nat.lt_of_succ_lt_succ h)
      rwa [Nat.add_right_comm i0 1 i] at this

theorem Shape.of {H : Heap α} {k : Nat} {ins : List Nat} {sh : Table} (size : k + sh.length ≤ H.size)
    (ins_lt : ∀ x ∈ ins, x < k) (ins_nd : ins.Nodup) (inScope : sh.scoped ins.length = true)
    (holds : Table.Holds H k ins 0 sh) : Shape H k ins sh where
  fits :=
    { ins_lt := ins_lt
      inScope := inScope
      targets := fun i h l hl e he => by
        have := (holds.get i h).2 l hl
        rw [Nat.zero_add] at this
        rw [← this]; exact List.mem_map.mpr ⟨e, he, rfl⟩ }
  size := size
  ins_nd := ins_nd
  tracked := fun i h => by have := (holds.get i h).1; rwa [Nat.zero_add] at this

end shape

section diag
variable {ι : Type}

/-- `G` scaled position by position by `φ z`, `z` running through `Z`: `Z` carries the values the coefficients depend on
    (for an element-wise component, the data of its input) -/
def dz (G : Tensor ℝ) (Z : List ι) (φ : ι → ℝ) : Tensor ℝ := ⟨G.dims, List.zipWith (fun g z => g * φ z) G.data Z⟩

theorem dz_shaped {d : List Nat} {G : Tensor ℝ} {Z : List ι} (hG : Shaped d G) (hZ : Z.length = prod d) (φ : ι → ℝ) :
    Shaped d (dz G Z φ) :=
  ⟨⟨by simp [dz, hG.1.1, hG.2, hZ], hG.1.2⟩, hG.2⟩

theorem dz_one {d : List Nat} {G : Tensor ℝ} {Z : List ι} (hG : Shaped d G) (hZ : Z.length = prod d) :
    dz G Z (fun _ => 1) = G := by
  have hl : G.data.length = Z.length := by rw [hG.1.1, hG.2, hZ]
  cases G with
  | mk dims data =>
    simp only [dz, Tensor.mk.injEq, true_and]
    apply List.ext_getElem
    · simp at hl ⊢; omega
    · intro i h1 h2; simp

theorem dz_map (d : List Nat) (Z : List ι) (g a : ι → ℝ) :
    dz ⟨d, Z.map g⟩ Z a = ⟨d, Z.map (fun z => g z * a z)⟩ := by
  simp only [dz, Tensor.mk.injEq, true_and]
  induction Z with
  | nil => rfl
  | cons z Z ih => simp [ih]

theorem dotp_dz_add (G t : Tensor ℝ) (Z : List ι) (φ ψ : ι → ℝ) :
    dotp (dz G Z (fun z => φ z + ψ z)) t = dotp (dz G Z φ) t + dotp (dz G Z ψ) t := by
  unfold dotp dz
  simp only []
  generalize G.data = A
  generalize t.data = X
  induction A generalizing Z X with
  | nil => simp
  | cons a A ih =>
    cases Z with
    | nil => simp
    | cons z Z =>
      cases X with
      | nil => simp
      | cons x X => simp only [List.zipWith_cons_cons, List.sum_cons, ih Z X]; ring

theorem dotp_dz_zero (G t : Tensor ℝ) (Z : List ι) : dotp (dz G Z (fun _ => 0)) t = 0 := by
  have := dotp_dz_add G t Z (fun _ => 0) (fun _ => 0)
  simp only [add_zero] at this
  linarith

theorem dotp_dz_sum {β : Type} (G t : Tensor ℝ) (Z : List ι) (l : List β) (f : β → ι → ℝ) :
    dotp (dz G Z (fun z => (l.map (fun b => f b z)).sum)) t = (l.map (fun b => dotp (dz G Z (f b)) t)).sum := by
  induction l with
  | nil => simpa using dotp_dz_zero G t Z
  | cons b l ih => simp only [List.map_cons, List.sum_cons]; rw [dotp_dz_add, ih]

/-- a back edge of a block tensor: target, rule, and the coefficient by which the rule scales each position -/
abbrev DEdge (ι : Type) := Tgt × Rule ℝ × (ι → ℝ)
abbrev DTable (ι : Type) := List (Option (List (DEdge ι)))

def DTable.shape (ns : DTable ι) : Table := ns.map (Option.map (List.map (·.1)))

/-- what the edges `l` of a tensor with adjoint `a` deliver to `τ` -/
def into (l : List (DEdge ι)) (τ : Tgt) (a : ι → ℝ) (z : ι) : ℝ :=
  (l.map (fun x => if x.1 = τ then a z * x.2.2 z else 0)).sum

def intoAll (ns : DTable ι) (τ : Tgt) (a : Nat → ι → ℝ) (z : ι) : ℝ :=
  ((List.range ns.length).map (fun i => match ns[i]? with
    | some (some l) => into l τ (a i) z
    | _ => 0)).sum

/-- reverse accumulation over the table: the adjoint of `τ` relative to the last tensor of the block
    (edges point to earlier positions, so `ns.length` rounds of unfolding settle every position of the block and one more
    an input: `adjF_stable`) -/
def adjF (ns : DTable ι) : Nat → Tgt → ι → ℝ
  | 0, _, _ => 0
  | f + 1, τ, z => if τ = .loc (ns.length - 1) then 1 else intoAll ns τ (fun i => adjF ns f (.loc i)) z

def adj (ns : DTable ι) : Tgt → ι → ℝ := adjF ns (ns.length + 1)

/-- the block at `k` realises the table `ns` in `H`: its shape, its edges with their rules, and each rule acting on `dz G Z φ`
    (`G` of shape `d`) by its coefficient. `root` enters only through the heap the rules are evaluated in: the one in which
    every tensor the walk from `root` visits is marked spent, as `backprop` does before it delivers. -/
structure Diag (bm : BMode) (H : Heap ℝ) (root k : Nat) (ins d : List Nat) (Z : List ι) (ns : DTable ι) : Prop where
  shape : Shape H k ins ns.shape
  len : Z.length = prod d
  edges : ∀ i (h : i < ns.length) l, ns[i] = some l →
    (H.ctx (k + i)).edges = l.map (fun x => (⟨x.1.abs k ins, x.2.1⟩ : Edge ℝ))
  rule : ∀ i (h : i < ns.length) l, ns[i] = some l → ∀ x ∈ l, ∀ G φ, Shaped d G →
    evalRule bm (markDirty H (backwardOrder H root)) (dz G Z φ) x.2.1 = .ok (dz G Z (fun z => φ z * x.2.2 z))

theorem shape_length (ns : DTable ι) : ns.shape.length = ns.length := List.length_map _

theorem shape_getElem (ns : DTable ι) {i : Nat} (h : i < ns.length) :
    (ns.shape)[i]'(by rw [shape_length]; exact h) = (ns[i]).map (List.map (·.1)) := by
  simp [DTable.shape]

theorem into_congr (l : List (DEdge ι)) (τ : Tgt) (a a' : ι → ℝ) (z : ι)
    (h : (∃ x ∈ l, x.1 = τ) → a z = a' z) : into l τ a z = into l τ a' z := by
  unfold into
  congr 1
  apply List.map_congr_left
  intro x hx
  by_cases hxt : x.1 = τ
  · rw [if_pos hxt, if_pos hxt, h ⟨x, hx, hxt⟩]
  · rw [if_neg hxt, if_neg hxt]

theorem into_eq_zero (l : List (DEdge ι)) (τ : Tgt) (a : ι → ℝ) (z : ι) (h : ∀ x ∈ l, x.1 ≠ τ) : into l τ a z = 0 := by
  unfold into
  apply List.sum_eq_zero
  intro r hr
  obtain ⟨x, hx, rfl⟩ := List.mem_map.mp hr
  rw [if_neg (h x hx)]

namespace Diag
variable {bm : BMode} {H : Heap ℝ} {root k : Nat} {ins d : List Nat} {Z : List ι} {ns : DTable ι}

theorem node_of_tracked (D : Diag bm H root k ins d Z ns) {i : Nat} (h : i < ns.length) (ht : H.tracked (k + i) = true) :
    ∃ l, ns[i] = some l := by
  have := D.shape.tracked i (by rw [shape_length]; exact h)
  rw [ht, shape_getElem ns h] at this
  cases hn : ns[i] with
  | none => rw [hn] at this; simp at this
  | some l => exact ⟨l, rfl⟩

theorem below (D : Diag bm H root k ins d Z ns) {i : Nat} (h : i < ns.length) {l : List (DEdge ι)} (hl : ns[i] = some l)
    {x : DEdge ι} (hx : x ∈ l) : x.1.below ins.length i = true :=
  D.shape.fits.below (by rw [shape_length]; exact h) (by rw [shape_getElem ns h, hl]; rfl)
    (List.mem_map.mpr ⟨x, hx, rfl⟩)

theorem adjF_stable (D : Diag bm H root k ins d Z ns) : ∀ (m j : Nat), j < ns.length → ns.length - j ≤ m →
    ∀ f f', m ≤ f → m ≤ f' → adjF ns f (.loc j) = adjF ns f' (.loc j) := by
  intro m
  induction m with
  | zero => intro j hj hm; omega
  | succ m ih =>
    intro j hj hm f f' hf hf'
    obtain ⟨g, rfl⟩ : ∃ g, f = g + 1 := ⟨f - 1, by omega⟩
    obtain ⟨g', rfl⟩ : ∃ g', f' = g' + 1 := ⟨f' - 1, by omega⟩
    funext z
    simp only [adjF]
    split
    · rfl
    · unfold intoAll
      congr 1
      apply List.map_congr_left
      intro i hi
      have hi' : i < ns.length := List.mem_range.mp hi
      rw [List.getElem?_eq_getElem hi']
      cases hn : ns[i] with
      | none => rfl
      | some l =>
        simp only []
        apply into_congr
        rintro ⟨x, hx, hxt⟩
        have := D.below hi' hn hx
        rw [hxt] at this
        simp [Tgt.below] at this
        rw [ih i hi' (by omega) g g' (by omega) (by omega)]

theorem adj_eq (D : Diag bm H root k ins d Z ns) (τ : Tgt) (hτ : τ ≠ .loc (ns.length - 1)) :
    adj ns τ = fun z => intoAll ns τ (fun i => adj ns (.loc i)) z := by
  funext z
  have : adj ns τ z = intoAll ns τ (fun i => adjF ns ns.length (.loc i)) z := by simp only [adj, adjF, if_neg hτ]
  rw [this]
  unfold intoAll
  congr 1
  apply List.map_congr_left
  intro i hi
  have hi' : i < ns.length := List.mem_range.mp hi
  rw [List.getElem?_eq_getElem hi']
  cases hn : ns[i] with
  | none => rfl
  | some l =>
    simp only []
    apply into_congr
    intro _
    show adjF ns ns.length (.loc i) z = adjF ns (ns.length + 1) (.loc i) z
    rw [D.adjF_stable ns.length i hi' (by omega) ns.length (ns.length + 1) (by omega) (by omega)]

theorem adj_top (ns : DTable ι) : adj ns (.loc (ns.length - 1)) = fun _ => 1 := by
  funext z; simp [adj, adjF]

theorem mem_consumers (ns : DTable ι) (τ : Tgt) {i : Nat} (hi : i ∈ ns.shape.consumers τ) :
    ∃ (_ : i < ns.length) (l : List (DEdge ι)), ns[i] = some l ∧ ∃ x ∈ l, x.1 = τ := by
  unfold Table.consumers at hi
  obtain ⟨h1, h2⟩ := List.mem_filter.mp hi
  have h : i < ns.length := by rw [← shape_length]; exact List.mem_range.mp h1
  have hs : i < ns.shape.length := by rw [shape_length]; exact h
  rw [List.getElem?_eq_getElem hs, shape_getElem ns h] at h2
  cases hn : ns[i] with
  | none => rw [hn] at h2; simp at h2
  | some l =>
    rw [hn] at h2
    simp only [Option.map_some, List.contains_eq_mem, List.mem_map, decide_eq_true_eq] at h2
    obtain ⟨x, hx, hxt⟩ := h2
    exact ⟨h, l, hn, x, hx, hxt⟩

theorem consumers_of (ns : DTable ι) (τ : Tgt) {i : Nat} (h : i < ns.length) {l : List (DEdge ι)} (hl : ns[i] = some l)
    {x : DEdge ι} (hx : x ∈ l) (hxt : x.1 = τ) : i ∈ ns.shape.consumers τ := by
  unfold Table.consumers
  have hs : i < ns.shape.length := by rw [shape_length]; exact h
  refine List.mem_filter.mpr ⟨List.mem_range.mpr hs, ?_⟩
  rw [List.getElem?_eq_getElem hs, shape_getElem ns h, hl]
  simp only [Option.map_some, List.contains_eq_mem, List.mem_map, decide_eq_true_eq]
  exact ⟨x, hx, hxt⟩

theorem edge_sum (D : Diag bm H root k ins d Z ns) {i : Nat} (h : i < ns.length) {l : List (DEdge ι)}
    (hl : ns[i] = some l) (τ : Tgt) {i0 : Nat} (hτ : τ.below ins.length i0 = true)
    (htn : H.tracked (τ.abs k ins) = true) (F : Nat → Option (Tensor ℝ)) {G : Tensor ℝ} (hG : Shaped d G) (a : ι → ℝ)
    (hF : F (k + i) = some (dz G Z a)) (t : Tensor ℝ) :
    ((edgesOf H (k + i)).map (fun e => edgeTerm dotp
        (fun r gy => evalRule bm (markDirty H (backwardOrder H root)) gy r) H.tracked F (τ.abs k ins) t (k + i) e)).sum
      = dotp (dz G Z (into l τ a)) t := by
  unfold edgesOf
  rw [D.edges i h l hl, List.map_map, List.map_map]
  have key : ∀ l' : List (DEdge ι), (∀ x ∈ l', x ∈ l) →
      (l'.map ((fun e => edgeTerm dotp (fun r gy => evalRule bm (markDirty H (backwardOrder H root)) gy r) H.tracked F
        (τ.abs k ins) t (k + i) e) ∘ (fun e : Edge ℝ => (e.target, e.rule)) ∘
        (fun x : DEdge ι => (⟨x.1.abs k ins, x.2.1⟩ : Edge ℝ)))).sum = dotp (dz G Z (into l' τ a)) t := by
    intro l'
    induction l' with
    | nil =>
      intro _
      have : into ([] : List (DEdge ι)) τ a = fun _ => 0 := by funext z; simp [into]
      rw [this, dotp_dz_zero]; rfl
    | cons x l' ih =>
      intro hsub
      have e1 : into (x :: l') τ a = fun z => (if x.1 = τ then a z * x.2.2 z else 0) + into l' τ a z := by
        funext z; simp [into]
      rw [e1, dotp_dz_add, List.map_cons, List.sum_cons, ih (fun y hy => hsub y (List.mem_cons_of_mem _ hy))]
      congr 1
      simp only [Function.comp, edgeTerm, hF]
      by_cases hx : x.1 = τ
      · rw [if_pos ⟨by rw [hx]; exact htn, by rw [hx]⟩, D.rule i h l hl x (hsub x (by simp)) G a hG]
        simp only [hx, if_true]
      · rw [if_neg]
        · simp only [hx, if_false]; exact (dotp_dz_zero G t Z).symm
        · intro hc
          exact hx (D.shape.fits.abs_inj D.shape.ins_nd (D.below h hl (hsub x (by simp))) hτ hc.2)
  exact key l (fun _ hx => hx)

/-- what the block delivers to one tensor: from the gradients `dz G Z (a i)` on the consumers of `τ`, the gradient on `τ` -/
theorem deliver (D : Diag bm H root k ins d Z ns) (hdag : HeapDag H) (htr : H.tracked root = true)
    (hok : (backprop bm H root).status = .ok ()) (τ : Tgt) {i0 : Nat} (hτ : τ.below ins.length i0 = true)
    (ht : H.tracked (τ.abs k ins) = true) (hg : H.grad (τ.abs k ins) = none) (hr : τ.abs k ins ≠ root)
    (hout : ∀ v ∈ backwardOrder H root, (v < k ∨ k + ns.length ≤ v) → ∀ e ∈ (H.ctx v).edges, e.target ≠ τ.abs k ins)
    (hne : (ns.shape.consumers τ).isEmpty = false) {G : Tensor ℝ} (hG : Shaped d G) (a : Nat → ι → ℝ)
    (hup : ∀ i ∈ ns.shape.consumers τ, k + i ∈ backwardOrder H root ∧
      (backprop bm H root).heap.grad (k + i) = some (dz G Z (a i))) :
    τ.abs k ins ∈ backwardOrder H root ∧
      (backprop bm H root).heap.grad (τ.abs k ins) = some (dz G Z (fun z => intoAll ns τ a z)) := by
  have hN := shape_length ns
  have hmem : τ.abs k ins ∈ backwardOrder H root := by
    obtain ⟨i, hi⟩ := List.exists_mem_of_ne_nil _ (by simpa using hne)
    obtain ⟨h, l, hl, x, hx, hxt⟩ := mem_consumers ns τ hi
    have he : (⟨x.1.abs k ins, x.2.1⟩ : Edge ℝ) ∈ (H.ctx (k + i)).edges := by
      rw [D.edges i h l hl]; exact List.mem_map.mpr ⟨x, hx, rfl⟩
    have := C01.order_closed hdag (hup i hi).1 he (by simpa [hxt] using ht)
    simpa [hxt] using this
  refine ⟨hmem, ?_⟩
  have hno := D.shape.no_other root htr τ hτ (by simpa [hN] using hout) _ rfl
  have hnd : ((ns.shape.consumers τ).map (k + ·)).Nodup := by
    apply List.Nodup.map (fun a b h => by simpa using h)
    exact List.Nodup.filter _ List.nodup_range
  refine grad_eq bm H root hdag htr hok _ hmem hr hg d ?_ _ (dz_shaped hG D.len _) ?_
  · intro u hu e he _ het gy g hgy hev
    by_cases hus : u ∈ (ns.shape.consumers τ).map (k + ·)
    · obtain ⟨i, hi, rfl⟩ := List.mem_map.mp hus
      obtain ⟨h, l, hl, _⟩ := mem_consumers ns τ hi
      rw [D.edges i h l hl] at he
      obtain ⟨x, hx, rfl⟩ := List.mem_map.mp he
      rw [(hup i hi).2] at hgy
      cases hgy
      rw [D.rule i h l hl x hx G (a i) hG] at hev
      cases hev
      exact dz_shaped hG D.len _
    · exact absurd het (hno u hu hus e he)
  · intro t
    rw [sum_members _ (backwardOrder H root) (backwardOrder_spec H root hdag htr).2.2.2 _ hnd
      (fun u hu => by obtain ⟨i, hi, rfl⟩ := List.mem_map.mp hu; exact (hup i hi).1)
      (fun u hu hus => edge_sum_none H _ _ _ u t (hno u hu hus))]
    unfold intoAll
    rw [dotp_dz_sum, sum_members _ (List.range ns.length) List.nodup_range (ns.shape.consumers τ)
      (List.Nodup.filter _ List.nodup_range)
      (fun i hi => List.mem_range.mpr (mem_consumers ns τ hi).1) ?_, List.map_map]
    · congr 1
      apply List.map_congr_left
      intro i hi
      obtain ⟨h, l, hl, _⟩ := mem_consumers ns τ hi
      simp only [Function.comp, List.getElem?_eq_getElem h, hl]
      exact D.edge_sum h hl τ hτ ht _ hG (a i) (hup i hi).2 t
    · intro i hi hnc
      have h : i < ns.length := List.mem_range.mp hi
      rw [List.getElem?_eq_getElem h]
      cases hl : ns[i] with
      | none => exact dotp_dz_zero G t Z
      | some l =>
        simp only []
        have : into l τ (a i) = fun _ => 0 := by
          funext z
          exact into_eq_zero l τ (a i) z (fun x hx hxt => hnc (consumers_of ns τ h hl hx hxt))
        rw [this]; exact dotp_dz_zero G t Z

theorem accepts (D : Diag bm H root k ins d Z ns) {i : Nat} (h : i < ns.length) {l : List (DEdge ι)} (hl : ns[i] = some l)
    {x : DEdge ι} (hx : x ∈ l) (gy : Tensor ℝ) (hgy : Shaped d gy) :
    ∃ g, evalRule bm (markDirty H (backwardOrder H root)) gy x.2.1 = .ok g ∧ Shaped d g := by
  have := D.rule i h l hl x hx gy (fun _ => 1) hgy
  rw [dz_one hgy D.len] at this
  exact ⟨_, this, dz_shaped hgy D.len _⟩

theorem edge_ok (D : Diag bm H root k ins d Z ns) {u : Nat} (hk : k ≤ u) (hu : u < k + ns.length)
    (ht : H.tracked u = true) {e : Edge ℝ} (he : e ∈ (H.ctx u).edges) (gy : Tensor ℝ) (hgy : Shaped d gy) :
    ∃ g, evalRule bm (markDirty H (backwardOrder H root)) gy e.rule = .ok g ∧ Shaped d g := by
  obtain ⟨i, rfl⟩ : ∃ i, u = k + i := ⟨u - k, by omega⟩
  have hi : i < ns.length := by omega
  obtain ⟨l, hl⟩ := D.node_of_tracked hi ht
  rw [D.edges i hi l hl] at he
  obtain ⟨x, hx, rfl⟩ := List.mem_map.mp he
  exact D.accepts hi hl hx gy hgy

/-- **progress through a block under a head**: the walk from a root above the block succeeds when the tensors above the
    block hand gradients of their own shapes (`dims`) downward and gradients of shape `d` into the block, and the part of
    the walk below the block keeps an invariant `P` that the inputs accept at shape `d` -/
theorem backprop_ok (D : Diag bm H root k ins d Z ns) (hdag : HeapDag H) (htr : H.tracked root = true)
    (hroot : k + ns.length ≤ root) (dims : Nat → List Nat)
    (hones : Shaped (dims root) (vPow (H.val root) Scalar.zero))
    (hfresh : ∀ n, k ≤ n → H.grad n = none)
    (hhead : ∀ u ∈ backwardOrder H root, k + ns.length ≤ u → ∀ e ∈ (H.ctx u).edges, H.tracked e.target = true →
      k ≤ e.target ∧ ∀ gy, Shaped (dims u) gy → ∃ g, evalRule bm (markDirty H (backwardOrder H root)) gy e.rule = .ok g ∧
        Shaped (if e.target < k + ns.length then d else dims e.target) g)
    (P : Nat → Tensor ℝ → Prop) (hPadd : ∀ n a b, P n a → P n b → ∃ s, vArith .add a b = .ok s ∧ P n s)
    (hPin : ∀ x ∈ ins, ∀ g, Shaped d g → P x g)
    (hPold : ∀ n ∈ backwardOrder H root, n < k → ∀ g, H.grad n = some g → P n g)
    (hPedge : ∀ u ∈ backwardOrder H root, u < k → ∀ e ∈ (H.ctx u).edges, H.tracked e.target = true → ∀ gy, P u gy →
      ∃ g, evalRule bm (markDirty H (backwardOrder H root)) gy e.rule = .ok g ∧ P e.target g) :
    (backprop bm H root).status = .ok () := by
  refine C01p.backprop_ok bm H root hdag htr
    (fun n g => if n < k then P n g else Shaped (if n < k + ns.length then d else dims n) g) ?_ ?_ ?_ ?_
  · intro n a b ha hb
    by_cases hn : n < k
    · simp only [hn, if_true] at ha hb ⊢; exact hPadd n a b ha hb
    · simp only [hn, if_false] at ha hb ⊢
      have h := vArith_same .add a b ha.1 hb.1 (by rw [ha.2, hb.2])
      exact ⟨_, h, (shaped_add _ a b _ ha hb h).1⟩
  · intro n hn g hg
    by_cases hnk : n < k
    · simp only [hnk, if_true]; exact hPold n hn hnk g hg
    · rw [hfresh n (by omega)] at hg; cases hg
  · have h1 : ¬ root < k := by omega
    have h2 : ¬ root < k + ns.length := by omega
    simp only [h1, h2, if_false]; exact hones
  · intro u hu e he het gy hgy
    have hlt := hdag u e he
    by_cases huk : u < k
    · have htk : e.target < k := by omega
      simp only [huk, htk, if_true] at hgy ⊢
      exact hPedge u hu huk e he het gy hgy
    · simp only [huk, if_false] at hgy
      by_cases hub : u < k + ns.length
      · simp only [hub, if_true] at hgy
        obtain ⟨g, hg, sg⟩ := D.edge_ok (by omega) hub (C01.mem_order_tracked hu) he gy hgy
        refine ⟨g, hg, ?_⟩
        rcases D.shape.foot u (by omega) (by rw [shape_length]; exact hub) (C01.mem_order_tracked hu) e he with h | h
        · have h3 : ¬ e.target < k := by omega
          have h4 : e.target < k + ns.length := by omega
          simp only [h3, h4, if_false, if_true]; exact sg
        · have h3 : e.target < k := D.shape.ins_lt _ h
          simp only [h3, if_true]; exact hPin _ h g sg
      · simp only [hub, if_false] at hgy
        obtain ⟨hk, hacc⟩ := hhead u hu (by omega) e he het
        obtain ⟨g, hg, sg⟩ := hacc gy hgy
        have h3 : ¬ e.target < k := by omega
        refine ⟨g, hg, ?_⟩
        simp only [h3, if_false]; exact sg

section walk
variable (D : Diag bm H root k ins d Z ns) (hdag : HeapDag H) (htr : H.tracked root = true)
  (hok : (backprop bm H root).status = .ok ()) {sh : Table} (hsh : ns.shape = sh) (hconn : sh.connected = true)
  (hfresh : ∀ i, i + 1 < ns.length → H.grad (k + i) = none ∧ k + i ≠ root)
  (hout : ∀ v ∈ backwardOrder H root, (v < k ∨ k + ns.length ≤ v) → ∀ e ∈ (H.ctx v).edges,
    ¬ (k ≤ e.target ∧ e.target + 1 < k + ns.length))
  {G : Tensor ℝ} (hG : Shaped d G) (htop : k + (ns.length - 1) ∈ backwardOrder H root)
  (hF : (backprop bm H root).heap.grad (k + (ns.length - 1)) = some G)
include D hdag htr hok hsh hconn hfresh hout hG htop hF

/-- **the gradients a walk leaves inside a block**: every tracked tensor of the block holds the gradient `G` of the block's
    last tensor times its adjoint coefficient -/
theorem grad : ∀ j, j < ns.length → H.tracked (k + j) = true →
    k + j ∈ backwardOrder H root ∧ (backprop bm H root).heap.grad (k + j) = some (dz G Z (adj ns (.loc j))) := by
  subst hsh
  have main : ∀ m j, ns.length - 1 - j ≤ m → j < ns.length → H.tracked (k + j) = true →
      k + j ∈ backwardOrder H root ∧ (backprop bm H root).heap.grad (k + j) = some (dz G Z (adj ns (.loc j))) := by
    intro m
    induction m using Nat.strong_induction_on with
    | _ m ih =>
      intro j hm hj ht
      by_cases hjt : j = ns.length - 1
      · subst hjt
        rw [adj_top, dz_one hG D.len]
        exact ⟨htop, hF⟩
      · obtain ⟨l, hl⟩ := D.node_of_tracked hj ht
        have hcons : ∀ i ∈ ns.shape.consumers (.loc j), j < i ∧ i < ns.length ∧ H.tracked (k + i) = true := by
          intro i hi
          obtain ⟨h, l', hl', x, hx, hxt⟩ := mem_consumers ns _ hi
          have hb := D.below h hl' hx
          rw [hxt] at hb
          refine ⟨by simpa [Tgt.below] using hb, h, ?_⟩
          rw [D.shape.tracked i (by rw [shape_length]; exact h), shape_getElem ns h, hl']; rfl
        have hne : (ns.shape.consumers (.loc j)).isEmpty = false := by
          have := List.all_eq_true.mp hconn j (List.mem_range.mpr (by rw [shape_length]; omega))
          rw [List.getElem?_eq_getElem (by rw [shape_length]; exact hj), shape_getElem ns hj, hl] at this
          simpa using this
        have := D.deliver hdag htr hok (.loc j) (i0 := ns.length) (by simpa [Tgt.below] using hj) ht
          (hfresh j (by omega)).1 (hfresh j (by omega)).2
          (fun v hv hb e he heq => hout v hv hb e he ⟨by simp [heq, Tgt.abs], by simp [heq, Tgt.abs]; omega⟩)
          hne hG (fun i => adj ns (.loc i))
          (fun i hi => by
            obtain ⟨h1, h2, h3⟩ := hcons i hi
            exact ih (ns.length - 1 - i) (by omega) i (Nat.le_refl _) h2 h3)
        rw [D.adj_eq (.loc j) (by simp; exact hjt)]
        exact this
  intro j hj ht
  exact main _ j (Nat.le_refl _) hj ht

theorem grad_inp (j : Nat) (hj : j < ins.length) (ht : H.tracked ((Tgt.inp j).abs k ins) = true)
    (hg : H.grad ((Tgt.inp j).abs k ins) = none) (hr : (Tgt.inp j).abs k ins ≠ root)
    (houtx : ∀ v ∈ backwardOrder H root, (v < k ∨ k + ns.length ≤ v) → ∀ e ∈ (H.ctx v).edges,
      e.target ≠ (Tgt.inp j).abs k ins)
    (hne : (sh.consumers (.inp j)).isEmpty = false) :
    (Tgt.inp j).abs k ins ∈ backwardOrder H root ∧
      (backprop bm H root).heap.grad ((Tgt.inp j).abs k ins) = some (dz G Z (adj ns (.inp j))) := by
  subst hsh
  rw [D.adj_eq (.inp j) (by simp)]
  refine D.deliver hdag htr hok (.inp j) (i0 := 0) (by simpa [Tgt.below] using hj) ht hg hr houtx hne hG
    (fun i => adj ns (.loc i)) (fun i hi => ?_)
  obtain ⟨h, l', hl', _⟩ := mem_consumers ns _ hi
  refine grad D hdag htr hok rfl hconn hfresh hout hG htop hF i h ?_
  rw [D.shape.tracked i (by rw [shape_length]; exact h), shape_getElem ns h, hl']; rfl

end walk

theorem into_of_filter (l : List (DEdge ι)) (τ : Tgt) (a : ι → ℝ) (z : ι) :
    into l τ a z = ((l.filter (fun x => decide (x.1 = τ))).map (fun x => a z * x.2.2 z)).sum := by
  unfold into
  induction l with
  | nil => rfl
  | cons x l ih =>
    by_cases h : x.1 = τ
    · simp [h, ih]
    · simp [h, ih]

theorem intoAll_of_consumers (ns : DTable ι) (τ : Tgt) (a : Nat → ι → ℝ) (z : ι) :
    intoAll ns τ a z = ((ns.shape.consumers τ).map (fun i => match ns[i]? with
      | some (some l) => into l τ (a i) z
      | _ => 0)).sum := by
  unfold intoAll
  refine sum_members _ (List.range ns.length) List.nodup_range _ (List.Nodup.filter _ List.nodup_range)
    (fun i hi => List.mem_range.mpr (mem_consumers ns τ hi).1) (fun i hi hnc => ?_)
  have h : i < ns.length := List.mem_range.mp hi
  rw [List.getElem?_eq_getElem h]
  cases hl : ns[i] with
  | none => rfl
  | some l => exact into_eq_zero l τ (a i) z (fun x hx hxt => hnc (consumers_of ns τ h hl hx hxt))

section pull
variable (D : Diag bm H root k ins d Z ns) (hdag : HeapDag H) (htr : H.tracked root = true)
  (hok : (backprop bm H root).status = .ok ()) {G : Tensor ℝ} (hG : Shaped d G)
include D hdag htr hok hG

/-! The same, one tensor at a time with the consumers named: the adjoint is then written down by the caller and only
the (closed) questions "who consumes `τ`" and "through which edge" are left to evaluation. -/

/-- `τ` can be delivered to in a block of `n` tensors: tracked, no gradient yet, not the root, and no visited tensor outside
    the block points at it -/
structure Open (H : Heap ℝ) (root k : Nat) (ins : List Nat) (n : Nat) (τ : Tgt) : Prop where
  below : τ.below ins.length n = true
  tracked : H.tracked (τ.abs k ins) = true
  fresh : H.grad (τ.abs k ins) = none
  ne_root : τ.abs k ins ≠ root
  out : ∀ v ∈ backwardOrder H root, (v < k ∨ k + n ≤ v) → ∀ e ∈ (H.ctx v).edges, e.target ≠ τ.abs k ins

/-- the walk from `root` visits tensor `n` and leaves the gradient `dz G Z a` on it -/
def Got (bm : BMode) (H : Heap ℝ) (root : Nat) (G : Tensor ℝ) (Z : List ι) (n : Nat) (a : ι → ℝ) : Prop :=
  n ∈ backwardOrder H root ∧ (backprop bm H root).heap.grad n = some (dz G Z a)

theorem pull1 {τ : Tgt} (o : Open H root k ins ns.length τ) {sh : Table} (hsh : ns.shape = sh) {i : Nat}
    (hcs : sh.consumers τ = [i])
    {l : List (DEdge ι)} (hl : ns[i]? = some (some l)) {r : Rule ℝ} {c : ι → ℝ}
    (he : l.filter (fun x => decide (x.1 = τ)) = [(τ, r, c)]) {a : ι → ℝ} (g : Got bm H root G Z (k + i) a) :
    Got bm H root G Z (τ.abs k ins) (fun z => a z * c z) := by
  subst hsh
  have := D.deliver hdag htr hok τ o.below o.tracked o.fresh o.ne_root o.out (by rw [hcs]; rfl) hG (fun _ => a)
    (fun j hj => by rw [hcs] at hj; simp at hj; subst hj; exact g)
  have e : (fun z => intoAll ns τ (fun _ => a) z) = fun z => a z * c z := by
    funext z
    rw [intoAll_of_consumers, hcs]
    simp only [List.map_cons, List.map_nil, hl, into_of_filter, he, List.sum_cons, List.sum_nil, add_zero]
  rw [e] at this
  exact this

theorem pull2 {τ : Tgt} (o : Open H root k ins ns.length τ) {sh : Table} (hsh : ns.shape = sh) {i j : Nat}
    (hcs : sh.consumers τ = [i, j])
    {l l' : List (DEdge ι)} (hl : ns[i]? = some (some l)) (hl' : ns[j]? = some (some l')) {r r' : Rule ℝ} {c c' : ι → ℝ}
    (he : l.filter (fun x => decide (x.1 = τ)) = [(τ, r, c)]) (he' : l'.filter (fun x => decide (x.1 = τ)) = [(τ, r', c')])
    {a a' : ι → ℝ} (g : Got bm H root G Z (k + i) a) (g' : Got bm H root G Z (k + j) a') :
    Got bm H root G Z (τ.abs k ins) (fun z => a z * c z + a' z * c' z) := by
  subst hsh
  have hij : i ≠ j := by
    have : (ns.shape.consumers τ).Nodup := List.Nodup.filter _ List.nodup_range
    rw [hcs] at this; simpa using this
  have := D.deliver hdag htr hok τ o.below o.tracked o.fresh o.ne_root o.out (by rw [hcs]; rfl) hG
    (fun m => if m = i then a else a')
    (fun m hm => by
      rw [hcs] at hm; simp at hm
      rcases hm with rfl | rfl
      · simpa [Got] using g
      · simpa [Got, Ne.symm hij] using g')
  have e : (fun z => intoAll ns τ (fun m => if m = i then a else a') z) = fun z => a z * c z + a' z * c' z := by
    funext z
    rw [intoAll_of_consumers, hcs]
    simp only [List.map_cons, List.map_nil, hl, hl', into_of_filter, he, he', List.sum_cons, List.sum_nil, add_zero,
      if_true, if_neg (Ne.symm hij)]
  rw [e] at this
  exact this

theorem pull3 {τ : Tgt} (o : Open H root k ins ns.length τ) {sh : Table} (hsh : ns.shape = sh) {i j m : Nat}
    (hcs : sh.consumers τ = [i, j, m])
    {l l' l'' : List (DEdge ι)} (hl : ns[i]? = some (some l)) (hl' : ns[j]? = some (some l'))
    (hl'' : ns[m]? = some (some l'')) {r r' r'' : Rule ℝ} {c c' c'' : ι → ℝ}
    (he : l.filter (fun x => decide (x.1 = τ)) = [(τ, r, c)]) (he' : l'.filter (fun x => decide (x.1 = τ)) = [(τ, r', c')])
    (he'' : l''.filter (fun x => decide (x.1 = τ)) = [(τ, r'', c'')])
    {a a' a'' : ι → ℝ} (g : Got bm H root G Z (k + i) a) (g' : Got bm H root G Z (k + j) a')
    (g'' : Got bm H root G Z (k + m) a'') :
    Got bm H root G Z (τ.abs k ins) (fun z => a z * c z + a' z * c' z + a'' z * c'' z) := by
  subst hsh
  have hnd : [i, j, m].Nodup := by
    have : (ns.shape.consumers τ).Nodup := List.Nodup.filter _ List.nodup_range
    rwa [hcs] at this
  simp only [List.nodup_cons, List.mem_cons, List.not_mem_nil, or_false, not_or, not_false_eq_true, List.nodup_nil,
    and_true] at hnd
  obtain ⟨⟨hij, him⟩, hjm⟩ := hnd
  have := D.deliver hdag htr hok τ o.below o.tracked o.fresh o.ne_root o.out (by rw [hcs]; rfl) hG
    (fun n => if n = i then a else if n = j then a' else a'')
    (fun n hn => by
      rw [hcs] at hn; simp at hn
      rcases hn with rfl | rfl | rfl
      · simpa [Got] using g
      · simpa [Got, Ne.symm hij] using g'
      · simpa [Got, Ne.symm him, Ne.symm hjm] using g'')
  have e : (fun z => intoAll ns τ (fun n => if n = i then a else if n = j then a' else a'') z)
      = fun z => a z * c z + a' z * c' z + a'' z * c'' z := by
    funext z
    rw [intoAll_of_consumers, hcs]
    simp only [List.map_cons, List.map_nil, hl, hl', hl'', into_of_filter, he, he', he'', List.sum_cons, List.sum_nil,
      add_zero, if_true, if_neg (Ne.symm hij), if_neg (Ne.symm him), if_neg (Ne.symm hjm), add_assoc]
  rw [e] at this
  exact this

end pull

/-! The same for `adj`: the adjoint coefficient of one position from those of its consumers, the consumers named. -/
section adjoint
variable {ι : Type} {bm : BMode} {H : Heap ℝ} {root k : Nat} {ins d : List Nat} {Z : List ι} {ns : DTable ι}
  (D : Diag bm H root k ins d Z ns) {sh : Table} (hsh : ns.shape = sh) {n : Nat} (hn : ns.length = n) {τ : Tgt}
  (hτ : τ ≠ .loc (n - 1))
include D hsh hn hτ

theorem adj1 {i : Nat} (hcs : sh.consumers τ = [i]) {l : List (DEdge ι)} (hl : ns[i]? = some (some l))
    {r : Rule ℝ} {c : ι → ℝ} (he : l.filter (fun x => decide (x.1 = τ)) = [(τ, r, c)]) {a : ι → ℝ}
    (g : adj ns (.loc i) = a) : adj ns τ = fun z => a z * c z := by
  subst hsh hn g
  rw [D.adj_eq τ hτ]
  funext z
  rw [intoAll_of_consumers, hcs]
  simp only [List.map_cons, List.map_nil, hl, into_of_filter, he, List.sum_cons, List.sum_nil, add_zero]

theorem adj1_two {i : Nat} (hcs : sh.consumers τ = [i]) {l : List (DEdge ι)} (hl : ns[i]? = some (some l))
    {r r' : Rule ℝ} {c c' : ι → ℝ} (he : l.filter (fun x => decide (x.1 = τ)) = [(τ, r, c), (τ, r', c')]) {a : ι → ℝ}
    (g : adj ns (.loc i) = a) : adj ns τ = fun z => a z * c z + a z * c' z := by
  subst hsh hn g
  rw [D.adj_eq τ hτ]
  funext z
  rw [intoAll_of_consumers, hcs]
  simp only [List.map_cons, List.map_nil, hl, into_of_filter, he, List.sum_cons, List.sum_nil, add_zero]

theorem adj2 {i j : Nat} (hcs : sh.consumers τ = [i, j]) {l l' : List (DEdge ι)} (hl : ns[i]? = some (some l))
    (hl' : ns[j]? = some (some l')) {r r' : Rule ℝ} {c c' : ι → ℝ}
    (he : l.filter (fun x => decide (x.1 = τ)) = [(τ, r, c)]) (he' : l'.filter (fun x => decide (x.1 = τ)) = [(τ, r', c')])
    {a a' : ι → ℝ} (g : adj ns (.loc i) = a) (g' : adj ns (.loc j) = a') :
    adj ns τ = fun z => a z * c z + a' z * c' z := by
  subst hsh hn g g'
  rw [D.adj_eq τ hτ]
  funext z
  rw [intoAll_of_consumers, hcs]
  simp only [List.map_cons, List.map_nil, hl, hl', into_of_filter, he, he', List.sum_cons, List.sum_nil, add_zero]

theorem adj3 {i j m : Nat} (hcs : sh.consumers τ = [i, j, m]) {l l' l'' : List (DEdge ι)}
    (hl : ns[i]? = some (some l)) (hl' : ns[j]? = some (some l')) (hl'' : ns[m]? = some (some l''))
    {r r' r'' : Rule ℝ} {c c' c'' : ι → ℝ} (he : l.filter (fun x => decide (x.1 = τ)) = [(τ, r, c)])
    (he' : l'.filter (fun x => decide (x.1 = τ)) = [(τ, r', c')])
    (he'' : l''.filter (fun x => decide (x.1 = τ)) = [(τ, r'', c'')]) {a a' a'' : ι → ℝ}
    (g : adj ns (.loc i) = a) (g' : adj ns (.loc j) = a') (g'' : adj ns (.loc m) = a'') :
    adj ns τ = fun z => a z * c z + a' z * c' z + a'' z * c'' z := by
  subst hsh hn g g' g''
  rw [D.adj_eq τ hτ]
  funext z
  rw [intoAll_of_consumers, hcs]
  simp only [List.map_cons, List.map_nil, hl, hl', hl'', into_of_filter, he, he', he'', List.sum_cons, List.sum_nil,
    add_zero, add_assoc]

end adjoint

end Diag

def RulesOK (bm : BMode) (H : Heap ℝ) (d : List Nat) (Z : List ι) : List (DEdge ι) → Prop
  | [] => True
  | x :: l => (∀ G φ, Shaped d G → evalRule bm H (dz G Z φ) x.2.1 = .ok (dz G Z (fun z => φ z * x.2.2 z))) ∧
      RulesOK bm H d Z l

theorem RulesOK.get {bm : BMode} {H : Heap ℝ} {d : List Nat} {Z : List ι} : ∀ {l : List (DEdge ι)}, RulesOK bm H d Z l →
    ∀ x ∈ l, ∀ G φ, Shaped d G → evalRule bm H (dz G Z φ) x.2.1 = .ok (dz G Z (fun z => φ z * x.2.2 z))
  | [], _, x, hx => by simp at hx
  | y :: l, h, x, hx => by
      rcases List.mem_cons.mp hx with rfl | hx
      · exact h.1
      · exact RulesOK.get h.2 x hx

theorem RulesOK.accepts {ι : Type} {bm : BMode} {H : Heap ℝ} {d : List Nat} {Z : List ι} {l : List (DEdge ι)}
    (R : RulesOK bm H d Z l) (hZ : Z.length = prod d) {k : Nat} {ins : List Nat} {e : Edge ℝ}
    (he : e ∈ l.map (fun y => (⟨y.1.abs k ins, y.2.1⟩ : Edge ℝ))) (gy : Tensor ℝ) (hgy : Shaped d gy) :
    ∃ g, evalRule bm H gy e.rule = .ok g ∧ Shaped d g := by
  obtain ⟨y, hy, rfl⟩ := List.mem_map.mp he
  have := R.get y hy gy (fun _ => 1) hgy
  rw [dz_one hgy hZ] at this
  exact ⟨_, this, dz_shaped hgy hZ _⟩

/-- `ns`, read from position `i` on, describes the tensors `k + i, …` of `H`; what the rules do to gradients of shape `d`
    is read in the heap `Hd` they are evaluated in -/
def DTable.Holds (bm : BMode) (H Hd : Heap ℝ) (k : Nat) (ins d : List Nat) (Z : List ι) : Nat → DTable ι → Prop
  | _, [] => True
  | i, none :: ns => H.tracked (k + i) = false ∧ DTable.Holds bm H Hd k ins d Z (i + 1) ns
  | i, some l :: ns =>
      (H.tracked (k + i) = true ∧ (H.ctx (k + i)).edges = l.map (fun x => (⟨x.1.abs k ins, x.2.1⟩ : Edge ℝ)) ∧
        RulesOK bm Hd d Z l) ∧ DTable.Holds bm H Hd k ins d Z (i + 1) ns

theorem DTable.Holds.get {bm : BMode} {H Hd : Heap ℝ} {k : Nat} {ins d : List Nat} {Z : List ι} :
    ∀ {ns : DTable ι} {i0 : Nat}, DTable.Holds bm H Hd k ins d Z i0 ns → ∀ i (h : i < ns.length) l, ns[i] = some l →
      (H.ctx (k + (i0 + i))).edges = l.map (fun x => (⟨x.1.abs k ins, x.2.1⟩ : Edge ℝ)) ∧ RulesOK bm Hd d Z l
  | [], _, _, i, h, _, _ => absurd h (Nat.not_lt_zero _)
  | none :: ns, i0, hh, 0, _, l, hl => by cases hl
  | some l :: ns, i0, hh, 0, _, l', hl => by cases hl; exact hh.1.2
  | none :: ns, i0, hh, i + 1, h, l, hl => by
      have := DTable.Holds.get hh.2 i (Nat.lt_of_succ_lt_succ h) l hl
      rwa [Nat.add_right_comm i0 1 i] at this
  | some _ :: ns, i0, hh, i + 1, h, l, hl => by
      have := DTable.Holds.get hh.2 i (Nat.lt_of_succ_lt_succ h) l hl
      rwa [Nat.add_right_comm i0 1 i] at this

theorem DTable.Holds.shape {bm : BMode} {H Hd : Heap ℝ} {k : Nat} {ins d : List Nat} {Z : List ι} :
    ∀ {ns : DTable ι} {i0 : Nat}, DTable.Holds bm H Hd k ins d Z i0 ns → Table.Holds H k ins i0 ns.shape
  | [], _, _ => trivial
  | none :: ns, _, hh => ⟨hh.1, DTable.Holds.shape hh.2⟩
  | some l :: ns, _, hh => ⟨⟨hh.1.1, by rw [hh.1.2.1, List.map_map, List.map_map]; rfl⟩, DTable.Holds.shape hh.2⟩

theorem holds_append {bm : BMode} {H Hd : Heap ℝ} {k : Nat} {ins d : List Nat} {Z : List ι} {ns' : DTable ι} :
    ∀ {ns : DTable ι} {i0 : Nat}, DTable.Holds bm H Hd k ins d Z i0 ns →
      DTable.Holds bm H Hd k ins d Z (i0 + ns.length) ns' → DTable.Holds bm H Hd k ins d Z i0 (ns ++ ns')
  | [], _, _, h' => h'
  | none :: ns, i0, h, h' =>
      ⟨h.1, holds_append h.2 (by rw [List.length_cons, Nat.add_comm ns.length, ← Nat.add_assoc] at h'; exact h')⟩
  | some l :: ns, i0, h, h' =>
      ⟨h.1, holds_append h.2 (by rw [List.length_cons, Nat.add_comm ns.length, ← Nat.add_assoc] at h'; exact h')⟩

theorem Diag.of {bm : BMode} {H : Heap ℝ} {root k : Nat} {ins d : List Nat} {Z : List ι} {ns : DTable ι}
    {sh : Table} (hsh : ns.shape = sh) (size : k + ns.length ≤ H.size) (ins_lt : ∀ x ∈ ins, x < k) (ins_nd : ins.Nodup)
    (inScope : sh.scoped ins.length = true) (len : Z.length = prod d)
    (holds : DTable.Holds bm H (markDirty H (backwardOrder H root)) k ins d Z 0 ns) : Diag bm H root k ins d Z ns where
  shape := Shape.of (by rw [shape_length]; exact size) ins_lt ins_nd (hsh ▸ inScope) holds.shape
  len := len
  edges := fun i h l hl => by have := (holds.get i h l hl).1; rwa [Nat.zero_add] at this
  rule := fun i h l hl x hx => (holds.get i h l hl).2.get x hx

end diag

end Block
end Qeep
