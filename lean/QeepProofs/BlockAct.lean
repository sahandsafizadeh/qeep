import QeepProofs.BlockRules
import QeepProps.C15x
import QeepProps.C08z
/-!
# Position-wise blocks over one input, walked from their own top tensor

An element-wise component applied to a tensor `x` (an activation, `x.Mul(x)`, `x.ElMax(x)`) appends a block whose index list
is the data of `X = H.val x` itself: `C15x.gz G X φ` is `dz G X.data φ`, so the rule facts stated with `gz` (`C15x.r_exp`, `C02.rule_tanh`)
are of the kind `Block.Diag` asks for. When `BackPropagate` is called on the block's last tensor the walk leaves the block only
through `x`, so everything about it follows from the table: the gradient stored on `x` is the adjoint coefficient of the
input position by position (`Diag.top_inp`), and on a leaf `x` the walk succeeds (`Diag.top_ok`). Use: `Diag.top_run` gives
both on a reachable heap from `Diag.of`, the value of the last tensor and `adj ns (.inp 0)` computed with `Diag.adj1/2/3`.
-/

namespace Qeep
namespace Block
open RealScalar C01 C01x C01z C01w C01p

section rules
variable (bm : BMode) (H : Heap ℝ) {X : Tensor ℝ} (wX : X.WF)
include wX

theorem dz_exp {n : Nat} {u : ℝ → ℝ} (hn : H.val n = X.map u) : ∀ G φ, Shaped X.dims G →
    evalRule bm H (dz G X.data φ) (.expX n) = .ok (dz G X.data (fun a => φ a * u a)) :=
  fun G φ hG => C15x.r_exp bm H G X φ u n wX hG.1 hG.2 hn

theorem dz_pow {n : Nat} {u : ℝ → ℝ} {c : ℝ} (hc : c ≠ 0) (hn : H.val n = X.map u) : ∀ G φ, Shaped X.dims G →
    evalRule bm H (dz G X.data φ) (.powX n c) = .ok (dz G X.data (fun a => φ a * (c * u a ^ (c - 1)))) :=
  dz_pow_ne bm H wX.1 wX.2 hn c hc

theorem dz_tanh {x : Nat} (hx : H.val x = X) : ∀ G φ, Shaped X.dims G →
    evalRule bm H (dz G X.data φ) (.tanhX x) = .ok (dz G X.data (fun a => φ a * Real.cosh a ^ (-2 : ℝ))) := by
  intro G φ hG
  show evalRule bm H (C15x.gz G X φ) _ = .ok (C15x.gz G X _)
  rw [C02.rule_tanh bm H _ x (C15x.gz_wf G X φ wX hG.1 hG.2) (hx ▸ wX) (by rw [hx]; exact hG.2), hx]
  exact congrArg Out.ok (C15x.gz_gz G X φ _)

end rules

section one_input
variable {α : Type} [Scalar α]

theorem Shape.below_input {H : Heap α} {k x : Nat} {sh : Table} (B : Shape H k [x] sh) (hdag : HeapDag H) (root : Nat)
    (htr : H.tracked root = true) (hk : k ≤ root) (hlt : root < k + sh.length) :
    ∀ v ∈ backwardOrder H root, (v < k ∨ k + sh.length ≤ v) → ∀ e ∈ (H.ctx v).edges, e.target < x := by
  intro v hv hb e he
  have hle := order_le_root H root hdag v hv
  have := hdag v e he
  rcases B.visited hdag root htr hk (fun u h1 h2 => by omega) v hv with h | ⟨y, hy, _, h⟩
  · omega
  · simp only [List.mem_singleton] at hy; subst hy; omega

namespace Shape
variable {H : Heap α} {k : Nat} {ins : List Nat} {sh : Table}

theorem no_other1 (B : Shape H k ins sh) (root : Nat) (htr : H.tracked root = true) {i0 : Nat} (τ : Tgt)
    (hτ : τ.below ins.length i0 = true)
    (hout : ∀ v ∈ backwardOrder H root, (v < k ∨ k + sh.length ≤ v) → ∀ e ∈ (H.ctx v).edges, e.target ≠ τ.abs k ins)
    {i : Nat} (hcs : sh.consumers τ = [i]) :
    ∀ v ∈ backwardOrder H root, v ≠ k + i → ∀ e ∈ (H.ctx v).edges, e.target ≠ τ.abs k ins :=
  fun v hv hne => B.no_other root htr τ hτ hout [i] hcs v hv (by simpa using hne)

theorem no_other2 (B : Shape H k ins sh) (root : Nat) (htr : H.tracked root = true) {i0 : Nat} (τ : Tgt)
    (hτ : τ.below ins.length i0 = true)
    (hout : ∀ v ∈ backwardOrder H root, (v < k ∨ k + sh.length ≤ v) → ∀ e ∈ (H.ctx v).edges, e.target ≠ τ.abs k ins)
    {i j : Nat} (hcs : sh.consumers τ = [i, j]) :
    ∀ v ∈ backwardOrder H root, v ≠ k + i → v ≠ k + j → ∀ e ∈ (H.ctx v).edges, e.target ≠ τ.abs k ins :=
  fun v hv hi hj => B.no_other root htr τ hτ hout [i, j] hcs v hv (by simpa using ⟨hi, hj⟩)

end Shape

end one_input

namespace Diag
variable {ι : Type} {bm : BMode} {H : Heap ℝ} {k x : Nat} {d : List Nat} {Z : List ι} {ns : DTable ι}

/-- **`BackPropagate` of a block's top tensor, the gradient of the input**: the all-ones seed times the adjoint
    coefficient of the input, whatever the input was computed from -/
theorem top_inp (D : Diag bm H (k + (ns.length - 1)) k [x] d Z ns) (hdag : HeapDag H) (hpos : 0 < ns.length)
    (htr : H.tracked (k + (ns.length - 1)) = true) (hok : (backprop bm H (k + (ns.length - 1))).status = .ok ())
    {sh : Table} (hsh : ns.shape = sh) (hconn : sh.connected = true) (hne : (sh.consumers (.inp 0)).isEmpty = false)
    (hfresh : ∀ n, k ≤ n → H.grad n = none) (tx : H.tracked x = true) (gx : H.grad x = none)
    (hval : Shaped d (H.val (k + (ns.length - 1)))) :
    (backprop bm H (k + (ns.length - 1))).heap.grad x
      = some (dz (vPow (H.val (k + (ns.length - 1))) Scalar.zero) Z (adj ns (.inp 0))) := by
  have hxk : x < k := D.shape.ins_lt x (List.mem_singleton.mpr rfl)
  have hlen := shape_length ns
  have hbelow := D.shape.below_input hdag _ htr (Nat.le_add_right _ _) (by omega)
  rw [hlen] at hbelow
  have hG : Shaped d (vPow (H.val (k + (ns.length - 1))) Scalar.zero) := by
    have := ones_shaped _ hval.1; rwa [hval.2] at this
  exact (D.grad_inp hdag htr hok hsh hconn (fun i hi => ⟨hfresh _ (Nat.le_add_right _ _), by omega⟩)
    (fun v hv hb e he hc => by have := hbelow v hv hb e he; omega) hG (backwardOrder_spec H _ hdag htr).1
    (grad_root bm H _ hdag htr hok (hfresh _ (Nat.le_add_right _ _)) hval.1) 0 (Nat.zero_lt_one) tx gx
    (by show x ≠ _; omega) (fun v hv hb e he => by have := hbelow v hv hb e he; show e.target ≠ x; omega) hne).2

theorem top_ok (D : Diag bm H (k + (ns.length - 1)) k [x] d Z ns) (hdag : HeapDag H) (hpos : 0 < ns.length)
    (htr : H.tracked (k + (ns.length - 1)) = true) (hfresh : ∀ n, k ≤ n → H.grad n = none) (gx : H.grad x = none)
    (hleaf : (H.ctx x).edges = []) (hval : Shaped d (H.val (k + (ns.length - 1)))) :
    (backprop bm H (k + (ns.length - 1))).status = .ok () := by
  have hlen := shape_length ns
  have hvis : ∀ v ∈ backwardOrder H (k + (ns.length - 1)),
      H.tracked v = true ∧ ((k ≤ v ∧ v < k + ns.length) ∨ v = x) := by
    refine order_subset H _ (fun v => H.tracked v = true ∧ ((k ≤ v ∧ v < k + ns.length) ∨ v = x))
      ⟨htr, Or.inl ⟨Nat.le_add_right _ _, by omega⟩⟩ ?_
    intro u ⟨hut, hu⟩ v hv
    obtain ⟨hvt, e, he, rfl⟩ := mem_succs.mp hv
    refine ⟨hvt, ?_⟩
    rcases hu with ⟨h1, h2⟩ | rfl
    · rcases D.shape.foot u h1 (by rw [hlen]; exact h2) hut e he with h | h
      · exact Or.inl ⟨h.1, by omega⟩
      · exact Or.inr (List.mem_singleton.mp h)
    · rw [hleaf] at he; cases he
  refine C01p.backprop_ok bm H _ hdag htr (fun _ g => Shaped d g) ?_ ?_ ?_ ?_
  · intro n a b ha hb
    have h := vArith_same .add a b ha.1 hb.1 (by rw [ha.2, hb.2])
    exact ⟨_, h, (shaped_add _ a b _ ha hb h).1⟩
  · intro n hn g hg
    rcases (hvis n hn).2 with h | rfl
    · rw [hfresh n h.1] at hg; cases hg
    · rw [gx] at hg; cases hg
  · have := ones_shaped _ hval.1; rwa [hval.2] at this
  · intro u hu e he _ gy hgy
    obtain ⟨hut, h | rfl⟩ := hvis u hu
    · exact D.edge_ok h.1 h.2 hut he gy hgy
    · rw [hleaf] at he; cases he

section run
open C15x C20

/-- **an element-wise activation, end to end, from its block**: `H'` is reachable, the block `ns` at base `k` sits over the
    tracked, unspent `x`, its last tensor is the result `X.map f`, and `c` is the adjoint coefficient of `x`. Then
    `BackPropagate` of the result succeeds when `x` is a leaf, and after any successful `BackPropagate` of the result
    `x.Gradient()` is `c` position by position -/
theorem top_run {bm : BMode} {H' : Heap ℝ} {k x : Nat} {X : Tensor ℝ} {ns : DTable ℝ}
    (D : Diag bm H' (k + (ns.length - 1)) k [x] X.dims X.data ns) (hR : Reach bm H') (lx : Live H' x)
    (hfresh : ∀ n, k ≤ n → H'.grad n = none) (hpos : 0 < ns.length) (htr : H'.tracked (k + (ns.length - 1)) = true)
    {sh : Table} (hsh : ns.shape = sh) (hconn : sh.connected = true) (hne : (sh.consumers (.inp 0)).isEmpty = false)
    (wX : X.WF) {f c : ℝ → ℝ}
    (vr : H'.val (k + (ns.length - 1)) = X.map f) (hadj : adj ns (.inp 0) = c) :
    ((H'.ctx x).edges = [] → (backprop bm H' (k + (ns.length - 1))).status = .ok ()) ∧
    ((backprop bm H' (k + (ns.length - 1))).status = .ok () →
      (backprop bm H' (k + (ns.length - 1))).heap.grad x = some ⟨X.dims, X.data.map c⟩) := by
  have gx : H'.grad x = none := reach_clean_nograd hR x lx.2.2
  have hval : Shaped X.dims (H'.val (k + (ns.length - 1))) := by rw [vr]; exact ⟨map_wf _ _ wX, rfl⟩
  refine ⟨fun hleaf => D.top_ok (reach_dag hR) hpos htr hfresh gx hleaf hval, fun hok => ?_⟩
  rw [D.top_inp (reach_dag hR) hpos htr hok hsh hconn hne hfresh lx.2.1 gx hval, vr, hadj]
  show some (dz (vPow (⟨X.dims, X.data.map f⟩ : Tensor ℝ) Scalar.zero) X.data c) = _
  rw [C13x.vPow_zero_map, dz_map]
  simp only [one_mul]

end run

end Diag

end Block
end Qeep
