import QeepProofs.Block
/-!
# Blocks described by a covering table

Who points at whom inside a block does not depend on which of its tensors are tracked: a tensor that is untracked or spent
has no back edges at all. `Cover H k ins sh` is `Block.Fits` for a table that gives every row: every back edge of tensor
`k + i` points at one of the relative targets `sh[i]` lists. The questions answered by evaluating the table (who else points
at a tensor, the footprint, what a walk can visit) then hold for every pattern of flags at once, which is what a component
with several inputs, any of them tracked or not, needs; no input has to be distinct from the others except the one asked
about. Use: prove `Cover` once from the component's graph, then `Cover.foot`, `Cover.no_other_loc` / `Cover.no_other_inp`
and `Cover.visited_leaves` leave only closed questions about `sh` (`decide`).
-/

set_option linter.unusedSectionVars false

namespace Qeep
namespace Block
open C01 C01x C01z C01w C01p

variable {α : Type} [Scalar α]

structure Cover (H : Heap α) (k : Nat) (ins : List Nat) (sh : List (List Tgt)) : Prop where
  ins_lt : ∀ x ∈ ins, x < k
  inScope : Table.scoped (sh.map some) ins.length = true
  targets : ∀ i (h : i < sh.length), ∀ e ∈ (H.ctx (k + i)).edges, e.target ∈ (sh[i]).map (Tgt.abs k ins)

namespace Cover
variable {H : Heap α} {k : Nat} {ins : List Nat} {sh : List (List Tgt)}

theorem fits (C : Cover H k ins sh) : Fits H k ins (sh.map some) where
  ins_lt := C.ins_lt
  inScope := C.inScope
  targets := fun i h l hl e he => by
    have h' : i < sh.length := by simpa using h
    obtain rfl : sh[i] = l := by simpa using hl
    exact C.targets i h' e he

theorem row (sh : List (List Tgt)) (root : Nat) :
    ∀ i (h : i < (sh.map some).length), k + i ∈ backwardOrder H root → ∃ l, (sh.map some)[i] = some l :=
  fun _ _ _ => ⟨_, List.getElem_map some⟩

theorem foot (C : Cover H k ins sh) {i : Nat} (h : i < sh.length) :
    ∀ e ∈ (H.ctx (k + i)).edges, (k ≤ e.target ∧ e.target < k + i) ∨ e.target ∈ ins :=
  C.fits.foot (l := sh[i]) (by simpa using h) (List.getElem_map some)

theorem no_other_loc (C : Cover H k ins sh) (root j : Nat)
    (hout : ∀ v ∈ backwardOrder H root, (v < k ∨ k + sh.length ≤ v) → ∀ e ∈ (H.ctx v).edges, e.target ≠ k + j)
    {cs : List Nat} (hcs : Table.consumers (sh.map some) (.loc j) = cs) :
    ∀ v ∈ backwardOrder H root, v ∉ cs.map (k + ·) → ∀ e ∈ (H.ctx v).edges, e.target ≠ k + j :=
  C.fits.no_other_loc root j (row sh root) (by rw [List.length_map]; exact hout) hcs

theorem no_other_inp (C : Cover H k ins sh) (root j : Nat) (hj : j < ins.length) (hd : ∀ y ∈ ins.eraseIdx j, y ≠ ins[j])
    (hout : ∀ v ∈ backwardOrder H root, (v < k ∨ k + sh.length ≤ v) → ∀ e ∈ (H.ctx v).edges, e.target ≠ ins[j])
    {cs : List Nat} (hcs : Table.consumers (sh.map some) (.inp j) = cs) :
    ∀ v ∈ backwardOrder H root, v ∉ cs.map (k + ·) → ∀ e ∈ (H.ctx v).edges, e.target ≠ ins[j] :=
  C.fits.no_other_inp root j hj hd (row sh root) (by rw [List.length_map]; exact hout) hcs

theorem dag {H0 : Heap α} (C : Cover H H0.size ins sh) (hdag : HeapDag H0) (hext : Extends H0 H)
    (hsz : H.size = H0.size + sh.length) : HeapDag H := by
  intro v e he
  by_cases hv : v < H0.size
  · rw [hext.ctx hv] at he; exact hdag v e he
  · by_cases hv9 : v < H.size
    · obtain ⟨i, rfl⟩ : ∃ i, v = H0.size + i := ⟨v - H0.size, by omega⟩
      rcases C.foot (by omega) e he with h | h
      · exact h.2
      · have := C.ins_lt _ h; omega
    · have : H[v]? = none := Array.getElem?_eq_none (by omega)
      simp [Heap.ctx, this] at he

theorem visited_leaves (C : Cover H k ins sh) (root : Nat) (hk : k ≤ root) (hr : root < k + sh.length)
    (htr : H.tracked root = true) (hleaf : ∀ x ∈ ins, H.tracked x = true → (H.ctx x).edges = []) :
    ∀ v ∈ backwardOrder H root, H.tracked v = true ∧ ((k ≤ v ∧ v < k + sh.length) ∨ v ∈ ins) := by
  refine order_subset H root _ ⟨htr, Or.inl ⟨hk, hr⟩⟩ ?_
  intro u ⟨hut, hu⟩ v hv
  have hvt : H.tracked v = true := by unfold succs at hv; exact (List.mem_filter.mp hv).2
  obtain ⟨_, e, he, rfl⟩ := mem_succs.mp hv
  refine ⟨hvt, ?_⟩
  rcases hu with ⟨h1, h2⟩ | h
  · obtain ⟨i, rfl⟩ : ∃ i, u = k + i := ⟨u - k, by omega⟩
    rcases C.foot (by omega) e he with h | h
    · exact Or.inl ⟨h.1, by omega⟩
    · exact Or.inr h
  · rw [hleaf u h hut] at he; simp at he

end Cover
end Block
end Qeep
