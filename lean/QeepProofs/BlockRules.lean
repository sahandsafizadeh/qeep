import QeepProofs.Block
import QeepProps.C13x
/-!
# Backward rules on position-wise scaled gradients

The rules of the element-wise operations, in the form `Block.Diag` asks for: on a gradient `dz G Z φ` (any `G` of shape `d`,
scaled along the index list `Z`) the rule returns `dz G Z (φ · c)` with `c` read off the values the rule looks at. Each is
the rule's own statement (`C13x.r_*`, or `C02.rule_pow` for a non-zero exponent) over the index list `G.data.zip Z`
(`dz_of_map`). Use: each `dz_*` is the component of
`Block.RulesOK` (inside `DTable.Holds`) for an edge of a `DTable` that carries that rule and that coefficient.
-/

namespace Qeep
namespace Block
open RealScalar C01w C13x
open C12x (wf_map)

variable {ι : Type} (bm : BMode) (H : Heap ℝ) {d : List Nat} {Z : List ι}

theorem dz_eq_map {G : Tensor ℝ} (hG : Shaped d G) (φ : ι → ℝ) :
    dz G Z φ = ⟨d, (G.data.zip Z).map (fun p => p.1 * φ p.2)⟩ := by
  simp only [dz, hG.2, List.map_zip_eq_zipWith]
  rfl

/-- a rule that scales `⟨d, Y.map g⟩` by `c` for every index list `Y` lying over `Z` scales `dz G Z φ` by `c` -/
theorem dz_of_map (hZ : Z.length = prod d) {r : Rule ℝ} {c : ι → ℝ}
    (h : ∀ Y : List (ℝ × ι), Y.length = prod d → Y.map Prod.snd = Z → ∀ g : ℝ × ι → ℝ,
      evalRule bm H ⟨d, Y.map g⟩ r = .ok ⟨d, Y.map (fun y => g y * c y.2)⟩) :
    ∀ G φ, Shaped d G → evalRule bm H (dz G Z φ) r = .ok (dz G Z (fun z => φ z * c z)) := by
  intro G φ hG
  have hl : G.data.length = Z.length := by rw [hG.1.1, hG.2, hZ]
  rw [dz_eq_map hG, dz_eq_map hG,
    h (G.data.zip Z) (by simp [hl, hZ]) (List.map_snd_zip (by omega))]
  simp only [mul_assoc]

/-- a value given over `Z` is the same value over any index list lying over `Z` -/
theorem val_over {Y : List (ℝ × ι)} (hY : Y.map Prod.snd = Z) {x : Nat} {f : ι → ℝ} (hx : H.val x = ⟨d, Z.map f⟩) :
    H.val x = ⟨d, Y.map (fun y => f y.2)⟩ := by
  rw [hx, ← hY, List.map_map]; rfl

section
variable (hZ : Z.length = prod d) (hd : ∀ x ∈ d, 0 < x)
include hZ

theorem dz_id : ∀ G φ, Shaped d G → evalRule bm H (dz G Z φ) .idG = .ok (dz G Z (fun z => φ z * (fun _ => 1) z)) :=
  dz_of_map bm H hZ (fun _ _ _ g => by rw [r_id]; simp only [mul_one])

theorem dz_neg : ∀ G φ, Shaped d G → evalRule bm H (dz G Z φ) .negG = .ok (dz G Z (fun z => φ z * (fun _ => -1) z)) :=
  dz_of_map bm H hZ (fun _ _ _ g => by rw [r_neg]; simp only [mul_comm])

theorem dz_scale (a : ℝ) :
    ∀ G φ, Shaped d G → evalRule bm H (dz G Z φ) (.scaleX a) = .ok (dz G Z (fun z => φ z * (fun _ => a) z)) :=
  dz_of_map bm H hZ (fun _ _ _ g => by rw [r_scale]; simp only [mul_comm])

theorem dz_bcast {x y : Nat} (h : (H.val x).dims = (H.val y).dims) :
    ∀ G φ, Shaped d G → evalRule bm H (dz G Z φ) (.bcastX x y) = .ok (dz G Z (fun z => φ z * (fun _ => 1) z)) :=
  dz_of_map bm H hZ (fun _ _ _ g => by rw [r_bcast bm H _ h]; simp only [mul_one])

theorem dz_pow0' {x : Nat} {f : ι → ℝ} (hx : H.val x = ⟨d, Z.map f⟩) :
    ∀ G φ, Shaped d G →
      evalRule bm H (dz G Z φ) (.powX x Scalar.zero) = .ok (dz G Z (fun z => φ z * (fun _ => 0) z)) :=
  dz_of_map bm H hZ (fun Y _ hY g => by
    rw [r_pow0 bm H (⟨d, Y.map g⟩ : Tensor ℝ) (val_over H hY hx)]; simp only [mul_zero])

theorem dz_pow0 {x : Nat} {f : ι → ℝ} (hx : H.val x = ⟨d, Z.map f⟩) :
    ∀ G φ, Shaped d G → evalRule bm H (dz G Z φ) (.powX x 0) = .ok (dz G Z (fun z => φ z * (fun _ => 0) z)) := by
  have := dz_pow0' bm H hZ hx
  rwa [zero_eq] at this

include hd

theorem dz_mul {o : Nat} {f : ι → ℝ} (ho : H.val o = ⟨d, Z.map f⟩) :
    ∀ G φ, Shaped d G → evalRule bm H (dz G Z φ) (.mulG o) = .ok (dz G Z (fun z => φ z * f z)) :=
  dz_of_map bm H hZ (fun _ hYl hY g => r_mul bm H hYl hd (val_over H hY ho) g)

theorem dz_log {x : Nat} {f : ι → ℝ} (hx : H.val x = ⟨d, Z.map f⟩) :
    ∀ G φ, Shaped d G → evalRule bm H (dz G Z φ) (.logX x) = .ok (dz G Z (fun z => φ z * (fun z => 1 / f z) z)) :=
  dz_of_map bm H hZ (fun _ hYl hY g => r_log bm H hYl hd (val_over H hY hx) g)

theorem dz_pow_ne {x : Nat} {f : ι → ℝ} (hx : H.val x = ⟨d, Z.map f⟩) (a : ℝ) (ha : a ≠ 0) :
    ∀ G φ, Shaped d G → evalRule bm H (dz G Z φ) (.powX x a) = .ok (dz G Z (fun z => φ z * (a * f z ^ (a - 1)))) :=
  dz_of_map bm H hZ (fun Y hYl hY g => by
    rw [C02.rule_pow bm H _ x (wf_map hYl hd g) (by rw [val_over H hY hx]; exact wf_map hYl hd _)
      (by rw [val_over H hY hx]) a, val_over H hY hx]
    simp only [C14.zipWith_maps, if_neg ha])

/-- the coefficient of the tie-aware ElMax / ElMin rule towards operand `a` of result `y` (other operand `b`) -/
noncomputable def tie (fy fa fb : ι → ℝ) (z : ι) : ℝ :=
  (if Scalar.near (fy z) (fa z) then 1 else 0) - (1 / 2) * (if Scalar.near (fa z) (fb z) then 1 else 0)

theorem dz_elext {y a b : Nat} {fy fa fb : ι → ℝ} (hy : H.val y = ⟨d, Z.map fy⟩) (ha : H.val a = ⟨d, Z.map fa⟩)
    (hb : H.val b = ⟨d, Z.map fb⟩) :
    ∀ G φ, Shaped d G → evalRule bm H (dz G Z φ) (.elext y a b) = .ok (dz G Z (fun z => φ z * tie fy fa fb z)) :=
  dz_of_map bm H hZ (fun _ hYl hY g =>
    r_elext bm H hYl hd (val_over H hY hy) (val_over H hY ha) (val_over H hY hb) g)

end

end Block
end Qeep
