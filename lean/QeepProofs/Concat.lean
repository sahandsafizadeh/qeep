import QeepProofs.Patch
/-!
# `initConcatResultTensor`: the recursive concatenation (`fillCat`)
-/

namespace Qeep
variable {α : Type}

/-- which operand holds position `j` along the concatenation dimension, and where inside it -/
def locate : List Nat → Nat → Option (Nat × Nat)
  | [], _ => none
  | l :: ls, j => if j < l then some (0, j) else (locate ls (j - l)).map (fun p => (p.1 + 1, p.2))

/-- operand and operand-local index of a result index -/
def route : Nat → List Nat → List Nat → Option (Nat × List Nat)
  | 0, lens, j :: is => (locate lens j).map (fun p => (p.1, p.2 :: is))
  | k + 1, lens, i :: is => (route k lens is).map (fun p => (p.1, i :: p.2))
  | _, _, [] => none

/-- result dims: `ds` with the total length inserted at depth `k` -/
def rdimsOf : Nat → List Nat → Nat → List Nat
  | 0, tl, tot => tot :: tl
  | k + 1, d :: ds, tot => d :: rdimsOf k ds tot
  | _ + 1, [], _ => []

def SeedsOK : Nat → List Nat → List (List Nat × List α) → Prop
  | 0, tl, seeds => ∀ s ∈ seeds, ∃ l, s.1 = l :: tl ∧ s.2.length = l * prod tl
  | k + 1, d :: ds, seeds =>
      (∀ s ∈ seeds, ∃ sds, s.1 = d :: sds ∧ s.2.length = d * prod sds) ∧
      ∀ i, i < d → SeedsOK k ds (seeds.map (fun s => (s.1.tail, chunk s.2 (prod s.1.tail) i)))
  | _ + 1, [], _ => False

def lensAt : Nat → List (List Nat × List α) → List Nat
  | k, seeds => seeds.map (fun s => s.1.getD k 0)

theorem chunk_append_left (a b : List α) (sz j l : Nat) (ha : a.length = l * sz) (hj : j < l) :
    chunk (a ++ b) sz j = chunk a sz j := by
  unfold chunk
  have h1 : (j + 1) * sz ≤ l * sz := Nat.mul_le_mul_right _ hj
  rw [Nat.add_mul] at h1
  rw [List.drop_append_of_le_length (by omega)]
  rw [List.take_append_of_le_length (by simp [List.length_drop]; omega)]

theorem chunk_append_right (a b : List α) (sz j l : Nat) (ha : a.length = l * sz) (hj : l ≤ j) :
    chunk (a ++ b) sz j = chunk b sz (j - l) := by
  unfold chunk
  have : j * sz = a.length + (j - l) * sz := by
    rw [ha, ← Nat.add_mul]; congr 1; omega
  rw [this, List.drop_length_add_append]

theorem locate_cons (l : Nat) (ls : List Nat) (j : Nat) :
    locate (l :: ls) j = if j < l then some (0, j) else (locate ls (j - l)).map (fun p => (p.1 + 1, p.2)) := rfl

/-- depth 0: the rows of the result are the operands' rows, laid end to end -/
theorem concat0_at (tl : List Nat) (seeds : List (List Nat × List α))
    (hok : ∀ s ∈ seeds, ∃ l, s.1 = l :: tl ∧ s.2.length = l * prod tl)
    (j : Nat) (is : List Nat) (hj : j < (seeds.map (fun s => s.1.getD 0 0)).sum) (hl : is.length = tl.length) :
    ∃ s j', locate (seeds.map (fun s => s.1.getD 0 0)) j = some (s, j') ∧ s < seeds.length ∧
      (⟨(seeds.map (fun s => s.1.getD 0 0)).sum :: tl, (seeds.map (·.2)).flatten⟩ : Tensor α).at? (j :: is)
        = (⟨(seeds[s]!).1, (seeds[s]!).2⟩ : Tensor α).at? (j' :: is) := by
  induction seeds generalizing j with
  | nil => simp at hj
  | cons sd seeds ih =>
    obtain ⟨sdims, sdata⟩ := sd
    obtain ⟨l, e1, e2⟩ := hok _ List.mem_cons_self
    dsimp only at e1 e2
    subst e1
    have hsum : (((l :: tl, sdata) :: seeds).map (fun s => s.1.getD 0 0)).sum
        = l + (seeds.map (fun s => s.1.getD 0 0)).sum := rfl
    rw [hsum] at hj ⊢
    rw [at?_cons _ tl _ j is hj hl]
    simp only [List.map_cons, List.flatten_cons, locate_cons, List.getD_cons_zero]
    by_cases hlt : j < l
    · refine ⟨0, j, if_pos hlt, Nat.succ_pos _, ?_⟩
      rw [chunk_append_left _ _ _ j l e2 hlt]
      exact (at?_cons l tl sdata j is hlt hl).symm
    · have hge : l ≤ j := Nat.le_of_not_lt hlt
      have hj' := Nat.sub_lt_left_of_lt_add hge hj
      obtain ⟨s, j', h1, h2, h3⟩ := ih (fun x hx => hok x (List.mem_cons_of_mem _ hx)) (j - l) hj'
      refine ⟨s + 1, j', by rw [if_neg hlt, h1]; rfl, Nat.succ_lt_succ h2, ?_⟩
      rw [chunk_append_right _ _ _ j l e2 hge]
      rw [at?_cons _ tl _ (j - l) is hj' hl] at h3
      rw [h3]; rfl

end Qeep

namespace Qeep
variable {α : Type}

theorem getD_succ_tail (l : List Nat) (k : Nat) : l.getD (k + 1) 0 = l.tail.getD k 0 := by
  cases l <;> simp

theorem flatten0_length (tl : List Nat) : ∀ (seeds : List (List Nat × List α)),
    (∀ s ∈ seeds, ∃ l, s.1 = l :: tl ∧ s.2.length = l * prod tl) →
    (seeds.map (·.2)).flatten.length = (seeds.map (fun s => s.1.getD 0 0)).sum * prod tl
  | [], _ => by simp
  | sd :: seeds, hok => by
    obtain ⟨l, e1, e2⟩ := hok sd (by simp)
    have ih := flatten0_length tl seeds (fun x hx => hok x (List.mem_cons_of_mem _ hx))
    have hl0 : sd.1.getD 0 0 = l := by rw [e1]; rfl
    simp only [List.map_cons, List.flatten_cons, List.length_append, List.sum_cons, ih, e2, hl0, Nat.add_mul]

theorem getElem!_mem {β : Type} [Inhabited β] {l : List β} {s : Nat} (h : s < l.length) : l[s]! ∈ l := by
  rw [List.getElem!_eq_getElem?_getD, List.getElem?_eq_getElem h]; exact List.getElem_mem h

theorem getElem!_map {β γ : Type} [Inhabited β] [Inhabited γ] (g : β → γ) {l : List β} {s : Nat} (h : s < l.length) :
    (l.map g)[s]! = g l[s]! := by
  rw [List.getElem!_eq_getElem?_getD, List.getElem!_eq_getElem?_getD, List.getElem?_map, List.getElem?_eq_getElem h]
  rfl

/-- the operands' `i`-th rows, as `fillCat` extracts them from operands that all have `d` rows -/
theorem seedRows (d : Nat) (seeds : List (List Nat × List α))
    (h : ∀ s ∈ seeds, ∃ sds, s.1 = d :: sds ∧ s.2.length = d * prod sds) {i : Nat} (hi : i < d) :
    allSome (seeds.map (fun (sdims, sdata) =>
      match sdims with
      | [] => none
      | sd :: sds => if i < sd ∧ sdata.length = sd * prod sds then some (sds, chunk sdata (prod sds) i) else none))
    = some (seeds.map (fun s => (s.1.tail, chunk s.2 (prod s.1.tail) i))) := by
  rw [← allSome_map_some (seeds.map _), List.map_map]
  congr 1
  apply List.map_congr_left
  rintro ⟨sdims, sdata⟩ hs
  obtain ⟨sds, rfl, e2⟩ := h _ hs
  simp [hi, e2]

/-- `fillCat`: concatenation along the dimension at depth `k` does not panic, and every result index is routed to one
    operand, holding that operand's element at the operand-local index. -/
theorem concatData_get : ∀ (k : Nat) (ds : List Nat) (seeds : List (List Nat × List α)), SeedsOK k ds seeds →
    ∃ out, concatData k (rdimsOf k ds (lensAt k seeds).sum) seeds = some out ∧
      out.length = prod (rdimsOf k ds (lensAt k seeds).sum) ∧
      ∀ idx, Valid (rdimsOf k ds (lensAt k seeds).sum) idx →
        ∃ s idx', route k (lensAt k seeds) idx = some (s, idx') ∧ s < seeds.length ∧
          idx'.length = (seeds[s]!).1.length ∧
          (⟨rdimsOf k ds (lensAt k seeds).sum, out⟩ : Tensor α).at? idx = (⟨(seeds[s]!).1, (seeds[s]!).2⟩ : Tensor α).at? idx'
  | 0, tl, seeds, hok => by
    refine ⟨(seeds.map (·.2)).flatten, rfl, ?_, ?_⟩
    · simp only [rdimsOf, prod, lensAt]; exact flatten0_length tl seeds hok
    · intro idx hidx
      simp only [rdimsOf, lensAt] at hidx ⊢
      cases hidx with
      | cons hj hv =>
        rename_i j is
        obtain ⟨s, j', h1, h2, h3⟩ := concat0_at tl seeds hok j is hj hv.length_eq
        refine ⟨s, j' :: is, by simp only [route, h1]; rfl, h2, ?_, h3⟩
        obtain ⟨l, e1, _⟩ := hok _ (getElem!_mem h2)
        rw [e1]; exact congrArg Nat.succ hv.length_eq
  | k + 1, [], seeds, hok => by exact absurd hok (by simp [SeedsOK])
  | k + 1, d :: ds, seeds, hok => by
    obtain ⟨hhead, hrec⟩ := hok
    have hlens : ∀ i, lensAt k (seeds.map (fun s => (s.1.tail, chunk s.2 (prod s.1.tail) i))) = lensAt (k + 1) seeds := by
      intro i
      simp only [lensAt, List.map_map]
      exact List.map_congr_left fun s _ => (getD_succ_tail s.1 k).symm
    obtain ⟨out, g1, g2, g3⟩ := rows_tensor d (rdimsOf k ds (lensAt (k + 1) seeds).sum)
      (fun i => (allSome (seeds.map (fun (sdims, sdata) =>
          match sdims with
          | [] => none
          | sd :: sds => if i < sd ∧ sdata.length = sd * prod sds then some (sds, chunk sdata (prod sds) i) else none))).bind
        (fun rows => concatData k (rdimsOf k ds (lensAt (k + 1) seeds).sum) rows))
      (fun i r => ∀ idx, Valid (rdimsOf k ds (lensAt (k + 1) seeds).sum) idx →
        ∃ s idx', route k (lensAt (k + 1) seeds) idx = some (s, idx') ∧ s < seeds.length ∧
          idx'.length = (seeds[s]!).1.tail.length ∧
          (⟨rdimsOf k ds (lensAt (k + 1) seeds).sum, r⟩ : Tensor α).at? idx
            = (⟨(seeds[s]!).1.tail, chunk (seeds[s]!).2 (prod (seeds[s]!).1.tail) i⟩ : Tensor α).at? idx')
      (fun i hi => by
        obtain ⟨out, h1, h2, h3⟩ := concatData_get k ds _ (hrec i hi)
        rw [hlens i] at h1 h2 h3
        refine ⟨out, by rw [seedRows d seeds hhead hi]; exact h1, h2, fun idx hidx => ?_⟩
        obtain ⟨s, idx', r1, r2, r3, r4⟩ := h3 idx hidx
        have r2' : s < seeds.length := by rw [List.length_map] at r2; exact r2
        rw [getElem!_map _ r2'] at r3 r4
        exact ⟨s, idx', r1, r2', r3, r4⟩)
    refine ⟨out, g1, g2, ?_⟩
    intro idx hidx
    simp only [rdimsOf] at hidx
    cases hidx with
    | cons hi hv =>
      rename_i i is
      obtain ⟨r, q, e⟩ := g3 i is hi hv.length_eq
      obtain ⟨s, idx', r1, r2, r3, r4⟩ := q is hv
      obtain ⟨sds, e1, e2⟩ := hhead _ (getElem!_mem r2)
      refine ⟨s, i :: idx', by simp only [route, r1]; rfl, r2, by rw [e1] at r3 ⊢; exact congrArg Nat.succ r3, ?_⟩
      simp only [rdimsOf]
      rw [e, r4]
      rw [e1] at r3 ⊢
      simp only [List.tail_cons] at r3 ⊢
      rw [at?_cons d sds _ i idx' hi r3]

end Qeep

namespace Qeep
variable {α : Type}

def delAt : Nat → List Nat → List Nat
  | _, [] => []
  | 0, _ :: l => l
  | k + 1, x :: l => x :: delAt k l

theorem delAt_length : ∀ (k : Nat) (l : List Nat), k < l.length → (delAt k l).length + 1 = l.length
  | _, [], h => by simp at h
  | 0, _ :: l, _ => by simp [delAt]
  | k + 1, x :: l, h => by
    have := delAt_length k l (by simpa using h)
    simp [delAt]; omega

theorem seedsOK_of : ∀ (k : Nat) (ds : List Nat) (seeds : List (List Nat × List α)), k ≤ ds.length →
    (∀ s ∈ seeds, ∃ l, s.1 = rdimsOf k ds l ∧ s.2.length = prod s.1) → SeedsOK k ds seeds
  | 0, tl, seeds, _, h => by
    intro s hs
    obtain ⟨l, e1, e2⟩ := h s hs
    exact ⟨l, e1, by rw [e2, e1]; rfl⟩
  | k + 1, [], _, hk, _ => by simp at hk
  | k + 1, d :: ds, seeds, hk, h => by
    refine ⟨?_, ?_⟩
    · intro s hs
      obtain ⟨l, e1, e2⟩ := h s hs
      exact ⟨rdimsOf k ds l, e1, by rw [e2, e1]; rfl⟩
    · intro i hi
      apply seedsOK_of k ds _ (by simpa using hk)
      intro s' hs'
      obtain ⟨s, hs, rfl⟩ := List.mem_map.mp hs'
      obtain ⟨l, e1, e2⟩ := h s hs
      refine ⟨l, by simp [e1, rdimsOf], ?_⟩
      simp only [e1, rdimsOf, List.tail_cons]
      exact chunk_length s.2 _ i d (by rw [e2, e1]; rfl) hi

theorem eq_rdimsOf (k : Nat) (base l : List Nat) (hl : l.length = base.length) (hk : k < base.length)
    (h : ∀ j, j ≠ k → l[j]? = base[j]?) : l = rdimsOf k (delAt k base) (l.getD k 0) := by
  induction k generalizing base l with
  | zero =>
    match base, l, hl, hk with
    | b :: base, x :: l, _, _ =>
      have : l = base := List.ext_getElem? fun j => by simpa using h (j + 1) (Nat.succ_ne_zero j)
      rw [this]; rfl
  | succ k ih =>
    match base, l, hl, hk with
    | b :: base, x :: l, hl, hk =>
      have hx : x = b := by simpa using h 0 (Nat.succ_ne_zero k).symm
      have := ih base l (Nat.succ.inj hl) (Nat.lt_of_succ_lt_succ hk) fun j hj => by
        simpa using h (j + 1) (fun e => hj (Nat.succ.inj e))
      rw [hx]
      exact congrArg (b :: ·) this

theorem rdimsOf_set : ∀ (k : Nat) (base : List Nat) (tot : Nat), k < base.length →
    rdimsOf k (delAt k base) tot = base.set k tot
  | 0, _ :: _, _, _ => rfl
  | k + 1, b :: base, tot, h => by
    simp [delAt, rdimsOf, rdimsOf_set k base tot (by simpa using h)]
  | _, [], _, h => by simp at h

end Qeep
