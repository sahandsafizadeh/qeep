import QeepProofs.Vals
/-!
# Back edges point to older tensors: an invariant of every heap the public API can build

`HeapDag H` is the hypothesis of the graph theorems (C01, C20). Here: every primitive public operation (whose operands
exist), `backprop` and `resetCtx` preserve it, so it holds in every heap reachable from the empty heap (`reach_dag`).
Components (activations, losses, FC, SGD, accuracy) are straight-line sequences of these primitive operations.
-/
set_option linter.unusedSectionVars false

namespace Qeep
variable {α : Type}

def HeapDag (H : Heap α) : Prop := ∀ n, ∀ e ∈ (H.ctx n).edges, e.target < n

theorem dag_empty : HeapDag (#[] : Heap α) := by
  intro n e he; simp [Heap.ctx] at he

theorem dag_push (H : Heap α) (v : Tensor α) (c : Ctx α) (hd : HeapDag H) (hc : ∀ e ∈ c.edges, e.target < H.size) :
    HeapDag (H.push ⟨v, c⟩) := by
  intro n e he
  rw [ctx_push] at he
  split at he
  · subst n; exact hc e he
  · exact hd n e he

theorem dag_push_mkCtx {H : Heap α} (hd : HeapDag H) (v : Tensor α) (ops : List Nat) {es : List (Edge α)}
    (hes : ∀ e ∈ es, e.target < H.size) : HeapDag (H.push ⟨v, mkCtx H ops es⟩) :=
  dag_push H v _ hd fun e he => hes e (mkCtx_edges_sub _ _ _ e he)

theorem dag_setCtx (H : Heap α) (n : Nat) (c : Ctx α) (hd : HeapDag H) (hc : ∀ e ∈ c.edges, e ∈ (H.ctx n).edges) :
    HeapDag (H.setCtx n c) := by
  intro m e he
  rw [setCtx_ctx] at he
  split at he
  · rename_i h; rw [h.1]; exact hd n e (hc e he)
  · exact hd m e he

section
variable [Scalar α]

theorem dag_hOp1 {x : Nat} {v : Out (Tensor α)} {rule : Nat → Rule α} {H H' : Heap α} {r : Nat}
    (hd : HeapDag H) (hx : x < H.size) (h : hOp1 x v rule H = .ok (r, H')) : HeapDag H' := by
  obtain ⟨t, rfl, rfl, rfl⟩ := hOp1_ok h
  exact dag_push_mkCtx hd _ _ (by simpa using hx)

theorem dag_viaOp1 {m : HM α Nat} {v : Heap α → Out (Tensor α)} {rule : Heap α → Nat → Rule α} {x : Nat} {H H' : Heap α}
    {r : Nat} (hm : m = (do let H ← getHeap; hOp1 x (v H) (rule H))) (hd : HeapDag H) (hx : x < H.size)
    (h : m H = .ok (r, H')) : HeapDag H' := by
  subst hm; exact dag_hOp1 hd hx h

theorem dag_hCmp {c : Cmp} {a b : Nat} {H H' : Heap α} {r : Nat} (hd : HeapDag H) (ha : a < H.size) (hb : b < H.size)
    (h : hCmp c a b H = .ok (r, H')) : HeapDag H' := by
  obtain ⟨t, _, rfl, rfl⟩ := hCmp_iff.1 h
  split
  · exact dag_push_mkCtx hd _ _ (by simp [ha, hb])
  · exact dag_push _ _ _ hd (by simp [freshCtx])

theorem dag_hPatch {x p : Nat} {i : List IRange} {H H' : Heap α} {r : Nat} (hd : HeapDag H) (hx : x < H.size) (hp : p < H.size)
    (h : hPatch x i p H = .ok (r, H')) : HeapDag H' := by
  obtain ⟨t, _, rfl, rfl⟩ := hPatch_iff.1 h
  exact dag_push_mkCtx hd _ _ (by simp [hx, hp])

theorem concatEdges_target (H : Heap α) (dim : Nat) : ∀ (l : List Nat) (base : Nat),
    ∀ e ∈ concatEdges H dim l base, e.target ∈ l
  | [], _, e, he => by simp [concatEdges] at he
  | x :: l, base, e, he => by
    simp only [concatEdges, List.mem_cons] at he ⊢
    rcases he with rfl | he
    · exact .inl rfl
    · exact .inr (concatEdges_target H dim l _ e he)

theorem dag_hConcat {xs : List Nat} {d : Int} {H H' : Heap α} {r : Nat} (hd : HeapDag H) (hxs : ∀ x ∈ xs, x < H.size)
    (h : hConcat xs d H = .ok (r, H')) : HeapDag H' := by
  obtain ⟨t, _, rfl, rfl⟩ := hConcat_iff.1 h
  exact dag_push_mkCtx hd _ _ fun e he => hxs _ (concatEdges_target _ _ _ _ e he)

theorem dag_pair {a b : Nat} {s1 s2 : Heap α → List Int} {H H' : Heap α} {a' b' : Nat}
    (hd : HeapDag H) (ha : a < H.size) (hb : b < H.size)
    (h : (do let H ← getHeap; let a' ← hBroadcast a (s1 H); let b' ← hBroadcast b (s2 H); pure (a', b') : HM α (Nat × Nat)) H
        = .ok ((a', b'), H')) :
    HeapDag H' ∧ a' < H'.size ∧ b' < H'.size := by
  obtain ⟨Ha, g1, g2⟩ := pair_ok h
  have xa := (hBroadcast_val g1).2.2
  have xb := (hBroadcast_val g2).2.2
  exact ⟨dag_viaOp1 rfl (dag_viaOp1 rfl hd ha g1) (Nat.lt_of_lt_of_le hb xa.1) g2,
    Nat.lt_of_lt_of_le (alloc_size_lt g1) xb.1, alloc_size_lt g2⟩

/-- the tail of `hArith`, `hDot`, `hMatMul`: a node whose two edges go to the broadcast operands -/
theorem dag_pair_push {a b a' b' : Nat} {s1 s2 : Heap α → List Int} {H H1 : Heap α} (t : Tensor α) {es : List (Edge α)}
    (hd : HeapDag H) (ha : a < H.size) (hb : b < H.size)
    (h1 : (do let H ← getHeap; let a' ← hBroadcast a (s1 H); let b' ← hBroadcast b (s2 H); pure (a', b') : HM α (Nat × Nat)) H
        = .ok ((a', b'), H1))
    (hes : ∀ e ∈ es, e.target = a' ∨ e.target = b') : HeapDag (H1.push ⟨t, mkCtx H1 [a', b'] es⟩) := by
  obtain ⟨d1, la, lb⟩ := dag_pair hd ha hb h1
  exact dag_push_mkCtx d1 _ _ fun e he => by rcases hes e he with h | h <;> rw [h] <;> assumption

theorem dag_hArith {o : Arith} {a b : Nat} {H H' : Heap α} {r : Nat} (hd : HeapDag H) (ha : a < H.size) (hb : b < H.size)
    (h : hArith o a b H = .ok (r, H')) : HeapDag H' := by
  obtain ⟨a', b', H1, t, h1, _, rfl, rfl⟩ := hArith_iff.1 h
  exact dag_pair_push t hd ha hb h1 (by cases o <;> simp [arithEdges])

theorem dag_hDot {a b : Nat} {H H' : Heap α} {r : Nat} (hd : HeapDag H) (ha : a < H.size) (hb : b < H.size)
    (h : hDot a b H = .ok (r, H')) : HeapDag H' := by
  obtain ⟨_, a', b', H1, t, h1, _, rfl, rfl⟩ := hDot_iff.1 h
  exact dag_pair_push t hd ha hb h1 (by simp)

theorem dag_hMatMul {a b : Nat} {H H' : Heap α} {r : Nat} (hd : HeapDag H) (ha : a < H.size) (hb : b < H.size)
    (h : hMatMul a b H = .ok (r, H')) : HeapDag H' := by
  obtain ⟨_, a', b', H1, t, h1, _, rfl, rfl⟩ := hMatMul_iff.1 h
  exact dag_pair_push t hd ha hb h1 (by simp)

theorem dag_hLeaf {v : Tensor α} {b : Bool} {H H' : Heap α} {r : Nat} (hd : HeapDag H) (h : hLeaf v b H = .ok (r, H')) :
    HeapDag H' := by
  obtain ⟨rfl, _⟩ := alloc_eq h
  exact dag_push _ _ _ hd (by simp [freshCtx])

theorem dag_hGradNode {n : Nat} {H H' : Heap α} {r : Option Nat} (hd : HeapDag H) (h : hGradNode n H = .ok (r, H')) :
    HeapDag H' := by
  unfold hGradNode at h
  obtain ⟨H0, H0', g0, k1⟩ := bind_ok h
  obtain ⟨e0, e0'⟩ := getHeap_ok g0
  rw [e0, e0'] at k1
  cases hg : H.grad n with
  | none => simp only [hg] at k1; cases k1; exact hd
  | some g =>
    simp only [hg] at k1
    obtain ⟨k, H1, g1, k2⟩ := bind_ok k1
    cases k2
    obtain ⟨rfl, _⟩ := alloc_eq g1
    exact dag_push _ _ _ hd (by simp [dirtyCtx])

theorem dag_resetCtx (H : Heap α) (n : Nat) (b : Bool) (hd : HeapDag H) : HeapDag (resetCtx H n b) :=
  dag_setCtx H n _ hd (by simp [freshCtx])

theorem dag_of_edges {H H' : Heap α} (he : ∀ n, (H'.ctx n).edges = (H.ctx n).edges) (hd : HeapDag H) : HeapDag H' :=
  fun n e h => hd n e (he n ▸ h)

theorem markDirty_edges (H : Heap α) (ns : List Nat) (n : Nat) : ((markDirty H ns).ctx n).edges = (H.ctx n).edges := by
  rw [markDirty_ctx]; split <;> rfl

theorem writeBack_edges (H : Heap α) (G : Nat → Option (Tensor α)) (n : Nat) :
    ((writeBack H G).ctx n).edges = (H.ctx n).edges := by
  rw [writeBack_ctx]; split <;> rfl

theorem dag_backprop (bm : BMode) (H : Heap α) (root : Nat) (hd : HeapDag H) : HeapDag (backprop bm H root).heap := by
  have hm := dag_of_edges (markDirty_edges H (backwardOrder H root)) hd
  unfold backprop
  split
  · exact hd
  · simp only []
    split
    · exact dag_of_edges (writeBack_edges _ _) hm
    · exact hm
    · exact hm

/-- heaps the public tensor API can build from nothing: constructors, every operation on existing tensors,
    `Gradient()`, `BackPropagate()` and `ResetGradContext()` -/
inductive Reach (bm : BMode) : Heap α → Prop
  | empty : Reach bm #[]
  | leaf {H H' v b r} : Reach bm H → hLeaf v b H = .ok (r, H') → Reach bm H'
  | slice {H H' x i r} : Reach bm H → x < H.size → hSlice x i H = .ok (r, H') → Reach bm H'
  | transpose {H H' x r} : Reach bm H → x < H.size → hTranspose x H = .ok (r, H') → Reach bm H'
  | reshape {H H' x s r} : Reach bm H → x < H.size → hReshape x s H = .ok (r, H') → Reach bm H'
  | unsqueeze {H H' x d r} : Reach bm H → x < H.size → hUnSqueeze x d H = .ok (r, H') → Reach bm H'
  | squeeze {H H' x d r} : Reach bm H → x < H.size → hSqueeze x d H = .ok (r, H') → Reach bm H'
  | flatten {H H' x d r} : Reach bm H → x < H.size → hFlatten x d H = .ok (r, H') → Reach bm H'
  | broadcast {H H' x s r} : Reach bm H → x < H.size → hBroadcast x s H = .ok (r, H') → Reach bm H'
  | along {H H' rd x d r} : Reach bm H → x < H.size → hAlong rd x d H = .ok (r, H') → Reach bm H'
  | scale {H H' x a r} : Reach bm H → x < H.size → hScale x a H = .ok (r, H') → Reach bm H'
  | pow {H H' x a r} : Reach bm H → x < H.size → hPow x a H = .ok (r, H') → Reach bm H'
  | unary {H H' f x r} : Reach bm H → x < H.size → hUnary f x H = .ok (r, H') → Reach bm H'
  | patch {H H' x i p r} : Reach bm H → x < H.size → p < H.size → hPatch x i p H = .ok (r, H') → Reach bm H'
  | cmp {H H' c a b r} : Reach bm H → a < H.size → b < H.size → hCmp c a b H = .ok (r, H') → Reach bm H'
  | arith {H H' o a b r} : Reach bm H → a < H.size → b < H.size → hArith o a b H = .ok (r, H') → Reach bm H'
  | dot {H H' a b r} : Reach bm H → a < H.size → b < H.size → hDot a b H = .ok (r, H') → Reach bm H'
  | matmul {H H' a b r} : Reach bm H → a < H.size → b < H.size → hMatMul a b H = .ok (r, H') → Reach bm H'
  | concat {H H' xs d r} : Reach bm H → (∀ x ∈ xs, x < H.size) → hConcat xs d H = .ok (r, H') → Reach bm H'
  | gradNode {H H' n r} : Reach bm H → hGradNode n H = .ok (r, H') → Reach bm H'
  | backprop {H root} : Reach bm H → Reach bm (backprop bm H root).heap
  | reset {H n b} : Reach bm H → Reach bm (resetCtx H n b)

theorem reach_dag {bm : BMode} {H : Heap α} (h : Reach bm H) : HeapDag H := by
  induction h with
  | empty => exact dag_empty
  | leaf _ h ih => exact dag_hLeaf ih h
  | slice _ hx h ih => exact dag_viaOp1 rfl ih hx h
  | transpose _ hx h ih => exact dag_viaOp1 rfl ih hx h
  | reshape _ hx h ih => exact dag_viaOp1 rfl ih hx h
  | unsqueeze _ hx h ih => exact dag_viaOp1 rfl ih hx h
  | squeeze _ hx h ih => exact dag_viaOp1 rfl ih hx h
  | flatten _ hx h ih => exact dag_viaOp1 rfl ih hx h
  | broadcast _ hx h ih => exact dag_viaOp1 rfl ih hx h
  | along _ hx h ih => exact dag_viaOp1 rfl ih hx h
  | scale _ hx h ih => exact dag_viaOp1 rfl ih hx h
  | pow _ hx h ih => exact dag_viaOp1 rfl ih hx h
  | unary _ hx h ih => exact dag_viaOp1 rfl ih hx h
  | patch _ hx hp h ih => exact dag_hPatch ih hx hp h
  | cmp _ ha hb h ih => exact dag_hCmp ih ha hb h
  | arith _ ha hb h ih => exact dag_hArith ih ha hb h
  | dot _ ha hb h ih => exact dag_hDot ih ha hb h
  | matmul _ ha hb h ih => exact dag_hMatMul ih ha hb h
  | concat _ hxs h ih => exact dag_hConcat ih hxs h
  | gradNode _ h ih => exact dag_hGradNode ih h
  | backprop _ ih => exact dag_backprop _ _ _ ih
  | reset _ ih => exact dag_resetCtx _ _ _ ih

end
end Qeep
