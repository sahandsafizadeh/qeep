import QeepProofs.Graph
import Mathlib.Data.Real.Basic
import Mathlib.Tactic.Linarith
import Mathlib.Tactic.Ring
/-!
# The adjoint equations are the chain rule: reverse accumulation is the adjoint of tangent propagation

Generic in the gradient domain `D`, the tangent domain `T`, a pairing `ip : D → T → ℝ`, the rules `pull` (backward
closure of an edge) and ANY family of per-edge linear maps `push` on tangents to which the rules are adjoint
(`ip (pull r gy) t = ip gy (push r t)`: the rule is the vector-Jacobian product of the edge's Jacobian `push r`).

Take tangents `dv u` of all nodes that satisfy the forward (tangent) equations of the graph,
`dv u = δ u + Σ_{tracked edges e of u} push e (dv (target e))` (tested against every covector), `δ u` an arbitrary
perturbation injected at node `u` (for a leaf: its own variation; for an operation result: zero). Then a successful
walk ends with gradients `G` such that `Σ_u ⟨G u, δ u⟩ = Σ_n ⟨seed n, dv n⟩` (`adjoint_duality`). `Good n` is any per-node
invariant of gradient values — for the code: "has the shape of tensor n" — under which accumulation is additive for the
pairing. On a fresh graph the right side is `⟨ones, dv root⟩`: the gradients are the coefficients of the first-order
variation of (the sum of the elements of) the root with respect to every node, the multivariate chain rule over the
whole DAG.
-/

namespace Qeep
section duality
variable {D R T : Type} (add : D → D → Out D) (pull : R → D → Out D) (tracked : Nat → Bool)
variable (ip : D → T → ℝ) (push : R → T → T)

def ipo (g : Option D) (t : T) : ℝ := match g with | some g => ip g t | none => 0

theorem sums_ip (Good : D → Prop)
    (hadd : ∀ a b s, Good a → Good b → add a b = .ok s → Good s ∧ ∀ t, ip s t = ip a t + ip b t)
    {a b : Option D} {l : List D} (h : Sums add a l b) (ha : ∀ x, a = some x → Good x) (hl : ∀ g ∈ l, Good g) (t : T) :
    (∀ x, b = some x → Good x) ∧ ipo ip b t = ipo ip a t + (l.map (fun g => ip g t)).sum := by
  induction h with
  | nil a => exact ⟨ha, by simp⟩
  | @first g gs b _ ih =>
    obtain ⟨h1, h2⟩ := ih (fun x hx => by cases hx; exact hl g (by simp)) (fun y hy => hl y (List.mem_cons_of_mem _ hy))
    exact ⟨h1, by rw [h2]; simp [ipo]⟩
  | @next x g s gs b hs _ ih =>
    obtain ⟨gs', e⟩ := hadd x g s (ha x rfl) (hl g (by simp)) hs
    obtain ⟨h1, h2⟩ := ih (fun y hy => by cases hy; exact gs') (fun y hy => hl y (List.mem_cons_of_mem _ hy))
    exact ⟨h1, by rw [h2]; simp only [ipo, List.map_cons, List.sum_cons]; rw [e t]; ring⟩

/-- what one edge contributes to the pairing at its target, computed from the gradient `G` of its source -/
noncomputable def term (G : Nat → Option D) (dv : Nat → T) (p : Pair R) : ℝ :=
  if tracked p.2.1 = true then
    match G p.1 with
    | some gy => (match pull p.2.2 gy with | .ok g => ip g (dv p.2.1) | _ => 0)
    | none => 0
  else 0

theorem fm_sum {β : Type} (f : β → Option D) (h : D → ℝ) (p : β) (ps : List β) :
    (((p :: ps).filterMap f).map h).sum = (match f p with | some g => h g | none => 0) + ((ps.filterMap f).map h).sum := by
  cases hf : f p <;> simp [hf]

theorem contrib_sum (G : Nat → Option D) (dv : Nat → T) (n : Nat) (ps : List (Pair R)) :
    ((contrib pull tracked G ps n).map (fun g => ip g (dv n))).sum
      = (ps.map (fun p => if p.2.1 = n then term pull tracked ip G dv p else 0)).sum := by
  induction ps with
  | nil => simp [contrib]
  | cons p ps ih =>
    unfold contrib at ih ⊢
    rw [fm_sum, ih]
    simp only [List.map_cons, List.sum_cons]
    congr 1
    by_cases ht : tracked p.2.1 = true
    · by_cases hn : p.2.1 = n
      · subst hn
        simp only [ht, and_self, if_true, term]
        cases hG : G p.1 with
        | none => rfl
        | some gy =>
          simp only []
          cases hp : pull p.2.2 gy <;> rfl
      · simp only [hn, and_false, if_false]
    · have hf : tracked p.2.1 = false := by cases h : tracked p.2.1 <;> simp_all
      simp [hf, term]

theorem sum_add_map {β : Type} (l : List β) (f g : β → ℝ) :
    (l.map (fun x => f x + g x)).sum = (l.map f).sum + (l.map g).sum := by
  induction l with
  | nil => simp
  | cons x l ih => simp only [List.map_cons, List.sum_cons, ih]; ring

theorem sum_zero_map {β : Type} (l : List β) : (l.map (fun _ => (0 : ℝ))).sum = 0 := by
  induction l with
  | nil => simp
  | cons x l ih => simp [ih]

theorem sum_swap {β γ : Type} (L : List β) (ps : List γ) (f : β → γ → ℝ) :
    (L.map (fun n => (ps.map (fun p => f n p)).sum)).sum = (ps.map (fun p => (L.map (fun n => f n p)).sum)).sum := by
  induction ps with
  | nil => simp [sum_zero_map]
  | cons p ps ih =>
    simp only [List.map_cons, List.sum_cons]
    rw [sum_add_map, ih]

theorem sum_indicator (L : List Nat) (hnd : L.Nodup) (m : Nat) (c : ℝ) :
    (L.map (fun n => if m = n then c else 0)).sum = if m ∈ L then c else 0 := by
  induction L with
  | nil => simp
  | cons x L ih =>
    have hx := (List.nodup_cons.mp hnd)
    simp only [List.map_cons, List.sum_cons, ih hx.2, List.mem_cons]
    by_cases hmx : m = x
    · subst hmx; simp [hx.1]
    · simp [hmx]

theorem sum_congr_map {β : Type} (l : List β) (f g : β → ℝ) (h : ∀ x ∈ l, f x = g x) : (l.map f).sum = (l.map g).sum := by
  congr 1; exact List.map_congr_left h

theorem sum_flatMap_map {β γ : Type} (L : List β) (es : β → List γ) (f : β → γ → ℝ) :
    ((L.flatMap (fun u => (es u).map (fun e => (u, e)))).map (fun p => f p.1 p.2)).sum
      = (L.map (fun u => ((es u).map (fun e => f u e)).sum)).sum := by
  induction L with
  | nil => simp
  | cons u L ih =>
    simp only [List.flatMap_cons, List.map_append, List.sum_append, List.map_cons, List.sum_cons, ih, List.map_map]
    rfl

/-- **Reverse accumulation is the adjoint of tangent propagation.** `G` is the final gradient store, `seed` the store the
    walk started from (previous gradients plus the all-ones seed at the root). -/
theorem adjoint_duality (edges : Nat → List (Nat × R)) (L : List Nat) (hnd : L.Nodup)
    (G seed : Nat → Option D)
    (hS : ∀ n, Sums add (seed n) (contrib pull tracked G (allPairs edges L) n) (G n))
    (hdef : ∀ p ∈ allPairs edges L, tracked p.2.1 = true → ∃ gy g, G p.1 = some gy ∧ pull p.2.2 gy = .ok g)
    (hclosed : ∀ p ∈ allPairs edges L, tracked p.2.1 = true → p.2.1 ∈ L)
    (Good : Nat → D → Prop)
    (hadd : ∀ n a b s, Good n a → Good n b → add a b = .ok s → Good n s ∧ ∀ t, ip s t = ip a t + ip b t)
    (hseed : ∀ n x, seed n = some x → Good n x)
    (hgood : ∀ n, ∀ g ∈ contrib pull tracked G (allPairs edges L) n, Good n g)
    (hadj : ∀ p ∈ allPairs edges L, tracked p.2.1 = true → ∀ gy g, pull p.2.2 gy = .ok g → ∀ t, ip g t = ip gy (push p.2.2 t))
    (dv δ : Nat → T)
    (htan : ∀ u ∈ L, ∀ gy, ip gy (dv u) = ip gy (δ u)
        + ((edges u).map (fun e => if tracked e.1 = true then ip gy (push e.2 (dv e.1)) else 0)).sum) :
    (L.map (fun u => ipo ip (G u) (δ u))).sum = (L.map (fun n => ipo ip (seed n) (dv n))).sum := by
  let P : ℝ := ((allPairs edges L).map (term pull tracked ip G dv)).sum
  -- (1) node by node: ⟨G u, dv u⟩ = ⟨G u, δ u⟩ + Σ_{edges of u} term
  have h1 : (L.map (fun u => ipo ip (G u) (dv u))).sum = (L.map (fun u => ipo ip (G u) (δ u))).sum + P := by
    have hP : P = (L.map (fun u => ((edges u).map (fun e => term pull tracked ip G dv (u, e))).sum)).sum := by
      simp only [P]
      unfold allPairs
      exact sum_flatMap_map L edges (fun u e => term pull tracked ip G dv (u, e))
    rw [hP, ← sum_add_map]
    apply sum_congr_map
    intro u hu
    cases hG : G u with
    | none =>
      simp only [ipo]
      have : ((edges u).map (fun e => term pull tracked ip G dv (u, e))).sum = 0 := by
        rw [← sum_zero_map (edges u)]
        apply sum_congr_map
        intro e _
        simp [term, hG]
      rw [this]; ring
    | some gy =>
      simp only [ipo]
      rw [htan u hu gy]
      congr 1
      apply sum_congr_map
      intro e he
      by_cases ht : tracked e.1 = true
      · have hp : (u, e) ∈ allPairs edges L := mem_allPairs.mpr ⟨hu, he⟩
        obtain ⟨gy', g, hgy, hg⟩ := hdef _ hp ht
        simp only [] at hgy hg
        rw [hG] at hgy
        cases hgy
        simp only [term, ht, if_true, hG, hg]
        exact (hadj _ hp ht _ _ hg _).symm
      · simp [term, ht]
  -- (2) ⟨G n, dv n⟩ = ⟨seed n, dv n⟩ + contributions; summed over L the contributions are P again
  have h2 : (L.map (fun n => ipo ip (G n) (dv n))).sum = (L.map (fun n => ipo ip (seed n) (dv n))).sum + P := by
    have e1 : ∀ n ∈ L, ipo ip (G n) (dv n) = ipo ip (seed n) (dv n)
        + ((allPairs edges L).map (fun p => if p.2.1 = n then term pull tracked ip G dv p else 0)).sum := by
      intro n _
      rw [(sums_ip add ip (Good n) (hadd n) (hS n) (hseed n) (hgood n) (dv n)).2, contrib_sum]
    rw [sum_congr_map L _ _ e1, sum_add_map]
    congr 1
    rw [sum_swap L (allPairs edges L) (fun n p => if p.2.1 = n then term pull tracked ip G dv p else 0)]
    simp only [P]
    apply sum_congr_map
    intro p hp
    rw [sum_indicator L hnd p.2.1 (term pull tracked ip G dv p)]
    by_cases ht : tracked p.2.1 = true
    · simp [hclosed p hp ht]
    · simp [term, ht]
  linarith

end duality
end Qeep

namespace Qeep
namespace DualityExample
/-! Non-vacuity of `adjoint_duality`: a reconverging graph `2 → {1, 0}`, `1 → 0` with scalar gradients; rule of an edge
with coefficient `r` is `g ↦ r * g` (its own adjoint). Gradients: `G 2 = 1`, `G 1 = 2`, `G 0 = 1 + 3 * 2 = 7`;
perturbing node 0 by 1 moves node 1 by 3 and node 2 by `2 * 3 + 1 = 7`. -/

def edges : Nat → List (Nat × ℝ)
  | 2 => [(1, 2), (0, 1)]
  | 1 => [(0, 3)]
  | _ => []

noncomputable def G : Nat → Option ℝ
  | 2 => some 1 | 1 => some 2 | 0 => some 7 | _ => none
noncomputable def seed : Nat → Option ℝ
  | 2 => some 1 | _ => none
noncomputable def dv : Nat → ℝ
  | 0 => 1 | 1 => 3 | 2 => 7 | _ => 0
noncomputable def δ : Nat → ℝ
  | 0 => 1 | _ => 0

example : ([2, 1, 0].map (fun u => ipo (fun (g t : ℝ) => g * t) (G u) (δ u))).sum
    = ([2, 1, 0].map (fun n => ipo (fun (g t : ℝ) => g * t) (seed n) (dv n))).sum := by
  refine adjoint_duality (fun a b => .ok (a + b)) (fun r g => .ok (r * g)) (fun _ => true) (fun g t => g * t)
    (fun r t => r * t) edges [2, 1, 0] (by decide) G seed ?_ ?_ ?_ (fun _ _ => True) ?_ ?_ ?_ ?_ dv δ ?_
  · intro n
    have hp : allPairs edges [2, 1, 0] = [(2, (1, 2)), (2, (0, 1)), (1, (0, 3))] := by
      simp [allPairs, edges]
    rw [hp]
    match n with
    | 0 =>
      have : contrib (fun (r g : ℝ) => Out.ok (r * g)) (fun _ => true) G [(2, ((1:ℕ), (2:ℝ))), (2, (0, 1)), (1, (0, 3))] 0
          = [1 * 1, 3 * 2] := by simp [contrib, G]
      rw [this]
      exact .first (.next (by norm_num) (.nil _))
    | 1 =>
      have : contrib (fun (r g : ℝ) => Out.ok (r * g)) (fun _ => true) G [(2, ((1:ℕ), (2:ℝ))), (2, (0, 1)), (1, (0, 3))] 1
          = [2 * 1] := by simp [contrib, G]
      rw [this]
      exact .first (by simpa [G] using Sums.nil _)
    | 2 =>
      have : contrib (fun (r g : ℝ) => Out.ok (r * g)) (fun _ => true) G [(2, ((1:ℕ), (2:ℝ))), (2, (0, 1)), (1, (0, 3))] 2
          = [] := by simp [contrib, G]
      rw [this]
      exact .nil _
    | n + 3 =>
      have : contrib (fun (r g : ℝ) => Out.ok (r * g)) (fun _ => true) G [(2, ((1:ℕ), (2:ℝ))), (2, (0, 1)), (1, (0, 3))] (n + 3)
          = [] := by simp [contrib, G]
      rw [this]
      exact .nil _
  · intro p hp _
    simp [allPairs, edges] at hp
    rcases hp with rfl | rfl | rfl <;> simp [G]
  · intro p hp _
    simp [allPairs, edges] at hp
    rcases hp with rfl | rfl | rfl <;> simp
  · intro n a b s _ _ h
    cases h
    exact ⟨trivial, fun t => by ring⟩
  · intros; trivial
  · intros; trivial
  · intro p _ _ gy g h t
    cases h; ring
  · intro u hu gy
    simp at hu
    rcases hu with rfl | rfl | rfl <;> simp [edges, dv, δ] <;> ring

end DualityExample
end Qeep
