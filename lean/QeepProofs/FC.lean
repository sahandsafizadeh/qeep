import QeepProofs.MatMul
import QeepProofs.BcastSum
/-!
# The value computed by the FC layer's forward composition

`fcV W B X = ((W.UnSqueeze(1)).MatMul(X.UnSqueeze(1))).SumAlong(2).Add(B)` on values. The five calls are followed at
index level on tensors described by `Is1` / `Is2` / `Is3` (shape and an entry function): `fc_values` lists the seven
intermediate tensors, `fcV_spec`: for `W, B : [O]`, `X : [N, D]` the result has dims `[N, O]` and
`y[b][o] = (Σ_d (0 + W[o]·x[b][d])) + B[o]` with the folds in the order the code executes them.
-/

namespace Qeep
variable {α : Type}

theorem at?_rank3 (a b c : Nat) (l : List α) (i j k : Nat) (hi : i < a) (hj : j < b) (hk : k < c) :
    (⟨[a, b, c], l⟩ : Tensor α).at? [i, j, k] = l[i * (b * c) + (j * c + k)]? := by
  simp [Tensor.at?, offset, hi, hj, hk, prod]

theorem idx2_lt {N O b o : Nat} (hb : b < N) (ho : o < O) : b * O + o < N * O := by
  calc b * O + o < b * O + O := by omega
    _ = (b + 1) * O := by rw [Nat.add_mul]; omega
    _ ≤ N * O := Nat.mul_le_mul_right _ hb

end Qeep

namespace Qeep
namespace C16x

variable {α : Type} [Scalar α]

structure Is1 (t : Tensor α) (n : Nat) (f : Nat → α) : Prop where
  wf : t.WF
  dims : t.dims = [n]
  el : ∀ i, i < n → t.el [i] = f i

structure Is2 (t : Tensor α) (m n : Nat) (f : Nat → Nat → α) : Prop where
  wf : t.WF
  dims : t.dims = [m, n]
  el : ∀ i j, i < m → j < n → t.el [i, j] = f i j

structure Is3 (t : Tensor α) (a b c : Nat) (f : Nat → Nat → Nat → α) : Prop where
  wf : t.WF
  dims : t.dims = [a, b, c]
  el : ∀ i j k, i < a → j < b → k < c → t.el [i, j, k] = f i j k

theorem Is1.pos {t : Tensor α} {n : Nat} {f : Nat → α} (h : Is1 t n f) : 0 < n :=
  h.wf.2 n (by rw [h.dims]; simp)
theorem Is2.pos {t : Tensor α} {m n : Nat} {f : Nat → Nat → α} (h : Is2 t m n f) : 0 < m ∧ 0 < n :=
  ⟨h.wf.2 m (by rw [h.dims]; simp), h.wf.2 n (by rw [h.dims]; simp)⟩
theorem Is3.pos {t : Tensor α} {a b c : Nat} {f : Nat → Nat → Nat → α} (h : Is3 t a b c f) : 0 < a ∧ 0 < b ∧ 0 < c :=
  ⟨h.wf.2 a (by rw [h.dims]; simp), h.wf.2 b (by rw [h.dims]; simp), h.wf.2 c (by rw [h.dims]; simp)⟩

theorem is1_self (t : Tensor α) (hwf : t.WF) (n : Nat) (hd : t.dims = [n]) : Is1 t n (fun i => t.el [i]) :=
  ⟨hwf, hd, fun _ _ => rfl⟩
theorem is2_self (t : Tensor α) (hwf : t.WF) (m n : Nat) (hd : t.dims = [m, n]) : Is2 t m n (fun i j => t.el [i, j]) :=
  ⟨hwf, hd, fun _ _ _ _ => rfl⟩
theorem is3_self (t : Tensor α) (hwf : t.WF) (a b c : Nat) (hd : t.dims = [a, b, c]) :
    Is3 t a b c (fun i j k => t.el [i, j, k]) :=
  ⟨hwf, hd, fun _ _ _ _ _ _ => rfl⟩

theorem Is2.congr {t : Tensor α} {m n : Nat} {f g : Nat → Nat → α} (h : Is2 t m n f)
    (hfg : ∀ i j, i < m → j < n → f i j = g i j) : Is2 t m n g :=
  ⟨h.wf, h.dims, fun i j hi hj => by rw [h.el i j hi hj, hfg i j hi hj]⟩

theorem Is3.congr {t : Tensor α} {a b c : Nat} {f g : Nat → Nat → Nat → α} (h : Is3 t a b c f)
    (hfg : ∀ i j k, i < a → j < b → k < c → f i j k = g i j k) : Is3 t a b c g :=
  ⟨h.wf, h.dims, fun i j k hi hj hk => by rw [h.el i j k hi hj hk, hfg i j k hi hj hk]⟩

theorem is1_of_data {n : Nat} {l : List α} {f : Nat → α} (hn : 0 < n) (hl : l.length = n)
    (h : ∀ i, i < n → l[i]? = some (f i)) : Is1 (⟨[n], l⟩ : Tensor α) n f :=
  ⟨⟨by simp [prod, hl], by simp; omega⟩, rfl, fun i hi => el_of_at? (by rw [at?_singleton n l i hi, h i hi])⟩

theorem is2_of_data {m n : Nat} {l : List α} {f : Nat → Nat → α} (hm : 0 < m) (hn : 0 < n) (hl : l.length = m * n)
    (h : ∀ i j, i < m → j < n → l[i * n + j]? = some (f i j)) : Is2 (⟨[m, n], l⟩ : Tensor α) m n f :=
  ⟨⟨by simp [prod, hl], by simp; omega⟩, rfl,
    fun i j hi hj => el_of_at? (by rw [at?_rank2 m n l i j hi hj, h i j hi hj])⟩

theorem unsq1_vec {t : Tensor α} {n : Nat} {f : Nat → α} (h : Is1 t n f) :
    ∃ r, vUnSqueeze t 1 = .ok r ∧ Is2 r n 1 (fun i _ => f i) := by
  obtain ⟨r, h1, w, d, e⟩ := unsqueeze_el t h.wf [n] [] (by rw [h.dims]; rfl)
  refine ⟨r, h1, w, d, ?_⟩
  intro i j hi hj
  obtain rfl : j = 0 := by omega
  exact (e [i] [] (valid1 hi) .nil).trans (h.el i hi)

theorem unsq1_mat {t : Tensor α} {m n : Nat} {f : Nat → Nat → α} (h : Is2 t m n f) :
    ∃ r, vUnSqueeze t 1 = .ok r ∧ Is3 r m 1 n (fun i _ k => f i k) := by
  obtain ⟨r, h1, w, d, e⟩ := unsqueeze_el t h.wf [m] [n] (by rw [h.dims]; rfl)
  refine ⟨r, h1, w, d, ?_⟩
  intro i j k hi hj hk
  obtain rfl : j = 0 := by omega
  exact (e [i] [k] (valid1 hi) (valid1 hk)).trans (h.el i k hi hk)

theorem unsq2_mat {t : Tensor α} {m n : Nat} {f : Nat → Nat → α} (h : Is2 t m n f) :
    ∃ r, vUnSqueeze t 2 = .ok r ∧ Is3 r m n 1 (fun i j _ => f i j) := by
  obtain ⟨r, h1, w, d, e⟩ := unsqueeze_el t h.wf [m, n] [] (by rw [h.dims]; rfl)
  refine ⟨r, h1, w, d, ?_⟩
  intro i j k hi hj hk
  obtain rfl : k = 0 := by omega
  exact (e [i, j] [] (valid2 hi hj) .nil).trans (h.el i j hi hj)

theorem bcastN_el (t : Tensor α) (hwf : t.WF) (shape : List Nat) (hpos : ∀ h ∈ shape, 0 < h)
    (hv : validBroadcast t.dims shape = true) :
    ∃ r, vBroadcastN t shape = .ok r ∧ r.WF ∧ r.dims = shape ∧
      ∀ u, Valid shape u → r.el u = t.el (projLE t.dims.reverse shape.reverse u.reverse).reverse := by
  obtain ⟨data, h1, h2, h3⟩ := C03.broadcast_get t hwf shape hpos hv
  refine ⟨⟨shape, data⟩, ?_, h2, rfl, ?_⟩
  · unfold vBroadcastN vBroadcast
    rw [validInputDims_ofNat _ hpos, natDims_ofNat, hv]
    simp only [Bool.and_self, if_true, h1, Out.ofOpt]
  · intro u hu
    have := (h3 u.reverse (valid_reverse hu)).1
    rw [List.reverse_reverse] at this
    unfold Tensor.el
    rw [this]

theorem bcast_last {t : Tensor α} {N O : Nat} {f : Nat → Nat → Nat → α} (h : Is3 t N O 1 f) (D : Nat) (hD : 0 < D) :
    ∃ r, vBroadcastN t [N, O, D] = .ok r ∧ Is3 r N O D (fun n o _ => f n o 0) := by
  obtain ⟨hN, hO, _⟩ := h.pos
  have hv : validBroadcast t.dims [N, O, D] = true := by rw [h.dims]; simp [validBroadcast, validBroadcastLE]
  obtain ⟨r, h1, w, d, e⟩ := bcastN_el t h.wf [N, O, D] (by simp; omega) hv
  refine ⟨r, h1, w, d, ?_⟩
  intro n o k hn ho hk
  rw [e _ (valid3 hn ho hk), h.dims]
  simp only [List.reverse_cons, List.reverse_nil, List.nil_append, List.cons_append, projLE, if_true]
  have : (if 1 = D then k else 0) = 0 := by split <;> omega
  rw [this]
  exact h.el n o 0 hn ho (by omega)

theorem bcast_lead3 {t : Tensor α} {O : Nat} {f : Nat → Nat → α} (h : Is2 t O 1 f) (N : Nat) (hN : 0 < N) :
    ∃ r, vBroadcastN t [N, O, 1] = .ok r ∧ Is3 r N O 1 (fun _ o k => f o k) := by
  obtain ⟨hO, _⟩ := h.pos
  have hv : validBroadcast t.dims [N, O, 1] = true := by rw [h.dims]; simp [validBroadcast, validBroadcastLE]
  obtain ⟨r, h1, w, d, e⟩ := bcastN_el t h.wf [N, O, 1] (by simp; omega) hv
  refine ⟨r, h1, w, d, ?_⟩
  intro n o k hn ho hk
  rw [e _ (valid3 hn ho hk), h.dims]
  simp only [List.reverse_cons, List.reverse_nil, List.nil_append, List.cons_append, projLE, if_true]
  exact h.el o k ho hk

theorem bcast_row2 {t : Tensor α} {O : Nat} {f : Nat → α} (h : Is1 t O f) (N : Nat) (hN : 0 < N) :
    ∃ r, vBroadcastN t [N, O] = .ok r ∧ Is2 r N O (fun _ o => f o) := by
  have hO := h.pos
  have hv : validBroadcast t.dims [N, O] = true := by rw [h.dims]; simp [validBroadcast, validBroadcastLE]
  obtain ⟨r, h1, w, d, e⟩ := bcastN_el t h.wf [N, O] (by simp; omega) hv
  refine ⟨r, h1, w, d, ?_⟩
  intro n o hn ho
  rw [e _ (valid2 hn ho), h.dims]
  simp only [List.reverse_cons, List.reverse_nil, List.nil_append, List.cons_append, projLE, if_true]
  exact h.el o ho

theorem sum_along2 {t : Tensor α} {N O D : Nat} {f : Nat → Nat → Nat → α} (h : Is3 t N O D f) :
    ∃ r, vAlong .sum t 2 = .ok r ∧ Is2 r N O (fun n o => sumOver D (fun d => f n o d)) := by
  obtain ⟨r, h1, w, d, e⟩ := sumAlong_el t h.wf 2 (by rw [h.dims]; simp)
  have hsq : squeezeDims 2 t.dims = [N, O] := by rw [h.dims]; rfl
  rw [hsq] at d e
  refine ⟨r, h1, w, d, ?_⟩
  intro n o hn ho
  rw [e _ (valid2 hn ho)]
  have : t.dims.getD 2 0 = D := by rw [h.dims]; rfl
  rw [this]
  apply sumOver_congr
  intro i hi
  exact h.el n o i hn ho hi

theorem zip2 (g : α → α → α) {a b : Tensor α} {m n : Nat} {fa fb : Nat → Nat → α} (ha : Is2 a m n fa) (hb : Is2 b m n fb) :
    ∃ r, Tensor.zipRaw g a b = some r ∧ Is2 r m n (fun i j => g (fa i j) (fb i j)) := by
  have hd : a.dims = b.dims := by rw [ha.dims, hb.dims]
  have hl : a.data.length = b.data.length := by rw [ha.wf.1, hb.wf.1, hd]
  have wr := zip_wf g a b ha.wf hb.wf hd
  refine ⟨⟨a.dims, List.zipWith g a.data b.data⟩, by simp [Tensor.zipRaw, hd, hl], wr, ha.dims, ?_⟩
  intro i j hi hj
  have hva : Valid a.dims [i, j] := by rw [ha.dims]; exact valid2 hi hj
  have hvb : Valid b.dims [i, j] := by rw [hb.dims]; exact valid2 hi hj
  have e1 := at?_some_el a ha.wf hva
  have e2 := at?_some_el b hb.wf hvb
  have r1 := Tensor.at?_reverse a (st := [i, j].reverse) (by simpa using valid_reverse hva)
  have r2 := Tensor.at?_reverse b (st := [i, j].reverse) (by simpa using valid_reverse hvb)
  have r3 := Tensor.at?_reverse (⟨a.dims, List.zipWith g a.data b.data⟩ : Tensor α) (st := [i, j].reverse)
    (by simpa using valid_reverse hva)
  rw [List.reverse_reverse] at r1 r2 r3
  rw [r1] at e1
  rw [r2, ← hd] at e2
  apply el_of_at?
  rw [r3]
  simp only [List.getElem?_zipWith, e1, e2]
  rw [ha.el i j hi hj, hb.el i j hi hj]

/-- the entries of a rank-3 tensor in the form `matMulRaw_spec` takes them: a batch index, then row and column -/
theorem Is3.at_pre {a : Tensor α} {N m p : Nat} {fa : Nat → Nat → Nat → α} (ha : Is3 a N m p fa) (pre : List Nat)
    (i q : Nat) (hv : Valid [N] pre) (hi : i < m) (hq : q < p) :
    (⟨[N] ++ [m, p], a.data⟩ : Tensor α).at? (pre ++ [i, q]) = some (fa (pre.headD 0) i q) := by
  cases hv with
  | cons hn hrest =>
    cases hrest
    rename_i n
    rw [show (⟨[N] ++ [m, p], a.data⟩ : Tensor α) = a by rw [show [N] ++ [m, p] = a.dims from ha.dims.symm],
      at?_some_el a ha.wf (by rw [ha.dims]; exact valid3 hn hi hq)]
    simp only [List.cons_append, List.nil_append, List.headD_cons]
    rw [ha.el n i q hn hi hq]

theorem matMulRaw3 {a b : Tensor α} {N m p k : Nat} {fa fb : Nat → Nat → Nat → α}
    (ha : Is3 a N m p fa) (hb : Is3 b N p k fb) :
    ∃ r, a.matMulRaw b = some r ∧ Is3 r N m k (fun n i j => sumOver p (fun q => Scalar.mul (fa n i q) (fb n q j))) := by
  obtain ⟨hN, hm, hp⟩ := ha.pos
  obtain ⟨_, _, hk⟩ := hb.pos
  have ea : a = ⟨[N] ++ [m, p], a.data⟩ := by rw [show [N] ++ [m, p] = a.dims from ha.dims.symm]
  have eb : b = ⟨[N] ++ [p, k], b.data⟩ := by rw [show [N] ++ [p, k] = b.dims from hb.dims.symm]
  obtain ⟨data, r1, r2, r3⟩ := matMulRaw_spec [N] m p k a.data b.data (by simp; omega) hm hp hk
    (by rw [ha.wf.1, ha.dims]; rfl) (by rw [hb.wf.1, hb.dims]; rfl)
    (fun pre i q => fa (pre.headD 0) i q) (fun pre q j => fb (pre.headD 0) q j) ha.at_pre hb.at_pre
  rw [← ea, ← eb] at r1
  refine ⟨_, r1, ⟨r2, by simp; omega⟩, rfl, ?_⟩
  intro n i j hn hi hj
  apply el_of_at?
  have := r3 [n] i j (valid1 hn) hi hj
  simp only [List.cons_append, List.nil_append, List.headD_cons] at this
  rw [show ∀ f : Nat → α, sumOver p f = (List.range p).foldl (fun s q => Scalar.add s (f q)) Scalar.zero from
    fun f => List.foldl_map ..]
  exact this

theorem vMatMul_of {a b va vb v : Tensor α} (hv : validMatMul a.dims b.dims = true)
    (hba : vBroadcastN a (matMulShape (targetBroadcastDims a.dims b.dims) a.dims) = .ok va)
    (hbb : vBroadcastN b (matMulShape (targetBroadcastDims a.dims b.dims) b.dims) = .ok vb)
    (hm : va.matMulRaw vb = some v) : vMatMul a b = .ok v := by
  unfold vMatMul vBroadcastPairMM
  rw [if_pos hv]
  simp only [bind, Out.bind, hba, hbb, pure, hm, Out.ofOpt]

theorem vArith_of {o : Arith} {a b va vb v : Tensor α}
    (hba : vBroadcastN a (targetBroadcastDims a.dims b.dims) = .ok va)
    (hbb : vBroadcastN b (targetBroadcastDims a.dims b.dims) = .ok vb)
    (hz : Tensor.zipRaw o.fn va vb = some v) : vArith o a b = .ok v := by
  unfold vArith vBroadcastPair
  simp only [bind, Out.bind, hba, hbb, pure, hz, Out.ofOpt]

theorem targetBroadcast_fc (N O D : Nat) (hO : 0 < O) (hD : 0 < D) : targetBroadcastDims [O, 1] [N, 1, D] = [N, O, D] := by
  simp only [targetBroadcastDims, List.reverse_cons, List.reverse_nil, List.nil_append, List.cons_append, targetBroadcastLE]
  have h1 : ¬ (1 > D) := by omega
  have h2 : (if O > 1 then O else 1) = O := by split <;> omega
  simp [h1, h2]

/-- one product term of the FC formula as the code computes it: `0 + W[o]·x[n][d]` (a 1-term MatMul fold) -/
def term (Wf : Nat → α) (Xf : Nat → Nat → α) (n o d : Nat) : α := Scalar.add Scalar.zero (Scalar.mul (Wf o) (Xf n d))

/-- the seven tensors computed by the five calls of `(*FC).forward` on `W, B : [O]`, `X : [N, D]`: the two `UnSqueeze`s,
    inside `MatMul` the batch copy of `W₁` (`x₁` is its own copy) and the product, `SumAlong(2)`, inside `Add` the row copy
    of `B` (the sum is its own copy) and the result; each equation in the form the public operation tests it -/
structure FCVals (W B X : Tensor α) (N D O : Nat) (Wf Bf : Nat → α) (Xf : Nat → Nat → α)
    (w1 x1 wb mm s bb y : Tensor α) : Prop where
  e0 : vUnSqueeze W 1 = .ok w1
  i0 : Is2 w1 O 1 (fun o _ => Wf o)
  e1 : vUnSqueeze X 1 = .ok x1
  i1 : Is3 x1 N 1 D (fun n _ d => Xf n d)
  hv : validMatMul w1.dims x1.dims = true
  e2 : vBroadcastN w1 (matMulShape (targetBroadcastDims w1.dims x1.dims) w1.dims) = .ok wb
  i2 : Is3 wb N O 1 (fun _ o _ => Wf o)
  e3 : vBroadcastN x1 (matMulShape (targetBroadcastDims w1.dims x1.dims) x1.dims) = .ok x1
  e4 : wb.matMulRaw x1 = some mm
  i4 : Is3 mm N O D (term Wf Xf)
  e5 : vAlong .sum mm 2 = .ok s
  i5 : Is2 s N O (fun n o => sumOver D (term Wf Xf n o))
  e6 : vBroadcastN s (targetBroadcastDims s.dims B.dims) = .ok s
  e7 : vBroadcastN B (targetBroadcastDims s.dims B.dims) = .ok bb
  i7 : Is2 bb N O (fun _ o => Bf o)
  e8 : Tensor.zipRaw Scalar.add s bb = some y
  i8 : Is2 y N O (fun n o => Scalar.add (sumOver D (term Wf Xf n o)) (Bf o))

theorem fc_values {W B X : Tensor α} {N D O : Nat} {Wf Bf : Nat → α} {Xf : Nat → Nat → α}
    (vw : Is1 W O Wf) (vb : Is1 B O Bf) (vx : Is2 X N D Xf) :
    ∃ w1 x1 wb mm s bb y, FCVals W B X N D O Wf Bf Xf w1 x1 wb mm s bb y := by
  have hO := vw.pos
  obtain ⟨hN, hD⟩ := vx.pos
  obtain ⟨w1, e0, i0⟩ := unsq1_vec vw
  obtain ⟨x1, e1, i1⟩ := unsq1_mat vx
  obtain ⟨wb, e2, i2⟩ := bcast_lead3 i0 N hN
  obtain ⟨mm, e4, i4⟩ := matMulRaw3 i2 i1
  obtain ⟨s, e5, i5⟩ := sum_along2 (i4.congr fun n o d _ _ _ => show _ = term Wf Xf n o d by simp [sumOver, term])
  obtain ⟨bb, e7, i7⟩ := bcast_row2 vb N hN
  obtain ⟨y, e8, i8⟩ := zip2 Scalar.add i5 i7
  have htb : targetBroadcastDims w1.dims x1.dims = [N, O, D] := by
    rw [i0.dims, i1.dims]; exact targetBroadcast_fc N O D hO hD
  have htb2 : targetBroadcastDims s.dims B.dims = [N, O] := by
    rw [i5.dims, vb.dims]; simp [targetBroadcastDims, targetBroadcastLE]
  refine ⟨w1, x1, wb, mm, s, bb, y, e0, i0, e1, i1, ?_, ?_, i2, ?_, e4, i4.congr fun _ _ _ _ _ _ => ?_, e5, i5, ?_, ?_, i7, e8, i8⟩
  · rw [i0.dims, i1.dims]; simp [validMatMul]
  · rw [htb, i0.dims]; exact e2
  · rw [htb, show matMulShape [N, O, D] x1.dims = x1.dims by rw [i1.dims]; rfl]; exact vBroadcastN_self x1 i1.wf
  · simp [sumOver, term]
  · rw [htb2, ← i5.dims]; exact vBroadcastN_self s i5.wf
  · rw [htb2]; exact e7

end C16x

variable {α : Type} [Scalar α]

def fcV (W Bv X : Tensor α) : Out (Tensor α) := do
  let w1 ← vUnSqueeze W 1
  let x1 ← vUnSqueeze X 1
  let y ← vMatMul w1 x1
  let s ← vAlong .sum y 2
  vArith .add s Bv

open C16x in
theorem C16x.FCVals.fcV {W B X : Tensor α} {N D O : Nat} {Wf Bf : Nat → α} {Xf : Nat → Nat → α}
    {w1 x1 wb mm s bb y : Tensor α} (q : FCVals W B X N D O Wf Bf Xf w1 x1 wb mm s bb y) : fcV W B X = .ok y := by
  unfold Qeep.fcV
  simp only [bind, Out.bind, q.e0, q.e1, vMatMul_of q.hv q.e2 q.e3 q.e4, q.e5]
  exact vArith_of q.e6 q.e7 q.e8

/-- **FC forward formula** (value level): `y[b][o] = (Σ_d (0 + W[o]·x[b][d])) + B[o]`, dims `[N, O]`, no error, no
    panic — for every batch size `N`, feature count `D` and output count `O` (all ≥ 1) and all values. -/
theorem fcV_spec (N D O : Nat) (w bv xd : List α) (hN : 0 < N) (hD : 0 < D) (hO : 0 < O)
    (hw : w.length = O) (hb : bv.length = O) (hx : xd.length = N * D)
    (Wf Bf : Nat → α) (Xf : Nat → Nat → α)
    (hW : ∀ o, o < O → w[o]? = some (Wf o)) (hB : ∀ o, o < O → bv[o]? = some (Bf o))
    (hX : ∀ b d, b < N → d < D → xd[b * D + d]? = some (Xf b d)) :
    ∃ data, fcV (⟨[O], w⟩ : Tensor α) ⟨[O], bv⟩ ⟨[N, D], xd⟩ = .ok ⟨[N, O], data⟩ ∧ data.length = N * O ∧
      ∀ b o, b < N → o < O →
        (⟨[N, O], data⟩ : Tensor α).at? [b, o] =
          some (Scalar.add
            (((List.range D).map (fun d => Scalar.add Scalar.zero (Scalar.mul (Wf o) (Xf b d)))).foldl Scalar.add Scalar.zero)
            (Bf o)) := by
  obtain ⟨_, _, _, _, _, _, ⟨dims, data⟩, q⟩ := C16x.fc_values (C16x.is1_of_data hO hw hW) (C16x.is1_of_data hO hb hB)
    (C16x.is2_of_data hN hD hx hX)
  obtain rfl : dims = [N, O] := q.i8.dims
  refine ⟨data, q.fcV, by simpa [prod] using q.i8.wf.1, fun b o hb ho => ?_⟩
  rw [at?_some_el _ q.i8.wf (valid2 hb ho), q.i8.el b o hb ho]
  rfl

end Qeep
