import Qeep.Forward
/-!
# Outcomes and validators

A public value operation is a validator in front of a raw operation: `if valid then .ofOpt raw else .err`
(`gate_*`), or a chain of such calls under `Out.bind`. The validator lemmas invert the Bool validators of
`Qeep/Validate.lean` into the arithmetic facts the raw operations need.
-/

namespace Qeep

variable {α β γ : Type}

namespace Out

@[simp] theorem ok_bind (v : β) (f : β → Out γ) : (Out.ok v >>= f) = f v := rfl
@[simp] theorem err_bind (f : β → Out γ) : ((Out.err : Out β) >>= f) = .err := rfl
@[simp] theorem panic_bind (f : β → Out γ) : ((Out.panic : Out β) >>= f) = .panic := rfl

/-- `ok_bind` for a chain written with `.bind` (as in `evalRule`) -/
theorem bind_of_ok (v : β) (f : β → Out γ) : (Out.ok v).bind f = f v := rfl

theorem bind_eq_ok {x : Out β} {f : β → Out γ} {r : γ} : (x >>= f) = .ok r ↔ ∃ v, x = .ok v ∧ f v = .ok r := by
  cases x <;> simp

theorem ofOpt_eq_ok {o : Option β} {r : β} : Out.ofOpt o = .ok r ↔ o = some r := by
  cases o <;> simp [Out.ofOpt]

theorem ne_panic_of {x : Out β} (h : (∃ r, x = .ok r) ∨ x = .err) : x ≠ .panic := by
  rcases h with ⟨r, h⟩ | h <;> rw [h] <;> exact fun e => nomatch e

end Out

theorem gate_eq_ok {c : Bool} {o : Option β} {r : β} :
    (if c = true then Out.ofOpt o else .err) = .ok r ↔ c = true ∧ o = some r := by
  cases c <;> simp [Out.ofOpt_eq_ok]

theorem gate_err {c : Bool} {x : Out β} (h : c = false) : (if c = true then x else .err) = .err := by
  rw [h]; rfl

/-- the two-way form every single-gate totality statement has: the raw operation succeeds on validated arguments -/
theorem gate_total {c : Bool} {o : Option β} {P : β → Prop} (h : c = true → ∃ r, o = some r ∧ P r) :
    (c = true → ∃ r, (if c = true then Out.ofOpt o else .err) = .ok r ∧ P r) ∧
    (c = false → (if c = true then Out.ofOpt o else .err) = .err) :=
  ⟨fun hc => (h hc).imp fun _ hr => ⟨gate_eq_ok.2 ⟨hc, hr.1⟩, hr.2⟩, gate_err⟩

theorem natDims_pos {dims : List Int} (h : validInputDims dims = true) : ∀ d ∈ natDims dims, 0 < d := by
  intro d hd
  obtain ⟨z, hz, rfl⟩ := List.mem_map.mp hd
  have := of_decide_eq_true (List.all_eq_true.mp h z hz)
  omega

theorem validDimLt_iff {dim : Int} {dims : List Nat} : validDimLt dim dims = true ↔ 0 ≤ dim ∧ dim.toNat < dims.length := by
  simp only [validDimLt, Bool.and_eq_true, decide_eq_true_eq]; omega

/-- `{0,0}` (the whole dimension) or a non-empty range inside the dimension -/
theorem validRange_iff {a b : Int} {d : Nat} :
    validRange (a, b) d = true ↔ (a = 0 ∧ b = 0) ∨ (0 ≤ a ∧ a < b ∧ b ≤ (d : Int)) := by
  by_cases h0 : a = 0 ∧ b = 0
  · simp [validRange, h0]
  · have hne : ¬ ((a == 0 && b == 0) = true) := by simpa using h0
    simp only [validRange, if_neg hne]
    by_cases hge : a ≥ b
    · simp only [if_pos hge]; constructor
      · intro h; cases h
      · omega
    · simp only [if_neg hge, Bool.not_eq_true', Bool.or_eq_false_iff, decide_eq_false_iff_not]; omega

theorem validSliceIndex_cons_iff (r : IRange) (rest : List IRange) (d : Nat) (ds : List Nat) :
    validSliceIndex (r :: rest) (d :: ds) = true ↔ (validRange r d = true ∧ validSliceIndex rest ds = true) := by
  simp only [validSliceIndex, List.length_cons, List.zip_cons_cons, List.all_cons, Bool.and_eq_true,
    decide_eq_true_eq, Nat.add_le_add_iff_right, and_left_comm]

theorem validSliceIndex_nil (ds : List Nat) : validSliceIndex [] ds = true := by simp [validSliceIndex]

theorem validPatchIndex_nil_cons {s d : Nat} {ss ds : List Nat} :
    validPatchIndex [] (s :: ss) (d :: ds) = true ↔ s ≤ d ∧ validPatchIndex [] ss ds = true := by
  simp only [validPatchIndex, validSliceIndex_nil, List.length_cons, List.zip_cons_cons, List.all_cons, Bool.and_eq_true,
    decide_eq_true_eq, beq_iff_eq, Nat.add_right_cancel_iff, List.zip_nil_left, List.all_nil, and_true]
  exact ⟨fun h => ⟨h.2.1, h.1, h.2.2⟩, fun h => ⟨h.2.1, h.1, h.2.2⟩⟩

theorem validPatchIndex_cons {r : IRange} {rest : List IRange} {s d : Nat} {ss ds : List Nat} :
    validPatchIndex (r :: rest) (s :: ss) (d :: ds) = true ↔
      s ≤ d ∧ validRange r d = true ∧ ((r.1 = 0 ∧ r.2 = 0) ∨ r.2 - r.1 = (s : Int)) ∧
        validPatchIndex rest ss ds = true := by
  simp only [validPatchIndex, validSliceIndex_cons_iff, List.length_cons, List.zip_cons_cons, List.all_cons, Bool.and_eq_true,
    decide_eq_true_eq, beq_iff_eq, Nat.add_right_cancel_iff, Bool.or_eq_true]
  exact ⟨fun ⟨⟨⟨hlen, hle, hles⟩, hr, hrs⟩, hc, hcs⟩ => ⟨hle, hr, hc, ⟨⟨hlen, hles⟩, hrs⟩, hcs⟩,
    fun ⟨hle, hr, hc, ⟨⟨hlen, hles⟩, hrs⟩, hcs⟩ => ⟨⟨⟨hlen, hle, hles⟩, hr, hrs⟩, hc, hcs⟩⟩

/-- what `ValidateConcatTensorsDimsAlongDim` accepts -/
theorem validConcat_shape (t0 : Tensor α) (rest : List (Tensor α)) (dim : Int)
    (h : validConcat ((t0 :: rest).map (·.dims)) dim = true) :
    0 ≤ dim ∧ dim.toNat < t0.dims.length ∧
    ∀ t ∈ t0 :: rest, t.dims.length = t0.dims.length ∧ ∀ j, j ≠ dim.toNat → t.dims[j]? = t0.dims[j]? := by
  simp only [validConcat, List.map_cons, List.all_eq_true, Bool.and_eq_true, decide_eq_true_eq, beq_iff_eq,
    List.mem_range, Bool.or_eq_true] at h
  obtain ⟨⟨_, hd0, hd1⟩, _⟩ := h t0.dims (by simp)
  refine ⟨hd0, by omega, fun t ht => ?_⟩
  obtain ⟨⟨⟨_, hlen⟩, _⟩, hall⟩ := h t.dims (List.mem_map.mpr ⟨t, ht, rfl⟩)
  refine ⟨hlen, fun j hj => ?_⟩
  by_cases hjl : j < t.dims.length
  · exact (hall j hjl).resolve_left (by omega)
  · rw [List.getElem?_eq_none (by omega), List.getElem?_eq_none (by omega)]

end Qeep
