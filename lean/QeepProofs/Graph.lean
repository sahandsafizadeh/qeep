import Qeep.Grad
/-!
# The back-propagation walk solves the adjoint equations

Generic in the gradient domain `D`, the (partial) accumulation `add` and the (partial) pullbacks `pull`; `runBP` is the
loop of `BackPropagate` (model: `Qeep.Grad`).

* `fold_adjoint`: if the walk succeeds along an order in which no edge points back to an already processed node, every
  node's final gradient is its initial one plus — in processing order, each edge exactly once — the pullbacks of the
  FINAL gradients of its consumers; the number of rule evaluations is the number of edges with a tracked target.
* `visit_spec`: the depth-first order of `backwardOrder` is such an order.
-/

namespace Qeep

section generic
variable {D R : Type} (add : D → D → Out D) (pull : R → D → Out D) (tracked : Nat → Bool)

abbrev Pair (R : Type) := Nat × (Nat × R)

def allPairs (edges : Nat → List (Nat × R)) (order : List Nat) : List (Pair R) :=
  order.flatMap (fun u => (edges u).map (fun e => (u, e)))

def stepPair (s : BPSt D) (p : Pair R) : BPSt D := stepEdge add pull tracked p.1 s p.2

theorem runBP_eq_fold (edges : Nat → List (Nat × R)) (order : List Nat) (s : BPSt D) :
    runBP add pull tracked edges order s = (allPairs edges order).foldl (stepPair add pull tracked) s := by
  unfold runBP allPairs
  induction order generalizing s with
  | nil => rfl
  | cons u us ih =>
    simp only [List.foldl_cons, List.flatMap_cons, List.foldl_append, List.foldl_map]
    rw [ih]; rfl

/-- accumulating the values `gs` in order onto `a` with `accumulateGrad` semantics gives `b`, every addition succeeding -/
inductive Sums : Option D → List D → Option D → Prop
  | nil (a) : Sums a [] a
  | first {g gs b} : Sums (some g) gs b → Sums none (g :: gs) b
  | next {x g s gs b} : add x g = .ok s → Sums (some s) gs b → Sums (some x) (g :: gs) b

theorem mem_allPairs {edges : Nat → List (Nat × R)} {order : List Nat} {p : Pair R} :
    p ∈ allPairs edges order ↔ p.1 ∈ order ∧ p.2 ∈ edges p.1 := by
  unfold allPairs
  simp only [List.mem_flatMap, List.mem_map]
  constructor
  · rintro ⟨u, hu, e, he, rfl⟩; exact ⟨hu, he⟩
  · rintro ⟨hu, he⟩; exact ⟨p.1, hu, p.2, he, rfl⟩

@[simp] theorem updStore_self {G : Nat → Option D} {n : Nat} {g : D} : updStore G n g n = some g := by simp [updStore]

theorem updStore_ne {G : Nat → Option D} {n m : Nat} {g : D} (h : m ≠ n) : updStore G n g m = G m := by simp [updStore, h]

theorem accumG_ok {G G' : Nat → Option D} {n : Nat} {g : D} (h : accumG add G n g = .ok G') :
    ∃ s, G' = updStore G n s ∧ ((G n = none ∧ s = g) ∨ ∃ old, G n = some old ∧ add old g = .ok s) := by
  unfold accumG at h
  split at h
  · cases h; exact ⟨g, rfl, .inl ⟨‹_›, rfl⟩⟩
  · rename_i old ho
    cases ha : add old g <;> rw [ha] at h <;> cases h
    exact ⟨_, rfl, .inr ⟨old, ho, ha⟩⟩

theorem accumG_other {G G' : Nat → Option D} {n : Nat} {g : D} (h : accumG add G n g = .ok G') (m : Nat) (hm : m ≠ n) :
    G' m = G m := by
  obtain ⟨s, rfl, _⟩ := accumG_ok add h
  exact updStore_ne hm

theorem accumG_sums {G G' : Nat → Option D} {n : Nat} {g : D} (h : accumG add G n g = .ok G') {gs : List D} {b : Option D}
    (hs : Sums add (G' n) gs b) : Sums add (G n) (g :: gs) b := by
  obtain ⟨s, rfl, ⟨hn, rfl⟩ | ⟨old, hn, ha⟩⟩ := accumG_ok add h <;> rw [updStore_self] at hs <;> rw [hn]
  · exact .first hs
  · exact .next ha hs

theorem accumG_pres {G G' : Nat → Option D} {n : Nat} {g : D} (h : accumG add G n g = .ok G') (Q : Nat → D → Prop)
    (hG : ∀ m x, G m = some x → Q m x) (hg : Q n g) (hadd : ∀ a s, Q n a → add a g = .ok s → Q n s) :
    ∀ m x, G' m = some x → Q m x := by
  obtain ⟨s, rfl, hs⟩ := accumG_ok add h
  intro m x hx
  by_cases hm : m = n
  · subst hm
    rw [updStore_self] at hx; cases hx
    rcases hs with ⟨_, rfl⟩ | ⟨old, ho, ha⟩
    · exact hg
    · exact hadd old _ (hG m old ho) ha
  · rw [updStore_ne hm] at hx; exact hG m x hx

theorem stepEdge_stuck {u : Nat} {s : BPSt D} {e : Nat × R} (h : s.status ≠ .ok ()) :
    stepEdge add pull tracked u s e = s := by
  unfold stepEdge
  cases hs : s.status with
  | ok _ => exact absurd hs h
  | err => rfl
  | panic => rfl

theorem stepEdge_untracked {u : Nat} {s : BPSt D} {e : Nat × R} (h : tracked e.1 = false) :
    stepEdge add pull tracked u s e = s := by
  unfold stepEdge
  cases s.status <;> simp [h]

/-- the consumer has no gradient: `y.Gradient()` is nil -/
theorem stepEdge_nograd {u : Nat} {s : BPSt D} {e : Nat × R} (hs : s.status = .ok ()) (ht : tracked e.1 = true)
    (hg : s.grads u = none) : stepEdge add pull tracked u s e = { s with status := .panic } := by
  unfold stepEdge; simp [hs, ht, hg]

theorem stepEdge_live {u : Nat} {s : BPSt D} {e : Nat × R} {gy : D} (hs : s.status = .ok ()) (ht : tracked e.1 = true)
    (hg : s.grads u = some gy) :
    stepEdge add pull tracked u s e =
      match (pull e.2 gy).bind (accumG add s.grads e.1) with
      | .ok G' => { grads := G', status := .ok (), calls := s.calls + 1 }
      | .err => { s with status := .err, calls := s.calls + 1 }
      | .panic => { s with status := .panic, calls := s.calls + 1 } := by
  unfold stepEdge
  simp only [hs, ht, hg, if_true]
  cases pull e.2 gy <;> simp only [Out.bind]
  cases accumG add s.grads e.1 _ <;> rfl

theorem stepEdge_cases (u : Nat) (s : BPSt D) (e : Nat × R) :
    (stepEdge add pull tracked u s e = s ∧ (s.status = .ok () → tracked e.1 = false)) ∨
    (∃ st c, st ≠ .ok () ∧ c ≤ s.calls + 1 ∧ stepEdge add pull tracked u s e = { s with status := st, calls := c }) ∨
    (∃ gy g G', s.status = .ok () ∧ tracked e.1 = true ∧ s.grads u = some gy ∧ pull e.2 gy = .ok g ∧
      accumG add s.grads e.1 g = .ok G' ∧
      stepEdge add pull tracked u s e = { grads := G', status := .ok (), calls := s.calls + 1 }) := by
  by_cases hs : s.status = .ok ()
  · cases ht : tracked e.1 with
    | false => exact .inl ⟨stepEdge_untracked add pull tracked ht, fun _ => rfl⟩
    | true =>
      cases hg : s.grads u with
      | none => exact .inr (.inl ⟨.panic, s.calls, nofun, Nat.le_succ _, stepEdge_nograd add pull tracked hs ht hg⟩)
      | some gy =>
        rw [stepEdge_live add pull tracked hs ht hg]
        cases hp : pull e.2 gy with
        | ok g =>
          cases ha : accumG add s.grads e.1 g with
          | ok G' => exact .inr (.inr ⟨gy, g, G', hs, rfl, rfl, hp, ha, by simp [Out.bind, ha]⟩)
          | err => exact .inr (.inl ⟨.err, _, nofun, Nat.le_refl _, by simp [Out.bind, ha]⟩)
          | panic => exact .inr (.inl ⟨.panic, _, nofun, Nat.le_refl _, by simp [Out.bind, ha]⟩)
        | err => exact .inr (.inl ⟨.err, _, nofun, Nat.le_refl _, rfl⟩)
        | panic => exact .inr (.inl ⟨.panic, _, nofun, Nat.le_refl _, rfl⟩)
  · exact .inl ⟨stepEdge_stuck add pull tracked hs, fun h => absurd h hs⟩

theorem fold_stuck (ps : List (Pair R)) (s : BPSt D) (h : s.status ≠ .ok ()) :
    ps.foldl (stepPair add pull tracked) s = s := by
  induction ps with
  | nil => rfl
  | cons p ps ih => rw [List.foldl_cons, stepPair, stepEdge_stuck add pull tracked h, ih]

theorem stepPair_ok (s : BPSt D) (p : Pair R) (hs : s.status = .ok ())
    (h1 : (stepPair add pull tracked s p).status = .ok ()) :
    (tracked p.2.1 = false ∧ stepPair add pull tracked s p = s) ∨
    (tracked p.2.1 = true ∧ ∃ gy g G', s.grads p.1 = some gy ∧ pull p.2.2 gy = .ok g ∧
        accumG add s.grads p.2.1 g = .ok G' ∧ (stepPair add pull tracked s p).grads = G' ∧
        (stepPair add pull tracked s p).calls = s.calls + 1) := by
  unfold stepPair at h1 ⊢
  rcases stepEdge_cases add pull tracked p.1 s p.2 with ⟨e, ht⟩ | ⟨st, c, hst, _, e⟩ | ⟨gy, g, G', _, ht, hg, hp, ha, e⟩
  · exact .inl ⟨ht hs, e⟩
  · rw [e] at h1; exact absurd h1 hst
  · rw [e]; exact .inr ⟨ht, gy, g, G', hg, hp, ha, rfl, rfl⟩

theorem fold_calls_le (ps : List (Pair R)) (s : BPSt D) :
    (ps.foldl (stepPair add pull tracked) s).calls ≤ s.calls + ps.length := by
  induction ps generalizing s with
  | nil => exact Nat.le_refl _
  | cons p ps ih =>
    rw [List.foldl_cons, List.length_cons]
    refine Nat.le_trans (ih _) ?_
    have : (stepPair add pull tracked s p).calls ≤ s.calls + 1 := by
      unfold stepPair
      rcases stepEdge_cases add pull tracked p.1 s p.2 with ⟨e, _⟩ | ⟨st, c, _, hc, e⟩ | ⟨gy, g, G', _, _, _, _, _, e⟩ <;>
        rw [e]
      · exact Nat.le_succ _
      · exact hc
      · exact Nat.le_refl _
    omega

theorem fold_grads_unchanged (ps : List (Pair R)) (s : BPSt D) (m : Nat)
    (h : ∀ p ∈ ps, tracked p.2.1 = true → p.2.1 ≠ m) :
    (ps.foldl (stepPair add pull tracked) s).grads m = s.grads m := by
  induction ps generalizing s with
  | nil => rfl
  | cons p ps ih =>
    rw [List.foldl_cons, ih _ (fun q hq => h q (List.mem_cons_of_mem _ hq))]
    unfold stepPair
    rcases stepEdge_cases add pull tracked p.1 s p.2 with ⟨e, _⟩ | ⟨st, c, _, _, e⟩ | ⟨gy, g, G', _, ht, _, _, ha, e⟩ <;>
      rw [e]
    exact accumG_other add ha m (Ne.symm (h p (by simp) ht))

def Stable : List (Pair R) → Prop
  | [] => True
  | p :: rest => (∀ q ∈ p :: rest, tracked q.2.1 = true → q.2.1 ≠ p.1) ∧ Stable rest

/-- contribution list of node `n`: one value per tracked edge into `n`, in processing order, computed from the
    gradients `G` of the edge sources -/
def contrib (G : Nat → Option D) (ps : List (Pair R)) (n : Nat) : List D :=
  ps.filterMap (fun p =>
    if tracked p.2.1 = true ∧ p.2.1 = n then
      match G p.1 with
      | some gy => (match pull p.2.2 gy with | .ok g => some g | _ => none)
      | none => none
    else none)

theorem mem_contrib {G : Nat → Option D} {ps : List (Pair R)} {n : Nat} {g : D} :
    g ∈ contrib pull tracked G ps n ↔
      ∃ p ∈ ps, tracked p.2.1 = true ∧ p.2.1 = n ∧ ∃ gy, G p.1 = some gy ∧ pull p.2.2 gy = .ok g := by
  unfold contrib
  rw [List.mem_filterMap]
  refine exists_congr fun p => and_congr_right fun _ => ?_
  by_cases hc : tracked p.2.1 = true ∧ p.2.1 = n
  · rw [if_pos hc]
    obtain ⟨ht, rfl⟩ := hc
    cases hG : G p.1 with
    | none => simp
    | some gy => cases hp : pull p.2.2 gy <;> simp [ht, hp]
  · rw [if_neg hc]
    exact ⟨nofun, fun h => absurd ⟨h.1, h.2.1⟩ hc⟩

theorem contrib_eq_nil {G : Nat → Option D} {ps : List (Pair R)} {n : Nat}
    (h : ∀ p ∈ ps, tracked p.2.1 = true → p.2.1 ≠ n) : contrib pull tracked G ps n = [] :=
  List.eq_nil_iff_forall_not_mem.mpr fun _ hg =>
    let ⟨p, hp, ht, hn, _⟩ := (mem_contrib pull tracked).mp hg
    h p hp ht hn

theorem contrib_append (G : Nat → Option D) (A B : List (Pair R)) (n : Nat) :
    contrib pull tracked G (A ++ B) n = contrib pull tracked G A n ++ contrib pull tracked G B n :=
  List.filterMap_append ..

theorem contrib_allPairs (G : Nat → Option D) (edges : Nat → List (Nat × R)) (L : List Nat) (n : Nat) :
    contrib pull tracked G (allPairs edges L) n
      = L.flatMap fun u => contrib pull tracked G ((edges u).map fun e => (u, e)) n := by
  induction L with
  | nil => rfl
  | cons u L ih => rw [allPairs, List.flatMap_cons, contrib_append, ← allPairs, ih, List.flatMap_cons]

theorem Sums.eq_of_nil {a b : Option D} (h : Sums add a [] b) : b = a := by cases h; rfl

theorem Sums.eq_of_single {g : D} {b : Option D} (h : Sums add none [g] b) : b = some g := by
  cases h with | first h => exact h.eq_of_nil

/-- **Adjoint equations.** If the walk over `ps` succeeds and `ps` is stable, then for every node `n` the final
    gradient is the initial one plus the pullbacks of the FINAL gradients of the sources of all tracked edges
    into `n`, each edge exactly once; every such pullback was defined; and the number of rule evaluations is
    the number of tracked-target pairs. -/
theorem fold_adjoint (ps : List (Pair R)) (s : BPSt D) (hs : s.status = .ok ()) (hst : Stable tracked ps)
    (hok : (ps.foldl (stepPair add pull tracked) s).status = .ok ()) :
    (∀ n, Sums add (s.grads n) (contrib pull tracked (ps.foldl (stepPair add pull tracked) s).grads ps n)
        ((ps.foldl (stepPair add pull tracked) s).grads n)) ∧
    (∀ p ∈ ps, tracked p.2.1 = true → ∃ gy g, (ps.foldl (stepPair add pull tracked) s).grads p.1 = some gy ∧ pull p.2.2 gy = .ok g) ∧
    (ps.foldl (stepPair add pull tracked) s).calls = s.calls + (ps.filter (fun p => tracked p.2.1)).length := by
  induction ps generalizing s with
  | nil =>
    refine ⟨fun n => .nil _, ?_, by simp⟩
    intro p hp; simp at hp
  | cons p rest ih =>
    simp only [List.foldl_cons] at hok ⊢
    have h1 : (stepPair add pull tracked s p).status = .ok () := by
      cases hq : (stepPair add pull tracked s p).status with
      | ok u => rfl
      | err => rw [fold_stuck add pull tracked rest _ (by rw [hq]; nofun), hq] at hok; cases hok
      | panic => rw [fold_stuck add pull tracked rest _ (by rw [hq]; nofun), hq] at hok; cases hok
    obtain ⟨hA, hB, hC⟩ := ih (stepPair add pull tracked s p) h1 hst.2 hok
    -- the gradient of the source p.1 is never touched from here on
    have hsrc_rest : (rest.foldl (stepPair add pull tracked) (stepPair add pull tracked s p)).grads p.1
        = (stepPair add pull tracked s p).grads p.1 :=
      fold_grads_unchanged add pull tracked rest _ p.1 (fun q hq ht => hst.1 q (List.mem_cons_of_mem _ hq) ht)
    rcases stepPair_ok add pull tracked s p hs h1 with ⟨ht, heq⟩ | ⟨ht, gy, g, G', hgy, hpull, hacc, hG, hcalls⟩
    ·
      rw [heq] at hA hB hC ⊢
      refine ⟨fun n => ?_, ?_, ?_⟩
      · have : contrib pull tracked (rest.foldl (stepPair add pull tracked) s).grads (p :: rest) n
            = contrib pull tracked (rest.foldl (stepPair add pull tracked) s).grads rest n := by
          simp [contrib, ht]
        rw [this]; exact hA n
      · intro q hq htq
        rcases List.mem_cons.mp hq with rfl | hq
        · rw [ht] at htq; cases htq
        · exact hB q hq htq
      · simp [ht, hC]
    ·
      have hsrc_step : (stepPair add pull tracked s p).grads p.1 = s.grads p.1 := by
        rw [hG]; exact accumG_other add hacc p.1 (Ne.symm (hst.1 p (by simp) ht))
      have hfinal : (rest.foldl (stepPair add pull tracked) (stepPair add pull tracked s p)).grads p.1 = some gy := by
        rw [hsrc_rest, hsrc_step, hgy]
      refine ⟨fun n => ?_, ?_, ?_⟩
      · by_cases hn : p.2.1 = n
        · subst hn
          have : contrib pull tracked (rest.foldl (stepPair add pull tracked) (stepPair add pull tracked s p)).grads (p :: rest) p.2.1
              = g :: contrib pull tracked (rest.foldl (stepPair add pull tracked) (stepPair add pull tracked s p)).grads rest p.2.1 := by
            simp [contrib, ht, hfinal, hpull]
          rw [this]
          have hA' := hA p.2.1
          rw [hG] at hA'
          exact accumG_sums add hacc hA'
        · have : contrib pull tracked (rest.foldl (stepPair add pull tracked) (stepPair add pull tracked s p)).grads (p :: rest) n
              = contrib pull tracked (rest.foldl (stepPair add pull tracked) (stepPair add pull tracked s p)).grads rest n := by
            simp [contrib, hn]
          rw [this]
          have hA' := hA n
          rw [hG, accumG_other add hacc n (Ne.symm hn)] at hA'
          exact hA'
      · intro q hq htq
        rcases List.mem_cons.mp hq with rfl | hq
        · exact ⟨gy, g, hfinal, hpull⟩
        · exact hB q hq htq
      · rw [hC, hcalls]; simp [ht]; omega

end generic
end Qeep

namespace Qeep

def DagS (S : Nat → List Nat) : Prop := ∀ n c, c ∈ S n → c < n

def ClosedS (S : Nat → List Nat) (done : List Nat) : Prop := ∀ a ∈ done, ∀ c ∈ S a, c ∈ done

/-- newest first; no edge from a later (older in discovery) element to an earlier one -/
inductive TopoS (S : Nat → List Nat) : List Nat → Prop
  | nil : TopoS S []
  | cons {m rest} : (∀ b ∈ rest, m ∉ S b) → m ∉ rest → TopoS S rest → TopoS S (m :: rest)

structure DInv (S : Nat → List Nat) (done : List Nat) : Prop where
  closed : ClosedS S done
  topo : TopoS S done

structure Ext (bound : Nat) (d d' : List Nat) : Prop where
  mono : ∀ a ∈ d, a ∈ d'
  small : ∀ a ∈ d', a ∈ d ∨ a ≤ bound

theorem Ext.refl (b : Nat) (d : List Nat) : Ext b d d := ⟨fun _ h => h, fun _ h => Or.inl h⟩

theorem Ext.trans {b : Nat} {d1 d2 d3 : List Nat} (h12 : Ext b d1 d2) (h23 : Ext b d2 d3) : Ext b d1 d3 :=
  ⟨fun a h => h23.mono a (h12.mono a h), fun a h => by
    rcases h23.small a h with h | h
    · exact h12.small a h
    · exact Or.inr h⟩

theorem Ext.weaken {b b' : Nat} {d d' : List Nat} (h : Ext b d d') (hb : b ≤ b') : Ext b' d d' :=
  ⟨h.mono, fun a ha => by rcases h.small a ha with h | h; exact Or.inl h; exact Or.inr (Nat.le_trans h hb)⟩

theorem visit_spec (S : Nat → List Nat) (hdag : DagS S) :
    ∀ (f n : Nat) (done : List Nat), n < f → DInv S done →
      DInv S (visit S f n done) ∧ Ext n done (visit S f n done) ∧ n ∈ visit S f n done
  | 0, n, done, hf, _ => by omega
  | f + 1, n, done, hf, hinv => by
    unfold visit
    by_cases hmem : n ∈ done
    · rw [if_pos hmem]
      exact ⟨hinv, Ext.refl _ _, hmem⟩
    · rw [if_neg hmem]
      have fold : ∀ (cs : List Nat) (d : List Nat), (∀ c ∈ cs, c < n) → DInv S d →
          DInv S (cs.foldl (fun d c => visit S f c d) d) ∧
          Ext (n - 1) d (cs.foldl (fun d c => visit S f c d) d) ∧
          (∀ c ∈ cs, c ∈ cs.foldl (fun d c => visit S f c d) d) := by
        intro cs
        induction cs with
        | nil => intro d _ hd; exact ⟨hd, Ext.refl _ _, by simp⟩
        | cons c cs ih =>
          intro d hlt hd
          have hc : c < n := hlt c (by simp)
          obtain ⟨h1, h2, h3⟩ := visit_spec S hdag f c d (by omega) hd
          obtain ⟨g1, g2, g3⟩ := ih (visit S f c d) (fun x hx => hlt x (by simp [hx])) h1
          refine ⟨by simpa [List.foldl] using g1, ?_, ?_⟩
          · simpa [List.foldl] using (h2.weaken (by omega)).trans g2
          · intro x hx
            simp only [List.foldl]
            rcases List.mem_cons.mp hx with rfl | hx
            · exact g2.mono _ h3
            · exact g3 x hx
      obtain ⟨k1, k2, k3⟩ := fold (S n) done (fun c hc => hdag n c hc) hinv
      have hn_notin : n ∉ (S n).foldl (fun d c => visit S f c d) done := by
        intro hin
        rcases k2.small n hin with h | h
        · exact hmem h
        · have : 0 < n := by
            rcases Nat.eq_zero_or_pos n with h0 | h0
            · subst h0
              have : S 0 = [] := by
                cases hs : S 0 with
                | nil => rfl
                | cons c cs => exact absurd (hdag 0 c (by simp [hs])) (by omega)
              rw [this, List.foldl_nil] at hin; exact absurd hin hmem
            · exact h0
          omega
      refine ⟨⟨?_, ?_⟩, ?_, by simp⟩
      · intro a ha c hc
        rcases List.mem_cons.mp ha with rfl | ha
        · exact List.mem_cons_of_mem _ (k3 c hc)
        · exact List.mem_cons_of_mem _ (k1.closed a ha c hc)
      · exact TopoS.cons (fun b hb hnb => hn_notin (k1.closed b hb n hnb)) hn_notin k1.topo
      · exact ⟨fun a ha => List.mem_cons_of_mem _ (k2.mono a ha), fun a ha => by
          rcases List.mem_cons.mp ha with rfl | ha
          · exact Or.inr (Nat.le_refl _)
          · rcases k2.small a ha with h | h
            · exact Or.inl h
            · exact Or.inr (by omega)⟩

theorem flatMap_eq_of_single {β : Type} {f : Nat → List β} {u : Nat} : ∀ {L : List Nat}, L.Nodup → u ∈ L →
    (∀ v ∈ L, v ≠ u → f v = []) → L.flatMap f = f u
  | x :: L, hnd, hu, h0 => by
    have hx := List.nodup_cons.mp hnd
    rw [List.flatMap_cons]
    by_cases hxu : x = u
    · subst hxu
      have : L.flatMap f = [] :=
        List.flatMap_eq_nil_iff.mpr fun v hv => h0 v (List.mem_cons_of_mem _ hv) (fun e => hx.1 (e ▸ hv))
      rw [this, List.append_nil]
    · rw [h0 x (List.mem_cons_self ..) hxu, List.nil_append]
      exact flatMap_eq_of_single hx.2 ((List.mem_cons.mp hu).resolve_left (Ne.symm hxu))
        fun v hv => h0 v (List.mem_cons_of_mem _ hv)

theorem TopoS.nodup {S : Nat → List Nat} : ∀ {l : List Nat}, TopoS S l → l.Nodup
  | _, .nil => List.nodup_nil
  | _, .cons _ hnot ht => List.nodup_cons.mpr ⟨hnot, ht.nodup⟩

section stable
variable {R : Type} (tracked : Nat → Bool)

theorem stable_append : ∀ (A B : List (Pair R)), Stable tracked A → Stable tracked B →
    (∀ p ∈ A, ∀ q ∈ B, tracked q.2.1 = true → q.2.1 ≠ p.1) → Stable tracked (A ++ B)
  | [], B, _, hB, _ => hB
  | p :: A, B, hA, hB, hAB => by
    refine ⟨?_, stable_append A B hA.2 hB (fun a ha q hq => hAB a (List.mem_cons_of_mem _ ha) q hq)⟩
    intro q hq ht
    rcases List.mem_cons.mp hq with rfl | hq
    · exact hA.1 _ (by simp) ht
    · rcases List.mem_append.mp hq with hq | hq
      · exact hA.1 q (List.mem_cons_of_mem _ hq) ht
      · exact hAB p (by simp) q hq ht

/-- **a DFS order makes the edge sequence stable**: when `S u` lists the tracked targets of `u`'s edges, successors
    point to older nodes and `order` is topological, no edge targets the source of an earlier-or-same edge -/
theorem stable_of_topo (S : Nat → List Nat) (edges : Nat → List (Nat × R)) (hdag : DagS S)
    (hS : ∀ u e, e ∈ edges u → tracked e.1 = true → e.1 ∈ S u) :
    ∀ (order : List Nat), TopoS S order → Stable tracked (allPairs edges order)
  | [], _ => trivial
  | m :: rest, .cons hback _ ht => by
    have ih := stable_of_topo S edges hdag hS rest ht
    unfold allPairs
    simp only [List.flatMap_cons]
    apply stable_append
    · -- pairs of m itself: all sources are m, targets are older than m
      have : ∀ (es : List (Nat × R)), (∀ e ∈ es, e ∈ edges m) → Stable tracked (es.map (fun e => (m, e))) := by
        intro es
        induction es with
        | nil => intro _; trivial
        | cons e es ihe =>
          intro hsub
          refine ⟨?_, ihe (fun x hx => hsub x (List.mem_cons_of_mem _ hx))⟩
          intro q hq htq
          have hq' : q ∈ (e :: es).map (fun e => (m, e)) := by simpa using hq
          obtain ⟨e', he', rfl⟩ := List.mem_map.mp hq'
          have := hdag m e'.1 (hS m e' (hsub e' he') htq)
          simp only
          omega
      exact this (edges m) (fun e he => he)
    · exact ih
    · intro p hp q hq htq
      obtain ⟨e, he, rfl⟩ := List.mem_map.mp hp
      unfold allPairs at hq
      obtain ⟨b, hb, hqb⟩ := List.mem_flatMap.mp hq
      obtain ⟨e', he', rfl⟩ := List.mem_map.mp hqb
      simp only
      intro heq
      exact hback b hb (heq ▸ hS b e' he' htq)

end stable
end Qeep

namespace Qeep

theorem foldl_keeps {β γ : Type} {g : β → γ → β} {Q : β → Prop} :
    ∀ (cs : List γ) (d : β), (∀ c ∈ cs, ∀ d, Q d → Q (g d c)) → Q d → Q (cs.foldl g d)
  | [], _, _, h => h
  | c :: cs, d, hg, h =>
    foldl_keeps cs _ (fun c' hc' => hg c' (List.mem_cons_of_mem _ hc')) (hg c (List.mem_cons_self ..) d h)

theorem visit_mono (S : Nat → List Nat) (f : Nat) : ∀ (n : Nat) (done : List Nat) (z : Nat), z ∈ done → z ∈ visit S f n done := by
  induction f with
  | zero => exact fun _ _ _ h => h
  | succ f ih =>
    intro n done z h
    unfold visit
    split
    · exact h
    · exact List.mem_cons_of_mem _ (foldl_keeps (Q := (z ∈ ·)) _ _ (fun c _ d hd => ih c d z hd) h)

theorem visit_subset (S : Nat → List Nat) (P : Nat → Prop) (hcl : ∀ u, P u → ∀ v ∈ S u, P v) (f : Nat) :
    ∀ (n : Nat) (done : List Nat), P n → (∀ d ∈ done, P d) → ∀ m ∈ visit S f n done, P m := by
  induction f with
  | zero => exact fun _ _ _ hd => hd
  | succ f ih =>
    intro n done hn hd m hm
    unfold visit at hm
    split at hm
    · exact hd m hm
    · rcases List.mem_cons.mp hm with rfl | hm
      · exact hn
      · exact foldl_keeps (Q := fun d => ∀ x ∈ d, P x) (S n) done
          (fun c hc d hd' => ih c d (hcl n hn c hc) hd') hd m hm

end Qeep
