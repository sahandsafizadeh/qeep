import Qeep.Components
/-!
# The heap frame: forward operations only allocate, the backward pass only rewrites contexts

`Frame m`: whenever the heap computation `m` succeeds, the resulting heap extends the old one — every existing
node keeps its value AND its context. Every public forward operation, every component forward pass and the
optimizer step is a `Frame`.

`Allocs P m` says in addition that the context of every node `m` allocates satisfies `P`. The decomposition of each
operation into its allocations is done once, for `Allocs`; `Frame` is the case `P := fun _ => True`.

Before that, the vocabulary every statement about a forward run is made of: `push` (what a heap with one more node looks
like), `mkCtx_eq` (the context of the new node), the equations of the heap monad, and for each operation one equivalence
`h*_iff` between "the run succeeds with `r`, `H'`" and "the value-level function succeeds and `H'` is `H` with these nodes
pushed". The modules `Vals`, `Run`, `Live`, `Alloc` and the `run_*` lemmas of `C12g` read theirs off these.
-/
set_option linter.unusedSectionVars false

namespace Qeep

variable {α : Type}

/-- `H'` has all nodes of `H`, unchanged -/
def Extends (H H' : Heap α) : Prop := H.size ≤ H'.size ∧ ∀ n, n < H.size → H'[n]? = H[n]?

theorem Extends.refl (H : Heap α) : Extends H H := ⟨Nat.le_refl _, fun _ _ => rfl⟩

theorem Extends.trans {H1 H2 H3 : Heap α} (a : Extends H1 H2) (b : Extends H2 H3) : Extends H1 H3 :=
  ⟨Nat.le_trans a.1 b.1, fun n hn => by rw [b.2 n (Nat.lt_of_lt_of_le hn a.1), a.2 n hn]⟩

theorem Extends.val {H H' : Heap α} (e : Extends H H') {n : Nat} (hn : n < H.size) : H'.val n = H.val n := by
  simp [Heap.val, e.2 n hn]

theorem Extends.ctx {H H' : Heap α} (e : Extends H H') {n : Nat} (hn : n < H.size) : H'.ctx n = H.ctx n := by
  simp [Heap.ctx, e.2 n hn]

theorem Extends.tracked {H H' : Heap α} (e : Extends H H') {n : Nat} (hn : n < H.size) : H'.tracked n = H.tracked n :=
  congrArg Ctx.tracked (e.ctx hn)

theorem Extends.dirty {H H' : Heap α} (e : Extends H H') {n : Nat} (hn : n < H.size) : H'.dirty n = H.dirty n :=
  congrArg Ctx.dirty (e.ctx hn)

theorem Extends.grad {H H' : Heap α} (e : Extends H H') {n : Nat} (hn : n < H.size) : H'.grad n = H.grad n :=
  congrArg Ctx.grad (e.ctx hn)

/-! ## `push`: the only way a heap grows -/

theorem extends_push (H : Heap α) (nd : Node α) : Extends H (H.push nd) :=
  ⟨by simp, fun n hn => by simp [Array.getElem?_push, Nat.ne_of_lt hn]⟩

theorem push_val_new (H : Heap α) (nd : Node α) : Heap.val (H.push nd) H.size = nd.val := by simp [Heap.val]

theorem ctx_of_size_le (H : Heap α) {n : Nat} (h : H.size ≤ n) : H.ctx n = {} := by
  simp [Heap.ctx, Array.getElem?_eq_none h]

theorem ctx_push (H : Heap α) (nd : Node α) (n : Nat) : Heap.ctx (H.push nd) n = if n = H.size then nd.ctx else H.ctx n := by
  split
  · subst n; simp [Heap.ctx]
  · rename_i hne
    rcases Nat.lt_or_ge n H.size with hn | hn
    · exact (extends_push H nd).ctx hn
    · rw [ctx_of_size_le H hn, ctx_of_size_le _ (by rw [Array.size_push]; omega)]

theorem ctx_push_self (H : Heap α) (nd : Node α) : Heap.ctx (H.push nd) H.size = nd.ctx := by
  rw [ctx_push, if_pos rfl]

theorem push_node (H : Heap α) (t : Tensor α) (c : Ctx α) :
    (H.push ⟨t, c⟩).size = H.size + 1 ∧ Heap.ctx (H.push ⟨t, c⟩) H.size = c ∧ Extends H (H.push ⟨t, c⟩) :=
  ⟨Array.size_push .., ctx_push_self H _, extends_push H _⟩

/-! ## `mkCtx`: the three contexts an operation can hand out

`mkCtx_eq` is the normal form; every other fact about `mkCtx` is read off it. `dirty` is the model's name for what the prose
calls a spent tensor: one that a `BackPropagate` has consumed. -/

/-- the context of a result with back edges -/
def C15x.liveCtx (edges : List (Edge α)) : Ctx α := { tracked := true, edges := edges }

open C15x (liveCtx)

/-- the three-way head of `gradients.go`: spent if an operand is spent; otherwise a node with back edges if an operand is
    tracked, and an untracked leaf if none is -/
theorem mkCtx_eq (H : Heap α) (ops : List Nat) (es : List (Edge α)) :
    mkCtx H ops es = if ops.any H.dirty then dirtyCtx else if ops.any H.tracked then liveCtx es else freshCtx false := by
  unfold mkCtx
  rw [List.all_eq_not_any_not]
  simp only [Bool.not_not]
  cases ops.any H.dirty <;> cases ops.any H.tracked <;> rfl

theorem mkCtx_spent (H : Heap α) (ops : List Nat) (edges : List (Edge α)) (hs : ∃ n ∈ ops, H.dirty n = true) :
    mkCtx H ops edges = dirtyCtx := by
  rw [mkCtx_eq, if_pos (List.any_eq_true.2 hs)]

theorem mkCtx_clean (H : Heap α) (ops : List Nat) (es : List (Edge α)) (hc : ∀ n ∈ ops, H.dirty n = false) :
    mkCtx H ops es = if ops.any H.tracked then liveCtx es else freshCtx false := by
  rw [mkCtx_eq, if_neg fun h => by
    obtain ⟨n, hn, h⟩ := List.any_eq_true.1 h
    rw [hc n hn] at h; cases h]

/-- a result over unspent operands is unspent, tracked exactly when one of the operands is, and then has its back edges -/
theorem mkCtx_flags (H : Heap α) (ops : List Nat) (es : List (Edge α)) (hc : ∀ n ∈ ops, H.dirty n = false) :
    (mkCtx H ops es).dirty = false ∧ (mkCtx H ops es).tracked = ops.any H.tracked ∧
    (ops.any H.tracked = true → (mkCtx H ops es).edges = es) := by
  rw [mkCtx_clean H ops es hc]
  cases ops.any H.tracked
  · exact ⟨rfl, rfl, nofun⟩
  · exact ⟨rfl, rfl, fun _ => rfl⟩

theorem mkCtx_tracked_edges (H : Heap α) (ops : List Nat) (es : List (Edge α)) (h : (mkCtx H ops es).tracked = true) :
    (mkCtx H ops es).edges = es := by
  rw [mkCtx_eq] at h ⊢
  split at h
  · cases h
  · split at h
    · rw [if_neg ‹_›, if_pos ‹_›]; rfl
    · cases h

theorem any_congr_mem {β : Type} (l : List β) (p q : β → Bool) (h : ∀ a ∈ l, p a = q a) : l.any p = l.any q := by
  induction l with
  | nil => rfl
  | cons a l ih => rw [List.any_cons, List.any_cons, h a (List.mem_cons_self ..), ih fun b hb => h b (List.mem_cons_of_mem _ hb)]

/-- `mkCtx` reads only the flags of the operands -/
theorem mkCtx_congr {H H' : Heap α} {ops : List Nat} (h : ∀ n ∈ ops, H'.ctx n = H.ctx n) (es : List (Edge α)) :
    mkCtx H' ops es = mkCtx H ops es := by
  rw [mkCtx_eq, mkCtx_eq, any_congr_mem ops H'.dirty H.dirty fun n hn => congrArg Ctx.dirty (h n hn),
    any_congr_mem ops H'.tracked H.tracked fun n hn => congrArg Ctx.tracked (h n hn)]

theorem mkCtx_ext {H H' : Heap α} (e : Extends H H') (ops : List Nat) (hops : ∀ n ∈ ops, n < H.size) (es : List (Edge α)) :
    mkCtx H' ops es = mkCtx H ops es :=
  mkCtx_congr (fun n hn => e.ctx (hops n hn)) es

theorem mkCtx_cases (H : Heap α) (ops : List Nat) (es : List (Edge α)) :
    ((∃ n ∈ ops, H.dirty n = true) ∧ mkCtx H ops es = dirtyCtx) ∨
    ((∀ n ∈ ops, H.dirty n = false) ∧ (∀ n ∈ ops, H.tracked n = false) ∧ mkCtx H ops es = freshCtx false) ∨
    ((∀ n ∈ ops, H.dirty n = false) ∧ (∃ n ∈ ops, H.tracked n = true) ∧
      mkCtx H ops es = { tracked := true, edges := es }) := by
  rw [mkCtx_eq]
  by_cases hd : ops.any H.dirty = true
  · exact .inl ⟨by simpa using hd, if_pos hd⟩
  · have hd' : ∀ n ∈ ops, H.dirty n = false := by simpa using hd
    rw [if_neg hd]
    by_cases ht : ops.any H.tracked = true
    · exact .inr (.inr ⟨hd', by simpa using ht, if_pos ht⟩)
    · exact .inr (.inl ⟨hd', by simpa using ht, if_neg ht⟩)

theorem mkCtx_edges_sub (H : Heap α) (ops : List Nat) (edges : List (Edge α)) :
    ∀ e ∈ (mkCtx H ops edges).edges, e ∈ edges := by
  intro e he
  rcases mkCtx_cases H ops edges with ⟨_, h⟩ | ⟨_, _, h⟩ | ⟨_, _, h⟩ <;> rw [h] at he
  · simp [dirtyCtx] at he
  · simp [freshCtx] at he
  · exact he

/-- a property shared by the contexts `NewDirtyGradContext`, `NewGradContext` and the tracked constructor hand out: the
    class of predicates for which `Allocs P` holds of every operation -/
structure CtxOK (P : Ctx α → Prop) : Prop where
  dirty : P dirtyCtx
  fresh : ∀ b, P (freshCtx b)
  live : ∀ es, P { tracked := true, edges := es }

theorem CtxOK.mkCtx {P : Ctx α → Prop} (hP : CtxOK P) (H : Heap α) (ops : List Nat) (es : List (Edge α)) :
    P (mkCtx H ops es) := by
  rw [mkCtx_eq]
  split
  · exact hP.dirty
  · split
    · exact hP.live _
    · exact hP.fresh _

/-! ## the heap monad

How `>>=`, `getHeap`, `pure`, `liftOut` and `alloc` run (an equation, `rfl`) and what a successful run of each says
(`*_ok`, `alloc_eq`); `bind_ok_iff` is both for `>>=`. -/

theorem hm_bind {β γ : Type} (m : HM α β) (f : β → HM α γ) (H : Heap α) :
    (m >>= f) H = (m H).bind (fun p => f p.1 p.2) := rfl

theorem bind_run {β γ : Type} {m : HM α β} {f : β → HM α γ} {H H1 : Heap α} {a : β} (h : m H = .ok (a, H1)) :
    (m >>= f) H = f a H1 := by
  rw [hm_bind, h]; rfl

theorem bind_ok {β γ : Type} {m : HM α β} {f : β → HM α γ} {H H' : Heap α} {r : γ}
    (h : (m >>= f) H = .ok (r, H')) : ∃ a H1, m H = .ok (a, H1) ∧ f a H1 = .ok (r, H') := by
  rw [hm_bind] at h
  cases hm : m H with
  | ok p => rw [hm] at h; exact ⟨p.1, p.2, rfl, h⟩
  | err => rw [hm] at h; cases h
  | panic => rw [hm] at h; cases h

theorem bind_ok_iff {β γ : Type} {m : HM α β} {f : β → HM α γ} {H H' : Heap α} {r : γ} :
    (m >>= f) H = .ok (r, H') ↔ ∃ a H1, m H = .ok (a, H1) ∧ f a H1 = .ok (r, H') :=
  ⟨bind_ok, fun ⟨_, _, h1, h2⟩ => (bind_run h1).trans h2⟩

theorem getHeap_run (H : Heap α) : (getHeap : HM α (Heap α)) H = .ok (H, H) := rfl

theorem getHeap_bind {β : Type} (f : Heap α → HM α β) (H : Heap α) : (getHeap >>= f) H = f H H := rfl

theorem getHeap_ok {H H' : Heap α} {r : Heap α} (h : (getHeap : HM α (Heap α)) H = .ok (r, H')) : r = H ∧ H' = H := by
  cases h; exact ⟨rfl, rfl⟩

theorem pure_ok {β : Type} {a r : β} {H H' : Heap α} (h : (pure a : HM α β) H = .ok (r, H')) : r = a ∧ H' = H := by
  cases h; exact ⟨rfl, rfl⟩

theorem liftOut_run {β : Type} (r : β) (H : Heap α) : (liftOut (.ok r) : HM α β) H = .ok (r, H) := rfl

theorem liftOut_ok {β : Type} {o : Out β} {H H' : Heap α} {r : β} (h : (liftOut o : HM α β) H = .ok (r, H')) :
    o = .ok r ∧ H' = H := by
  cases o <;> cases h; exact ⟨rfl, rfl⟩

theorem alloc_run (v : Tensor α) (c : Ctx α) (H : Heap α) : alloc v c H = .ok (H.size, H.push ⟨v, c⟩) := rfl

theorem alloc_eq {v : Tensor α} {c : Ctx α} {H H' : Heap α} {r : Nat} (h : alloc v c H = .ok (r, H')) :
    H' = H.push ⟨v, c⟩ ∧ r = H.size := by
  cases h; exact ⟨rfl, rfl⟩

/-! ## what one operation allocates

One statement per shape of operation, as an equivalence: the run succeeds with result `r` and heap `H'` exactly when the
value-level function succeeds, `r` is the next free index and `H'` is `H` with one node pushed, whose context `mkCtx` forms
from the operands and the back edges. `tail_iff` is the shape of every operation that reads the heap, computes and
allocates once (`hOp1`, `hPatch`, `hCmp`, `hConcat`, and `hArith` / `hDot` / `hMatMul` after their operands went through
`Broadcast`); each operation has its instance `h*_iff` below. What the pushed node looks like is `push_node` / `ctx_push` /
`push_val_new`, what its context is is `mkCtx_eq`: a new operation needs its `h*_iff` and nothing else. -/

theorem ofOpt_ok {β : Type} {o : Option β} {t : β} : Out.ofOpt o = .ok t ↔ o = some t := by
  cases o
  · exact ⟨nofun, nofun⟩
  · exact ⟨fun h => congrArg some (Out.ok.inj h), fun h => congrArg Out.ok (Option.some.inj h)⟩

theorem tail_iff {f : Heap α → Out (Tensor α)} {c : Heap α → Ctx α} {H H' : Heap α} {r : Nat} :
    (do let H ← getHeap; let t ← liftOut (f H); alloc t (c H) : HM α Nat) H = .ok (r, H') ↔
      ∃ t, f H = .ok t ∧ r = H.size ∧ H' = H.push ⟨t, c H⟩ := by
  rw [getHeap_bind]
  constructor
  · intro h
    obtain ⟨t, H1, g, k⟩ := bind_ok h
    obtain ⟨e, rfl⟩ := liftOut_ok g
    obtain ⟨rfl, rfl⟩ := alloc_eq k
    exact ⟨t, e, rfl, rfl⟩
  · rintro ⟨t, e, rfl, rfl⟩
    rw [e]; rfl

/-- back edges of the four arithmetic operations (`gradtrack.Add` … `gradtrack.Div`) towards the two `Broadcast` copies of
    their operands -/
def arithEdges (o : Arith) (a' b' : Nat) : List (Edge α) :=
  match o with
  | .add => [⟨a', .idG⟩, ⟨b', .idG⟩]
  | .sub => [⟨a', .idG⟩, ⟨b', .negG⟩]
  | .mul => [⟨a', .mulG b'⟩, ⟨b', .mulG a'⟩]
  | .div => [⟨a', .divA b'⟩, ⟨b', .divB a' b'⟩]

section
variable [Scalar α] {H H' : Heap α} {r : Nat}

/-- what a one-operand operation allocates: one node, holding the value, whose context `mkCtx` forms from the flags of
    the operand and the single back edge to it -/
theorem hOp1_run (x : Nat) (t : Tensor α) (rule : Nat → Rule α) (H : Heap α) :
    hOp1 x (.ok t) rule H = .ok (H.size, H.push ⟨t, mkCtx H [x] [⟨x, rule H.size⟩]⟩) := rfl

theorem hLeaf_run (v : Tensor α) (b : Bool) (H : Heap α) : hLeaf v b H = .ok (H.size, H.push ⟨v, freshCtx b⟩) := rfl

theorem hOp1_iff {x : Nat} {v : Out (Tensor α)} {rule : Nat → Rule α} :
    hOp1 x v rule H = .ok (r, H') ↔ ∃ t, v = .ok t ∧ r = H.size ∧ H' = H.push ⟨t, mkCtx H [x] [⟨x, rule H.size⟩]⟩ :=
  ⟨fun h => by cases v <;> cases h; exact ⟨_, rfl, rfl, rfl⟩, by rintro ⟨t, rfl, rfl, rfl⟩; rfl⟩

theorem hOp1_ok {x : Nat} {v : Out (Tensor α)} {rule : Nat → Rule α}
    (h : hOp1 x v rule H = .ok (r, H')) :
    ∃ t, v = .ok t ∧ r = H.size ∧ H' = H.push ⟨t, mkCtx H [x] [⟨x, rule H.size⟩]⟩ := hOp1_iff.1 h

theorem hOp1_node {x : Nat} {v : Out (Tensor α)} {rule : Nat → Rule α}
    (h : hOp1 x v rule H = .ok (r, H')) :
    r = H.size ∧ H'.size = H.size + 1 ∧ Extends H H' ∧ H'.ctx H.size = mkCtx H [x] [⟨x, rule H.size⟩] := by
  obtain ⟨t, _, rfl, rfl⟩ := hOp1_ok h
  exact ⟨rfl, (push_node H t _).1, (push_node H t _).2.2, (push_node H t _).2.1⟩

/-- the operations that read the heap and call `hOp1`; `v` and `rule` are given by name at each instance: left to
    unification, the value-level function would be unfolded -/
theorem viaOp1_iff {x : Nat} (v : Heap α → Out (Tensor α)) (rule : Heap α → Nat → Rule α) :
    (do let H ← getHeap; hOp1 x (v H) (rule H) : HM α Nat) H = .ok (r, H') ↔
      ∃ t, v H = .ok t ∧ r = H.size ∧ H' = H.push ⟨t, mkCtx H [x] [⟨x, rule H H.size⟩]⟩ := hOp1_iff

variable {x : Nat}

theorem hSlice_iff {i : List IRange} : hSlice x i H = .ok (r, H') ↔
    ∃ t, vSlice (H.val x) i = .ok t ∧ r = H.size ∧ H' = H.push ⟨t, mkCtx H [x] [⟨x, .sliceX x i⟩]⟩ :=
  viaOp1_iff (fun H => vSlice (H.val x) i) fun _ _ => .sliceX x i

theorem hTranspose_iff : hTranspose x H = .ok (r, H') ↔
    ∃ t, vTranspose (H.val x) = .ok t ∧ r = H.size ∧ H' = H.push ⟨t, mkCtx H [x] [⟨x, .transposeX⟩]⟩ :=
  viaOp1_iff (fun H => vTranspose (H.val x)) fun _ _ => .transposeX

theorem hReshape_iff {s : List Int} : hReshape x s H = .ok (r, H') ↔
    ∃ t, vReshape (H.val x) s = .ok t ∧ r = H.size ∧ H' = H.push ⟨t, mkCtx H [x] [⟨x, .reshapeX x⟩]⟩ :=
  viaOp1_iff (fun H => vReshape (H.val x) s) fun _ _ => .reshapeX x

theorem hUnSqueeze_iff {d : Int} : hUnSqueeze x d H = .ok (r, H') ↔
    ∃ t, vUnSqueeze (H.val x) d = .ok t ∧ r = H.size ∧ H' = H.push ⟨t, mkCtx H [x] [⟨x, .reshapeX x⟩]⟩ :=
  viaOp1_iff (fun H => vUnSqueeze (H.val x) d) fun _ _ => .reshapeX x

theorem hSqueeze_iff {d : Int} : hSqueeze x d H = .ok (r, H') ↔
    ∃ t, vSqueeze (H.val x) d = .ok t ∧ r = H.size ∧ H' = H.push ⟨t, mkCtx H [x] [⟨x, .reshapeX x⟩]⟩ :=
  viaOp1_iff (fun H => vSqueeze (H.val x) d) fun _ _ => .reshapeX x

theorem hFlatten_iff {d : Int} : hFlatten x d H = .ok (r, H') ↔
    ∃ t, vFlatten (H.val x) d = .ok t ∧ r = H.size ∧ H' = H.push ⟨t, mkCtx H [x] [⟨x, .reshapeX x⟩]⟩ :=
  viaOp1_iff (fun H => vFlatten (H.val x) d) fun _ _ => .reshapeX x

theorem hBroadcast_iff {s : List Int} : hBroadcast x s H = .ok (r, H') ↔
    ∃ t, vBroadcast (H.val x) s = .ok t ∧ r = H.size ∧ H' = H.push ⟨t, mkCtx H [x] [⟨x, .bcastX x H.size⟩]⟩ :=
  viaOp1_iff (fun H => vBroadcast (H.val x) s) fun _ y => .bcastX x y

theorem hAlong_iff {rd : Reducer} {d : Int} : hAlong rd x d H = .ok (r, H') ↔
    ∃ t, vAlong rd (H.val x) d = .ok t ∧ r = H.size ∧
      H' = H.push ⟨t, mkCtx H [x] [⟨x, alongRule rd x H.size d.toNat⟩]⟩ :=
  viaOp1_iff (fun H => vAlong rd (H.val x) d) fun _ y => alongRule rd x y d.toNat

/-- `hScale`, `hPow`, `hUnary` cannot fail: the run is an equation -/
theorem hScale_run (x : Nat) (a : α) (H : Heap α) :
    hScale x a H = .ok (H.size, H.push ⟨vScale (H.val x) a, mkCtx H [x] [⟨x, .scaleX a⟩]⟩) := rfl

theorem hPow_run (x : Nat) (a : α) (H : Heap α) :
    hPow x a H = .ok (H.size, H.push ⟨vPow (H.val x) a, mkCtx H [x] [⟨x, .powX x a⟩]⟩) := rfl

theorem hUnary_run (f : Unary) (x : Nat) (H : Heap α) :
    hUnary f x H = .ok (H.size, H.push ⟨vUnary f (H.val x), mkCtx H [x] [⟨x, unaryRule f x H.size⟩]⟩) := rfl

theorem hPatch_iff {i : List IRange} {p : Nat} : hPatch x i p H = .ok (r, H') ↔
    ∃ t, vPatch (H.val x) i (H.val p) = .ok t ∧ r = H.size ∧
      H' = H.push ⟨t, mkCtx H [x, p] [⟨x, .patchX p i⟩, ⟨p, .patchP p i⟩]⟩ :=
  tail_iff (f := fun H => vPatch (H.val x) i (H.val p))

theorem hConcat_iff {xs : List Nat} {d : Int} : hConcat xs d H = .ok (r, H') ↔
    ∃ t, vConcat (xs.map H.val) d = .ok t ∧ r = H.size ∧ H' = H.push ⟨t, mkCtx H xs (concatEdges H d.toNat xs 0)⟩ :=
  tail_iff (f := fun H => vConcat (xs.map H.val) d)

/-- `ElMax` / `ElMin` hand out the three-way context over both operands, the comparisons an untracked leaf -/
theorem hCmp_iff {c : Cmp} {a b : Nat} : hCmp c a b H = .ok (r, H') ↔
    ∃ t, vCmp c (H.val a) (H.val b) = .ok t ∧ r = H.size ∧
      H' = H.push ⟨t, if c = .elmax ∨ c = .elmin then mkCtx H [a, b] [⟨a, .elext H.size a b⟩, ⟨b, .elext H.size b a⟩]
        else freshCtx false⟩ := by
  cases c <;> exact tail_iff (f := fun H => vCmp _ (H.val a) (H.val b))

/-- both broadcasting helpers (`s1`, `s2` the two target shapes): two `Broadcast` calls, one after the other -/
theorem pair_iff {a b a' b' : Nat} {s1 s2 : Heap α → List Int} :
    (do let H ← getHeap; let a' ← hBroadcast a (s1 H); let b' ← hBroadcast b (s2 H); pure (a', b') : HM α (Nat × Nat)) H
        = .ok ((a', b'), H') ↔
      ∃ Ha, hBroadcast a (s1 H) H = .ok (a', Ha) ∧ hBroadcast b (s2 H) Ha = .ok (b', H') := by
  rw [getHeap_bind]
  constructor
  · intro h
    obtain ⟨a1, Ha, g1, k2⟩ := bind_ok h
    obtain ⟨b1, Hb, g2, k3⟩ := bind_ok k2
    cases k3
    exact ⟨Ha, g1, g2⟩
  · rintro ⟨Ha, ga, gb⟩
    rw [bind_run ga, bind_run gb]; rfl

theorem hBroadcastPair_iff {a b a' b' : Nat} : hBroadcastPair a b H = .ok ((a', b'), H') ↔
    ∃ Ha, hBroadcast a ((targetBroadcastDims (H.val a).dims (H.val b).dims).map Int.ofNat) H = .ok (a', Ha) ∧
      hBroadcast b ((targetBroadcastDims (H.val a).dims (H.val b).dims).map Int.ofNat) Ha = .ok (b', H') :=
  pair_iff (s1 := fun H => (targetBroadcastDims (H.val a).dims (H.val b).dims).map Int.ofNat)
    (s2 := fun H => (targetBroadcastDims (H.val a).dims (H.val b).dims).map Int.ofNat)

theorem hBroadcastPairMM_iff {a b a' b' : Nat} : hBroadcastPairMM a b H = .ok ((a', b'), H') ↔
    ∃ Ha, hBroadcast a ((matMulShape (targetBroadcastDims (H.val a).dims (H.val b).dims) (H.val a).dims).map Int.ofNat) H
        = .ok (a', Ha) ∧
      hBroadcast b ((matMulShape (targetBroadcastDims (H.val a).dims (H.val b).dims) (H.val b).dims).map Int.ofNat) Ha
        = .ok (b', H') :=
  pair_iff (s1 := fun H => (matMulShape (targetBroadcastDims (H.val a).dims (H.val b).dims) (H.val a).dims).map Int.ofNat)
    (s2 := fun H => (matMulShape (targetBroadcastDims (H.val a).dims (H.val b).dims) (H.val b).dims).map Int.ofNat)

/-- Add / Sub / Mul / Div: `Broadcast` both operands, then one node with the two `arithEdges` -/
theorem hArith_iff {o : Arith} {a b : Nat} : hArith o a b H = .ok (r, H') ↔
    ∃ a' b' Hb t, hBroadcastPair a b H = .ok ((a', b'), Hb) ∧ Tensor.zipRaw o.fn (Hb.val a') (Hb.val b') = some t ∧
      r = Hb.size ∧ H' = Hb.push ⟨t, mkCtx Hb [a', b'] (arithEdges o a' b')⟩ := by
  unfold hArith
  rw [bind_ok_iff]
  constructor
  · rintro ⟨⟨a', b'⟩, Hb, h1, h2⟩
    refine ⟨a', b', Hb, ?_⟩
    cases o <;>
    · obtain ⟨t, e, rfl, rfl⟩ := tail_iff.1 h2
      exact ⟨t, h1, ofOpt_ok.1 e, rfl, rfl⟩
  · rintro ⟨a', b', Hb, t, h1, e, rfl, rfl⟩
    exact ⟨(a', b'), Hb, h1, by cases o <;> exact tail_iff.2 ⟨t, ofOpt_ok.2 e, rfl, rfl⟩⟩

theorem hDot_iff {a b : Nat} : hDot a b H = .ok (r, H') ↔
    validDot (H.val a).dims (H.val b).dims = true ∧
    ∃ a' b' Hb t, hBroadcastPair a b H = .ok ((a', b'), Hb) ∧ (Hb.val a').dotRaw (Hb.val b') = some t ∧
      r = Hb.size ∧ H' = Hb.push ⟨t, mkCtx Hb [a', b'] [⟨a', .dotG b'⟩, ⟨b', .dotG a'⟩]⟩ := by
  unfold hDot
  rw [getHeap_bind]
  split
  · rename_i hv
    rw [bind_ok_iff]
    refine ⟨?_, ?_⟩
    · rintro ⟨⟨a', b'⟩, Hb, h1, h2⟩
      obtain ⟨t, e, rfl, rfl⟩ := tail_iff.1 h2
      exact ⟨hv, a', b', Hb, t, h1, ofOpt_ok.1 e, rfl, rfl⟩
    · rintro ⟨_, a', b', Hb, t, h1, e, rfl, rfl⟩
      exact ⟨(a', b'), Hb, h1, tail_iff.2 ⟨t, ofOpt_ok.2 e, rfl, rfl⟩⟩
  · rename_i hv
    exact ⟨(fun h => nomatch h), fun h => absurd h.1 hv⟩

theorem hMatMul_iff {a b : Nat} : hMatMul a b H = .ok (r, H') ↔
    validMatMul (H.val a).dims (H.val b).dims = true ∧
    ∃ a' b' Hb t, hBroadcastPairMM a b H = .ok ((a', b'), Hb) ∧ (Hb.val a').matMulRaw (Hb.val b') = some t ∧
      r = Hb.size ∧ H' = Hb.push ⟨t, mkCtx Hb [a', b'] [⟨a', .matmulA b'⟩, ⟨b', .matmulB a'⟩]⟩ := by
  unfold hMatMul
  rw [getHeap_bind]
  split
  · rename_i hv
    rw [bind_ok_iff]
    refine ⟨?_, ?_⟩
    · rintro ⟨⟨a', b'⟩, Hb, h1, h2⟩
      obtain ⟨t, e, rfl, rfl⟩ := tail_iff.1 h2
      exact ⟨hv, a', b', Hb, t, h1, ofOpt_ok.1 e, rfl, rfl⟩
    · rintro ⟨_, a', b', Hb, t, h1, e, rfl, rfl⟩
      exact ⟨(a', b'), Hb, h1, tail_iff.2 ⟨t, ofOpt_ok.2 e, rfl, rfl⟩⟩
  · rename_i hv
    exact ⟨(fun h => nomatch h), fun h => absurd h.1 hv⟩

end

/-- a heap computation that, when it succeeds, only allocates -/
def Frame {β : Type} (m : HM α β) : Prop := ∀ H r H', m H = .ok (r, H') → Extends H H'

/-- when `m` succeeds it keeps every existing node, and the context of every node it allocates satisfies `P` -/
structure Allocs {β : Type} (P : Ctx α → Prop) (m : HM α β) : Prop where
  run : ∀ H r H', m H = .ok (r, H') → Extends H H' ∧ ∀ n, H.size ≤ n → n < H'.size → P (H'.ctx n)

variable {P : Ctx α → Prop}

theorem Allocs.frame {β : Type} {m : HM α β} (h : Allocs P m) : Frame m := fun H r H' e => (h.run H r H' e).1

theorem frame_iff_allocs {β : Type} {m : HM α β} : Frame m ↔ Allocs (fun _ => True) m :=
  ⟨fun h => ⟨fun H r H' e => ⟨h H r H' e, fun _ _ _ => trivial⟩⟩, Allocs.frame⟩

theorem allocs_same {β : Type} {m : HM α β} (h : ∀ H r H', m H = .ok (r, H') → H' = H) : Allocs P m := by
  refine ⟨fun H r H' e => ?_⟩
  rw [h H r H' e]
  exact ⟨Extends.refl _, fun n h1 h2 => absurd h2 (Nat.not_lt.mpr h1)⟩

theorem allocs_pure {β : Type} (b : β) : Allocs P (pure b : HM α β) :=
  allocs_same fun _ _ _ e => by cases e; rfl

theorem allocs_liftOut {β : Type} (o : Out β) : Allocs P (liftOut o : HM α β) :=
  allocs_same fun _ _ _ e => (liftOut_ok e).2

theorem allocs_getHeap : Allocs P (getHeap : HM α (Heap α)) :=
  allocs_same fun _ _ _ e => (getHeap_ok e).2

theorem allocs_alloc (v : Tensor α) {c : Ctx α} (hc : P c) : Allocs P (alloc v c) := by
  refine ⟨fun H r H' h => ?_⟩
  obtain ⟨rfl, rfl⟩ := alloc_eq h
  refine ⟨extends_push _ _, fun n h1 h2 => ?_⟩
  have : n = H.size := by simp at h2; omega
  rw [ctx_push, if_pos this]; exact hc

theorem allocs_bind {β γ : Type} {m : HM α β} {f : β → HM α γ} (hm : Allocs P m) (hf : ∀ b, Allocs P (f b)) :
    Allocs P (m >>= f) := by
  refine ⟨fun H r H' h => ?_⟩
  obtain ⟨a, H1, h1, h2⟩ := bind_ok h
  obtain ⟨e1, p1⟩ := hm.run H a H1 h1
  obtain ⟨e2, p2⟩ := (hf a).run H1 r H' h2
  refine ⟨e1.trans e2, fun n hn hn' => ?_⟩
  by_cases hlt : n < H1.size
  · rw [e2.ctx hlt]; exact p1 n hn hlt
  · exact p2 n (Nat.le_of_not_lt hlt) hn'

theorem frame_alloc (v : Tensor α) (c : Ctx α) : Frame (alloc v c) :=
  (allocs_alloc (P := fun _ => True) v trivial).frame

theorem frame_bind {β γ : Type} {m : HM α β} {f : β → HM α γ} (hm : Frame m) (hf : ∀ b, Frame (f b)) :
    Frame (m >>= f) :=
  (allocs_bind (frame_iff_allocs.mp hm) fun b => frame_iff_allocs.mp (hf b)).frame

section
variable [Scalar α] (hP : CtxOK P)
include hP

theorem allocs_hLeaf (v : Tensor α) (b : Bool) : Allocs P (hLeaf v b) := allocs_alloc _ (hP.fresh b)

theorem allocs_hOp1 (x : Nat) (v : Out (Tensor α)) (rule : Nat → Rule α) : Allocs P (hOp1 x v rule) :=
  allocs_bind (allocs_liftOut _) fun _ => allocs_bind allocs_getHeap fun _ => allocs_alloc _ (hP.mkCtx _ _ _)

/-- the one-operand operations: read the heap, then `hOp1` -/
theorem allocs_viaOp1 {m : HM α Nat} {v : Heap α → Out (Tensor α)} {rule : Heap α → Nat → Rule α} {x : Nat}
    (h : m = (do let H ← getHeap; hOp1 x (v H) (rule H))) : Allocs P m :=
  h ▸ allocs_bind allocs_getHeap fun _ => allocs_hOp1 hP _ _ _

theorem allocs_hSlice (x : Nat) (i : List IRange) : Allocs P (hSlice (α := α) x i) := allocs_viaOp1 hP rfl
theorem allocs_hTranspose (x : Nat) : Allocs P (hTranspose (α := α) x) := allocs_viaOp1 hP rfl
theorem allocs_hReshape (x : Nat) (s : List Int) : Allocs P (hReshape (α := α) x s) := allocs_viaOp1 hP rfl
theorem allocs_hUnSqueeze (x : Nat) (d : Int) : Allocs P (hUnSqueeze (α := α) x d) := allocs_viaOp1 hP rfl
theorem allocs_hSqueeze (x : Nat) (d : Int) : Allocs P (hSqueeze (α := α) x d) := allocs_viaOp1 hP rfl
theorem allocs_hFlatten (x : Nat) (d : Int) : Allocs P (hFlatten (α := α) x d) := allocs_viaOp1 hP rfl
theorem allocs_hBroadcast (x : Nat) (s : List Int) : Allocs P (hBroadcast (α := α) x s) := allocs_viaOp1 hP rfl
theorem allocs_hAlong (r : Reducer) (x : Nat) (d : Int) : Allocs P (hAlong (α := α) r x d) := allocs_viaOp1 hP rfl
theorem allocs_hScale (x : Nat) (a : α) : Allocs P (hScale x a) := allocs_viaOp1 hP rfl
theorem allocs_hPow (x : Nat) (a : α) : Allocs P (hPow x a) := allocs_viaOp1 hP rfl
theorem allocs_hUnary (f : Unary) (x : Nat) : Allocs P (hUnary (α := α) f x) := allocs_viaOp1 hP rfl

end

/-- closes `Allocs P m` for a single operation `m`, by its `allocs_*` lemma (`hP : CtxOK P` is taken from the context).
    Operations proved later add their lemma with `macro_rules`. -/
syntax "frame_op" : tactic
macro_rules
  | `(tactic| frame_op) => `(tactic|
      with_reducible first
        | exact allocs_getHeap
        | exact allocs_liftOut _
        | exact allocs_pure _
        | exact allocs_alloc _ (CtxOK.mkCtx ‹_› _ _ _)
        | exact allocs_alloc _ (CtxOK.fresh ‹_› _)
        | exact allocs_alloc _ (CtxOK.dirty ‹_›)
        | exact allocs_hBroadcast ‹_› _ _
        | exact allocs_hSlice ‹_› _ _
        | exact allocs_hTranspose ‹_› _
        | exact allocs_hReshape ‹_› _ _
        | exact allocs_hSqueeze ‹_› _ _
        | exact allocs_hFlatten ‹_› _ _
        | exact allocs_hScale ‹_› _ _
        | exact allocs_hPow ‹_› _ _
        | exact allocs_hUnary ‹_› _ _
        | exact allocs_hAlong ‹_› _ _ _
        | exact allocs_hUnSqueeze ‹_› _ _)

/-- one step in the decomposition of a `do` block: a bind, its continuation, the operation at hand, or a branch -/
macro "frame_step" : tactic =>
  `(tactic| first | with_reducible apply allocs_bind | intro _ | frame_op | split)

/-- `Allocs P m` for a `do` block `m` of operations known to `frame_op`, after `unfold`: it is taken apart to the last bind.
    What is left over, if anything, is a branch that is no such operation and is closed by hand. -/
macro "frame_tac" : tactic => `(tactic| repeat frame_step)

section
variable [Scalar α] (hP : CtxOK P)
include hP

theorem allocs_hPatch (x : Nat) (i : List IRange) (p : Nat) : Allocs P (hPatch (α := α) x i p) := by
  unfold hPatch; frame_tac

theorem allocs_hCmp (c : Cmp) (a b : Nat) : Allocs P (hCmp (α := α) c a b) := by
  unfold hCmp; frame_tac

theorem allocs_hConcat (xs : List Nat) (d : Int) : Allocs P (hConcat (α := α) xs d) := by
  unfold hConcat; frame_tac

theorem allocs_hGradNode (n : Nat) : Allocs P (hGradNode (α := α) n) := by
  unfold hGradNode; frame_tac

theorem allocs_hBroadcastPair (a b : Nat) : Allocs P (hBroadcastPair (α := α) a b) := by
  unfold hBroadcastPair; frame_tac

theorem allocs_hBroadcastPairMM (a b : Nat) : Allocs P (hBroadcastPairMM (α := α) a b) := by
  unfold hBroadcastPairMM; frame_tac

end

macro_rules
  | `(tactic| frame_op) => `(tactic|
      with_reducible first
        | exact allocs_hCmp ‹_› _ _ _
        | exact allocs_hPatch ‹_› _ _ _
        | exact allocs_hConcat ‹_› _ _
        | exact allocs_hGradNode ‹_› _
        | exact allocs_hBroadcastPair ‹_› _ _
        | exact allocs_hBroadcastPairMM ‹_› _ _)

section
variable [Scalar α] (hP : CtxOK P)
include hP

theorem allocs_hArith (o : Arith) (a b : Nat) : Allocs P (hArith (α := α) o a b) := by
  unfold hArith; frame_tac

theorem allocs_hDot (a b : Nat) : Allocs P (hDot (α := α) a b) := by
  unfold hDot; frame_tac

theorem allocs_hMatMul (a b : Nat) : Allocs P (hMatMul (α := α) a b) := by
  unfold hMatMul; frame_tac

theorem allocs_clip (x : Nat) (l u : α) : Allocs P (clip x l u) := by
  unfold clip; frame_tac

end

macro_rules
  | `(tactic| frame_op) => `(tactic|
      with_reducible first
        | exact allocs_hArith ‹_› _ _ _
        | exact allocs_hDot ‹_› _ _
        | exact allocs_hMatMul ‹_› _ _
        | exact allocs_clip ‹_› _ _ _)

/-! components: straight-line sequences of the operations above -/

section
variable [Scalar α] (hP : CtxOK P)
include hP

theorem allocs_actForward (a : Activation α) (xs : List (Option Nat)) : Allocs P (actForward a xs) := by
  unfold actForward; frame_tac

theorem allocs_lossCompute (l : Loss) (yp yt : Option Nat) : Allocs P (lossCompute (α := α) l yp yt) := by
  unfold lossCompute; frame_tac

theorem allocs_fcForward (c : FC) (xs : List (Option Nat)) : Allocs P (fcForward (α := α) c xs) := by
  unfold fcForward; frame_tac

theorem allocs_sgdUpdate (lr : α) (w : Option Nat) : Allocs P (sgdUpdate lr w) := by
  unfold sgdUpdate; frame_tac

theorem allocs_accAccumulate (c : Accuracy) (yp yt : Option Nat) : Allocs P (accAccumulate (α := α) c yp yt) := by
  unfold accAccumulate; frame_tac
  · simp only []; frame_tac
  · exact allocs_liftOut _

end

/-! ## `Frame`: the case where nothing is asked of the new contexts -/

theorem ctxOK_true : CtxOK (fun _ : Ctx α => True) := ⟨trivial, fun _ => trivial, fun _ => trivial⟩

theorem frame_pure {β : Type} (b : β) : Frame (pure b : HM α β) := (allocs_pure (P := fun _ => True) b).frame
theorem frame_liftOut {β : Type} (o : Out β) : Frame (liftOut o : HM α β) := (allocs_liftOut (P := fun _ => True) o).frame
theorem frame_getHeap : Frame (getHeap : HM α (Heap α)) := (allocs_getHeap (P := fun _ => True)).frame

section
variable [Scalar α]

theorem frame_hLeaf (v : Tensor α) (b : Bool) : Frame (hLeaf v b) := (allocs_hLeaf ctxOK_true v b).frame
theorem frame_hOp1 (x : Nat) (v : Out (Tensor α)) (rule : Nat → Rule α) : Frame (hOp1 x v rule) := (allocs_hOp1 ctxOK_true x v rule).frame
theorem frame_hSlice (x : Nat) (i : List IRange) : Frame (hSlice (α := α) x i) := (allocs_hSlice ctxOK_true x i).frame
theorem frame_hTranspose (x : Nat) : Frame (hTranspose (α := α) x) := (allocs_hTranspose ctxOK_true x).frame
theorem frame_hReshape (x : Nat) (s : List Int) : Frame (hReshape (α := α) x s) := (allocs_hReshape ctxOK_true x s).frame
theorem frame_hUnSqueeze (x : Nat) (d : Int) : Frame (hUnSqueeze (α := α) x d) := (allocs_hUnSqueeze ctxOK_true x d).frame
theorem frame_hSqueeze (x : Nat) (d : Int) : Frame (hSqueeze (α := α) x d) := (allocs_hSqueeze ctxOK_true x d).frame
theorem frame_hFlatten (x : Nat) (d : Int) : Frame (hFlatten (α := α) x d) := (allocs_hFlatten ctxOK_true x d).frame
theorem frame_hBroadcast (x : Nat) (s : List Int) : Frame (hBroadcast (α := α) x s) := (allocs_hBroadcast ctxOK_true x s).frame
theorem frame_hAlong (r : Reducer) (x : Nat) (d : Int) : Frame (hAlong (α := α) r x d) := (allocs_hAlong ctxOK_true r x d).frame
theorem frame_hScale (x : Nat) (a : α) : Frame (hScale x a) := (allocs_hScale ctxOK_true x a).frame
theorem frame_hPow (x : Nat) (a : α) : Frame (hPow x a) := (allocs_hPow ctxOK_true x a).frame
theorem frame_hUnary (f : Unary) (x : Nat) : Frame (hUnary (α := α) f x) := (allocs_hUnary ctxOK_true f x).frame
theorem frame_hPatch (x : Nat) (i : List IRange) (p : Nat) : Frame (hPatch (α := α) x i p) := (allocs_hPatch ctxOK_true x i p).frame
theorem frame_hCmp (c : Cmp) (a b : Nat) : Frame (hCmp (α := α) c a b) := (allocs_hCmp ctxOK_true c a b).frame
theorem frame_hBroadcastPair (a b : Nat) : Frame (hBroadcastPair (α := α) a b) := (allocs_hBroadcastPair ctxOK_true a b).frame
theorem frame_hBroadcastPairMM (a b : Nat) : Frame (hBroadcastPairMM (α := α) a b) := (allocs_hBroadcastPairMM ctxOK_true a b).frame
theorem frame_hArith (o : Arith) (a b : Nat) : Frame (hArith (α := α) o a b) := (allocs_hArith ctxOK_true o a b).frame
theorem frame_hDot (a b : Nat) : Frame (hDot (α := α) a b) := (allocs_hDot ctxOK_true a b).frame
theorem frame_hMatMul (a b : Nat) : Frame (hMatMul (α := α) a b) := (allocs_hMatMul ctxOK_true a b).frame
theorem frame_hConcat (xs : List Nat) (d : Int) : Frame (hConcat (α := α) xs d) := (allocs_hConcat ctxOK_true xs d).frame
theorem frame_hGradNode (n : Nat) : Frame (hGradNode (α := α) n) := (allocs_hGradNode ctxOK_true n).frame
theorem frame_clip (x : Nat) (l u : α) : Frame (clip x l u) := (allocs_clip ctxOK_true x l u).frame
theorem frame_actForward (a : Activation α) (xs : List (Option Nat)) : Frame (actForward a xs) := (allocs_actForward ctxOK_true a xs).frame
theorem frame_lossCompute (l : Loss) (yp yt : Option Nat) : Frame (lossCompute (α := α) l yp yt) := (allocs_lossCompute ctxOK_true l yp yt).frame
theorem frame_fcForward (c : FC) (xs : List (Option Nat)) : Frame (fcForward (α := α) c xs) := (allocs_fcForward ctxOK_true c xs).frame
theorem frame_sgdUpdate (lr : α) (w : Option Nat) : Frame (sgdUpdate lr w) := (allocs_sgdUpdate ctxOK_true lr w).frame
theorem frame_accAccumulate (c : Accuracy) (yp yt : Option Nat) : Frame (accAccumulate (α := α) c yp yt) := (allocs_accAccumulate ctxOK_true c yp yt).frame

end

/-! ## back-propagation and reset touch contexts only -/

theorem setCtx_size (H : Heap α) (n : Nat) (c : Ctx α) : (H.setCtx n c).size = H.size := by
  unfold Heap.setCtx; split <;> simp

theorem getElem?_setCtx (H : Heap α) (n : Nat) (c : Ctx α) (m : Nat) :
    (H.setCtx n c)[m]? = if m = n then H[n]?.map (fun nd => { nd with ctx := c }) else H[m]? := by
  unfold Heap.setCtx
  cases hn : H[n]? with
  | none => split <;> simp_all
  | some nd =>
    have hlt : n < H.size := by
      rcases Nat.lt_or_ge n H.size with h | h
      · exact h
      · rw [Array.getElem?_eq_none h] at hn; cases hn
    by_cases hm : m = n
    · subst hm; simp [Array.set!, hlt]
    · simp [Array.set!, hm, Ne.symm hm]

theorem setCtx_val (H : Heap α) (n : Nat) (c : Ctx α) (m : Nat) : (H.setCtx n c).val m = H.val m := by
  unfold Heap.val
  rw [getElem?_setCtx]
  by_cases hm : m = n
  · subst hm; rw [if_pos rfl]; cases H[m]? <;> rfl
  · rw [if_neg hm]

theorem setCtx_ctx (H : Heap α) (n : Nat) (c : Ctx α) (m : Nat) :
    (H.setCtx n c).ctx m = if m = n ∧ n < H.size then c else H.ctx m := by
  unfold Heap.ctx
  rw [getElem?_setCtx]
  by_cases hm : m = n
  · subst hm
    by_cases hlt : m < H.size
    · simp [hlt]
    · simp [hlt]
  · simp [hm]

theorem setCtx_ctx_ne (H : Heap α) (n : Nat) (c : Ctx α) (m : Nat) (h : m ≠ n) : (H.setCtx n c).ctx m = H.ctx m := by
  rw [setCtx_ctx, if_neg (fun h' => h h'.1)]

theorem setCtx_ctx_eq (H : Heap α) (n : Nat) (c : Ctx α) (h : n < H.size) : (H.setCtx n c).ctx n = c := by
  rw [setCtx_ctx, if_pos ⟨rfl, h⟩]

/-- `ResetGradContext` changes no value, and no context other than the tensor's own -/
theorem resetCtx_frame (H : Heap α) (n : Nat) (b : Bool) :
    (resetCtx H n b).size = H.size ∧ (∀ m, (resetCtx H n b).val m = H.val m) ∧
    (∀ m, m ≠ n → (resetCtx H n b).ctx m = H.ctx m) :=
  ⟨setCtx_size _ _ _, setCtx_val _ _ _, fun _ hm => setCtx_ctx_ne _ _ _ _ hm⟩

theorem markDirty_cons (H : Heap α) (n : Nat) (ns : List Nat) :
    markDirty H (n :: ns) = markDirty (H.setCtx n { H.ctx n with dirty := true }) ns := rfl

theorem markDirty_val (H : Heap α) (ns : List Nat) (m : Nat) : (markDirty H ns).val m = H.val m := by
  induction ns generalizing H with
  | nil => rfl
  | cons n ns ih => rw [markDirty_cons, ih, setCtx_val]

theorem markDirty_size (H : Heap α) (ns : List Nat) : (markDirty H ns).size = H.size := by
  induction ns generalizing H with
  | nil => rfl
  | cons n ns ih => rw [markDirty_cons, ih, setCtx_size]

/-- `markDirty` sets the spent flag of the listed tensors and nothing else -/
theorem markDirty_ctx (H : Heap α) (ns : List Nat) (m : Nat) :
    (markDirty H ns).ctx m = if m ∈ ns ∧ m < H.size then { H.ctx m with dirty := true } else H.ctx m := by
  induction ns generalizing H with
  | nil => simp [markDirty]
  | cons n ns ih =>
    rw [markDirty_cons, ih, setCtx_size, setCtx_ctx]
    by_cases hm : m = n
    · subst hm; by_cases hl : m < H.size <;> simp [hl]
    · simp [hm]

/-- `writeBack` replaces the stored gradients and nothing else -/
theorem writeBack_ctx (H : Heap α) (G : Nat → Option (Tensor α)) (n : Nat) :
    (writeBack H G).ctx n = if n < H.size then { H.ctx n with grad := G n } else H.ctx n := by
  unfold writeBack Heap.ctx
  rw [Array.getElem?_mapIdx]
  by_cases hn : n < H.size
  · simp [hn]
  · simp [hn]

theorem writeBack_size (H : Heap α) (G : Nat → Option (Tensor α)) : (writeBack H G).size = H.size := by
  simp [writeBack]

theorem writeBack_val (H : Heap α) (G : Nat → Option (Tensor α)) (m : Nat) : (writeBack H G).val m = H.val m := by
  unfold writeBack Heap.val
  rw [Array.getElem?_mapIdx]
  cases H[m]? <;> rfl

section
variable [Scalar α]

/-- **BackPropagate changes no tensor's shape or elements** (whatever its outcome): values and heap size
    are preserved; only contexts (gradients, spent flags) are written. -/
theorem backprop_val (bm : BMode) (H : Heap α) (root : Nat) (m : Nat) :
    (backprop bm H root).heap.val m = H.val m ∧ (backprop bm H root).heap.size = H.size := by
  unfold backprop
  split
  · exact ⟨rfl, rfl⟩
  · simp only []
    split
    · exact ⟨(writeBack_val _ _ m).trans (markDirty_val _ _ _), (writeBack_size _ _).trans (markDirty_size _ _)⟩
    · exact ⟨markDirty_val _ _ _, markDirty_size _ _⟩
    · exact ⟨markDirty_val _ _ _, markDirty_size _ _⟩

end
end Qeep
