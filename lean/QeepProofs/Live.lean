import QeepProofs.Run
/-!
# Nodes a forward run allocates from tracked, unspent operands

`Live H n`: node `n` is tracked and unspent. `mkCtx` on unspent operands is decided by whether one of them is tracked
(`mkCtx_clean`); on `Live` operands the new node carries its back edges and is `Live` again (`mkCtx_live`). `*_live` is the
inversion used by the graph theorems of the activations: what a successful run on `Live` operands says about the node it
allocated — value, back edges, flags — read off the operation's `h*_iff` (`QeepProofs.Heap`) by `op1_live` / `push_live`.
-/

set_option linter.unusedSectionVars false
namespace Qeep
namespace C15x

section inv
variable {α : Type} [Scalar α]

/-- a tracked, unspent node of the heap -/
def Live (H : Heap α) (n : Nat) : Prop := n < H.size ∧ H.tracked n = true ∧ H.dirty n = false

theorem Live.ext {H H' : Heap α} {n : Nat} (l : Live H n) (e : Extends H H') : Live H' n :=
  ⟨Nat.lt_of_lt_of_le l.1 e.1, (e.tracked l.1).trans l.2.1, (e.dirty l.1).trans l.2.2⟩

theorem mkCtx_live (H : Heap α) {ops : List Nat} (es : List (Edge α)) (hl : ∀ n ∈ ops, Live H n) (hne : ops ≠ []) :
    mkCtx H ops es = liveCtx es := by
  obtain ⟨n, hn⟩ := List.exists_mem_of_ne_nil ops hne
  rw [mkCtx_clean H ops es fun n hn => (hl n hn).2.2, if_pos (List.any_eq_true.2 ⟨n, hn, (hl n hn).2.1⟩)]

theorem mkCtx_live2 (H : Heap α) (a b : Nat) (edges : List (Edge α)) (la : Live H a) (lb : Live H b) :
    mkCtx H [a, b] edges = liveCtx edges :=
  mkCtx_live H edges (List.forall_mem_cons.2 ⟨la, List.forall_mem_singleton.2 lb⟩) (List.cons_ne_nil _ _)

theorem live_of_ctx {H : Heap α} {r : Nat} {edges : List (Edge α)} (hr : r < H.size) (hc : H.ctx r = liveCtx edges) :
    Live H r := ⟨hr, by simp [Heap.tracked, hc, liveCtx], by simp [Heap.dirty, hc, liveCtx]⟩

/-- a pushed node whose context has back edges is `Live` -/
theorem push_live (H : Heap α) (v : Tensor α) {c : Ctx α} {edges : List (Edge α)} (hc : c = liveCtx edges) :
    (H.push ⟨v, c⟩).size = H.size + 1 ∧ Heap.val (H.push ⟨v, c⟩) H.size = v ∧ Extends H (H.push ⟨v, c⟩) ∧
      Heap.ctx (H.push ⟨v, c⟩) H.size = liveCtx edges ∧ Live (H.push ⟨v, c⟩) H.size := by
  subst hc
  have c' := ctx_push_self H ⟨v, liveCtx edges⟩
  exact ⟨Array.size_push .., push_val_new _ _, extends_push _ _, c', live_of_ctx (by simp) c'⟩

theorem op1_live {x : Nat} {v : Out (Tensor α)} {rule : Nat → Rule α} {H H' : Heap α} {r : Nat}
    (h : hOp1 x v rule H = .ok (r, H')) (l : Live H x) :
    r = H.size ∧ H'.size = H.size + 1 ∧ v = .ok (H'.val r) ∧ Extends H H' ∧ H'.ctx r = liveCtx [⟨x, rule r⟩] ∧
      Live H' r := by
  obtain ⟨t, rfl, rfl, rfl⟩ := hOp1_iff.1 h
  obtain ⟨s, q, e, c, l'⟩ := push_live H t (mkCtx_live H _ (List.forall_mem_singleton.2 l) (List.cons_ne_nil _ _))
  exact ⟨rfl, s, by rw [q], e, c, l'⟩

theorem hPow_live {x : Nat} {a : α} {H H' : Heap α} {r : Nat} (h : hPow x a H = .ok (r, H')) (l : Live H x) :
    H'.val r = vPow (H.val x) a ∧ Extends H H' ∧ H'.ctx r = liveCtx [⟨x, .powX x a⟩] ∧ Live H' r := by
  obtain ⟨_, _, v, e, c, l'⟩ := op1_live (v := .ok (vPow (H.val x) a)) (rule := fun _ => .powX x a) h l
  exact ⟨(Out.ok.inj v).symm, e, c, l'⟩

theorem hScale_live {x : Nat} {a : α} {H H' : Heap α} {r : Nat} (h : hScale x a H = .ok (r, H')) (l : Live H x) :
    H'.val r = vScale (H.val x) a ∧ Extends H H' ∧ H'.ctx r = liveCtx [⟨x, .scaleX a⟩] ∧ Live H' r := by
  obtain ⟨_, _, v, e, c, l'⟩ := op1_live (v := .ok (vScale (H.val x) a)) (rule := fun _ => .scaleX a) h l
  exact ⟨(Out.ok.inj v).symm, e, c, l'⟩

theorem hUnary_live {f : Unary} {x : Nat} {H H' : Heap α} {r : Nat} (h : hUnary f x H = .ok (r, H')) (l : Live H x) :
    H'.val r = vUnary f (H.val x) ∧ Extends H H' ∧ H'.ctx r = liveCtx [⟨x, unaryRule f x r⟩] ∧ Live H' r := by
  obtain ⟨_, _, v, e, c, l'⟩ := op1_live (v := .ok (vUnary f (H.val x))) (rule := fun y => unaryRule f x y) h l
  exact ⟨(Out.ok.inj v).symm, e, c, l'⟩

theorem hBroadcast_live {x : Nat} {s : List Int} {H H' : Heap α} {r : Nat} (h : hBroadcast x s H = .ok (r, H')) (l : Live H x) :
    vBroadcast (H.val x) s = .ok (H'.val r) ∧ Extends H H' ∧ H'.ctx r = liveCtx [⟨x, .bcastX x r⟩] ∧ Live H' r :=
  (op1_live (v := vBroadcast (H.val x) s) (rule := fun y => .bcastX x y) h l).2.2

theorem hAlong_live {rd : Reducer} {x : Nat} {d : Int} {H H' : Heap α} {r : Nat} (h : hAlong rd x d H = .ok (r, H'))
    (l : Live H x) :
    vAlong rd (H.val x) d = .ok (H'.val r) ∧ Extends H H' ∧ H'.ctx r = liveCtx [⟨x, alongRule rd x r d.toNat⟩] ∧ Live H' r :=
  (op1_live (v := vAlong rd (H.val x) d) (rule := fun y => alongRule rd x y d.toNat) h l).2.2

theorem hUnSqueeze_live {x : Nat} {d : Int} {H H' : Heap α} {r : Nat} (h : hUnSqueeze x d H = .ok (r, H'))
    (l : Live H x) :
    vUnSqueeze (H.val x) d = .ok (H'.val r) ∧ Extends H H' ∧ H'.ctx r = liveCtx [⟨x, .reshapeX x⟩] ∧ Live H' r :=
  (op1_live (v := vUnSqueeze (H.val x) d) (rule := fun _ => .reshapeX x) h l).2.2

theorem cmp_ext_live {c : Cmp} {a b : Nat} {H H' : Heap α} {r : Nat} (hc : c = .elmax ∨ c = .elmin)
    (h : hCmp c a b H = .ok (r, H')) (la : Live H a) (lb : Live H b) :
    r = H.size ∧ H'.size = H.size + 1 ∧ vCmp c (H.val a) (H.val b) = .ok (H'.val r) ∧ Extends H H' ∧
    H'.ctx r = liveCtx [⟨a, .elext r a b⟩, ⟨b, .elext r b a⟩] ∧ Live H' r := by
  obtain ⟨t, e, rfl, rfl⟩ := hCmp_iff.1 h
  rw [if_pos hc]
  obtain ⟨s, q, x, c', l'⟩ := push_live H t (mkCtx_live2 H a b _ la lb)
  exact ⟨rfl, s, by rw [e, q], x, c', l'⟩

theorem hCmp_ext_live {c : Cmp} {a b : Nat} {H H' : Heap α} {r : Nat} (hc : c = .elmax ∨ c = .elmin)
    (h : hCmp c a b H = .ok (r, H')) (la : Live H a) (lb : Live H b) :
    vCmp c (H.val a) (H.val b) = .ok (H'.val r) ∧ Extends H H' ∧
    H'.ctx r = liveCtx [⟨a, .elext r a b⟩, ⟨b, .elext r b a⟩] ∧ Live H' r :=
  (cmp_ext_live hc h la lb).2.2

/-- arithmetic on tracked, unspent operands: the two `Broadcast` nodes (towards the common target shape) and the result,
    nodes `H.size`, `H.size + 1`, `H.size + 2`, with their back edges -/
theorem hArith_live_id {o : Arith} {a b : Nat} {H H' : Heap α} {r : Nat} (h : hArith o a b H = .ok (r, H'))
    (la : Live H a) (lb : Live H b) :
    ∃ a' b', a' = H.size ∧ b' = H.size + 1 ∧ r = H.size + 2 ∧ H'.size = H.size + 3 ∧ Extends H H' ∧
      vBroadcastN (H.val a) (targetBroadcastDims (H.val a).dims (H.val b).dims) = .ok (H'.val a') ∧
      vBroadcastN (H.val b) (targetBroadcastDims (H.val a).dims (H.val b).dims) = .ok (H'.val b') ∧
      vArith o (H.val a) (H.val b) = .ok (H'.val r) ∧
      H'.ctx a' = liveCtx [⟨a, .bcastX a a'⟩] ∧ H'.ctx b' = liveCtx [⟨b, .bcastX b b'⟩] ∧
      H'.ctx r = liveCtx (arithEdges o a' b') ∧ Live H' a' ∧ Live H' b' ∧ Live H' r := by
  obtain ⟨hv, _, _, hext⟩ := hArith_val la.1 lb.1 h
  obtain ⟨a1, b1, Hb, t, h1, _, rfl, rfl⟩ := hArith_iff.1 h
  obtain ⟨Ha, g1, g2⟩ := hBroadcastPair_iff.1 h1
  obtain ⟨va, xa, ca, lva⟩ := hBroadcast_live g1 la
  obtain ⟨vb, xb, cb, lvb⟩ := hBroadcast_live g2 (lb.ext xa)
  obtain ⟨ia, sa, -⟩ := hBroadcast_node g1
  obtain ⟨ib, sb, -⟩ := hBroadcast_node g2
  rw [xa.val lb.1] at vb
  have lva' : Live Hb a1 := lva.ext xb
  obtain ⟨sr, _, xr, cr, lr⟩ := push_live Hb t (mkCtx_live2 Hb a1 b1 (arithEdges o a1 b1) lva' lvb)
  refine ⟨a1, b1, ia, by omega, by omega, by omega, hext, ?_, ?_, hv, ?_, ?_, cr, lva'.ext xr, lvb.ext xr, lr⟩
  · rw [(xb.trans xr).val lva.1]; exact va
  · rw [xr.val lvb.1]; exact vb
  · rw [(xb.trans xr).ctx lva.1]; exact ca
  · rw [xr.ctx lvb.1]; exact cb

theorem hArith_live {o : Arith} {a b : Nat} {H H' : Heap α} {r : Nat} (h : hArith o a b H = .ok (r, H'))
    (la : Live H a) (lb : Live H b) :
    ∃ a' b', Extends H H' ∧
      vBroadcastN (H.val a) (targetBroadcastDims (H.val a).dims (H.val b).dims) = .ok (H'.val a') ∧
      vBroadcastN (H.val b) (targetBroadcastDims (H.val a).dims (H.val b).dims) = .ok (H'.val b') ∧
      vArith o (H.val a) (H.val b) = .ok (H'.val r) ∧
      H'.ctx a' = liveCtx [⟨a, .bcastX a a'⟩] ∧ H'.ctx b' = liveCtx [⟨b, .bcastX b b'⟩] ∧
      H'.ctx r = liveCtx (arithEdges o a' b') ∧ Live H' a' ∧ Live H' b' ∧ Live H' r :=
  let ⟨a', b', _, _, _, _, k⟩ := hArith_live_id h la lb
  ⟨a', b', k⟩

theorem hArith_live_same {o : Arith} {a b : Nat} {H H' : Heap α} {r : Nat} (h : hArith o a b H = .ok (r, H'))
    (la : Live H a) (lb : Live H b) (wa : (H.val a).WF) (wb : (H.val b).WF) (hd : (H.val a).dims = (H.val b).dims) :
    ∃ a' b', Extends H H' ∧ H'.val a' = H.val a ∧ H'.val b' = H.val b ∧
      H'.val r = ⟨(H.val a).dims, List.zipWith o.fn (H.val a).data (H.val b).data⟩ ∧
      H'.ctx a' = liveCtx [⟨a, .bcastX a a'⟩] ∧ H'.ctx b' = liveCtx [⟨b, .bcastX b b'⟩] ∧
      H'.ctx r = liveCtx (arithEdges o a' b') ∧ Live H' a' ∧ Live H' b' ∧ Live H' r := by
  obtain ⟨a', b', e, va, vb, vr, k⟩ := hArith_live h la lb
  rw [← hd, targetBroadcastDims_self, vBroadcastN_self _ wa] at va
  rw [← hd, targetBroadcastDims_self, hd, vBroadcastN_self _ wb] at vb
  rw [vArith_same o _ _ wa wb hd] at vr
  exact ⟨a', b', e, (Out.ok.inj va).symm, (Out.ok.inj vb).symm, (Out.ok.inj vr).symm, k⟩

end inv

end C15x
end Qeep
