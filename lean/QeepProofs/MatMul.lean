import QeepProofs.Slice
/-!
# Blocks (`dataAt` with a prefix index), the kernels of Dot and MatMul, and their batched runs

A batched run is a linear generator over the batch indices (`batch_run`) that fetches the operands' blocks at the batch
index (`block?_spec`) and applies the 1-D or 2-D kernel to them. Indices are Go's (big-endian).
-/

namespace Qeep
variable {α : Type}

theorem offset_prefix : ∀ (bd rest pre : List Nat), pre.length = bd.length → offset (bd ++ rest) pre = offset bd pre
  | [], rest, [], _ => by simp [offset]
  | [], _, _ :: _, h => by simp at h
  | _ :: _, _, [], h => by simp at h
  | d :: bd, rest, i :: is, h => by
    have h' : is.length = bd.length := by simpa using h
    simp only [List.cons_append, offset]
    rw [offset_prefix bd rest is h']
    have : (bd ++ rest).take is.length = bd.take is.length := by
      rw [h', List.take_append_of_le_length (Nat.le_refl _), List.take_length]
    rw [this]

theorem chunk_chunk (data : List α) (a b i j : Nat) (hj : j < a) :
    chunk (chunk data (a * b) i) b j = chunk data b (j + a * i) := by
  unfold chunk
  rw [List.drop_take, List.drop_drop, List.take_take]
  congr 1
  · have : (j + 1) * b ≤ a * b := Nat.mul_le_mul_right _ hj
    rw [Nat.add_mul] at this
    omega
  · congr 1
    rw [Nat.add_mul, Nat.mul_assoc]
    have : a * (i * b) = i * (a * b) := by rw [← Nat.mul_assoc, Nat.mul_comm a i, Nat.mul_assoc]
    omega

theorem at?_prefix (bd rest : List Nat) (data : List α) (pre suf : List Nat) (hv : Valid bd pre)
    (hl : data.length = prod (bd ++ rest)) (hs : suf.length = rest.length) :
    (⟨bd ++ rest, data⟩ : Tensor α).at? (pre ++ suf) =
      (⟨rest, chunk data (prod rest) (val bd.reverse pre.reverse)⟩ : Tensor α).at? suf := by
  induction hv generalizing data with
  | nil =>
    have : chunk data (prod rest) 0 = data := by
      unfold chunk
      rw [Nat.zero_mul, List.drop_zero, List.take_of_length_le (Nat.le_of_eq hl : data.length ≤ prod rest)]
    show (⟨rest, data⟩ : Tensor α).at? suf = (⟨rest, chunk data (prod rest) 0⟩ : Tensor α).at? suf
    rw [this]
  | @cons d i bd is hi hv ih =>
    rw [List.cons_append, prod] at hl
    rw [List.cons_append, List.cons_append,
      at?_cons d (bd ++ rest) data i (is ++ suf) hi (by rw [List.length_append, List.length_append, hv.length_eq, hs]),
      ih _ (chunk_length data _ i d hl hi)]
    have hvl := val_lt (valid_reverse hv)
    rw [prod_reverse] at hvl
    rw [List.reverse_cons, List.reverse_cons, val_append d i (by simp [hv.length_eq]), prod_reverse, prod_append,
      chunk_chunk data _ _ i _ hvl]

/-- `dataAt(pre)` at a valid batch index does not panic, and indexing the tensor at `pre ++ suf` is indexing the
    returned block at `suf` -/
theorem block?_spec (bd rest : List Nat) (data : List α) (pre : List Nat) (hv : Valid bd pre)
    (hl : data.length = prod (bd ++ rest)) :
    ∃ blk, (⟨bd ++ rest, data⟩ : Tensor α).block? pre = some ⟨rest, blk⟩ ∧ blk.length = prod rest ∧
      ∀ suf, suf.length = rest.length →
        (⟨bd ++ rest, data⟩ : Tensor α).at? (pre ++ suf) = (⟨rest, blk⟩ : Tensor α).at? suf := by
  have hlen := hv.length_eq
  have hvr : Valid bd.reverse pre.reverse := valid_reverse hv
  have hlt := val_lt hvr
  rw [prod_reverse] at hlt
  have hcl := chunk_length data (prod rest) _ (prod bd) (by rw [hl, prod_append]) hlt
  refine ⟨_, ?_, hcl, fun suf hs => at?_prefix bd rest data pre suf hv hl hs⟩
  have hoff : offset (bd ++ rest) pre = some (val bd.reverse pre.reverse) := by
    rw [offset_prefix bd rest pre hlen]; exact offset_full hvr
  unfold Tensor.block?
  simp only [List.length_append, hlen, Nat.le_add_right, if_true, hoff, Option.bind_some]
  simp [hcl]

theorem at?_rank2 (m n : Nat) (a : List α) (i p : Nat) (hi : i < m) (hp : p < n) :
    (⟨[m, n], a⟩ : Tensor α).at? [i, p] = a[i * n + p]? := by
  simp [Tensor.at?, offset, hi, hp, prod]

theorem at?_singleton (n : Nat) (a : List α) (p : Nat) (hp : p < n) : (⟨[n], a⟩ : Tensor α).at? [p] = a[p]? := by
  simp [Tensor.at?, offset, hp, prod]

theorem batch_run {β : Type} (bd : List Nat) (hbd : ∀ d ∈ bd, 0 < d) (F : List Nat → Option β) (G : List Nat → β)
    (hF : ∀ pre, Valid bd pre → F pre = some (G pre)) :
    ∃ out, allSome (iterGen (incr bd.reverse) (fun st => F st.reverse) (prod bd) (zerosLike bd)) = some out ∧
      out.length = prod bd ∧ (∀ b ∈ out, ∃ pre, b = G pre) ∧
      ∀ pre, Valid bd pre → out[val bd.reverse pre.reverse]? = some (G pre) := by
  have hp := pos_reverse hbd
  refine ⟨(List.range (prod bd)).map fun v => G (iterN (incr bd.reverse) v (zerosLike bd.reverse)).reverse, ?_,
    by simp, fun b hb => ?_, fun pre hv => ?_⟩
  · rw [iterGen_eq, ← zerosLike_reverse bd]
    exact allSome_range _ _ _ fun v _ => hF _ (by simpa using valid_reverse (valid_iter hp v))
  · obtain ⟨v, _, rfl⟩ := List.mem_map.mp hb
    exact ⟨_, rfl⟩
  · have hvr := valid_reverse hv
    have hlt := val_lt hvr
    rw [prod_reverse] at hlt
    simp [List.getElem?_map, List.getElem?_range hlt, iter_val hp hvr]

section
variable [Scalar α]

/-- the 2-D product kernel (`matMulDataOf2DInputs`): entry `(i, j)` is the left fold `Σ_p A[i,p]·B[p,j]` from 0 -/
theorem matMul2D_spec (m n k : Nat) (a b : List α) (A B : Nat → Nat → α)
    (ha : a.length = m * n) (hb : b.length = n * k) (hm : 0 < m) (hn : 0 < n)
    (hA : ∀ i p, i < m → p < n → a[i * n + p]? = some (A i p))
    (hB : ∀ p j, p < n → j < k → b[p * k + j]? = some (B p j)) :
    matMul2D m n k a b = some ((List.range (m * k)).map (fun ij =>
      (List.range n).foldl (fun s p => Scalar.add s (Scalar.mul (A (ij / k) p) (B p (ij % k)))) Scalar.zero)) := by
  unfold matMul2D
  rw [if_pos ⟨ha, hb, hm, hn⟩]
  apply allSome_range
  intro ij hij
  have hk : 0 < k := by
    rcases Nat.eq_zero_or_pos k with h | h
    · subst h; simp at hij
    · exact h
  have hi : ij / k < m := by
    rw [Nat.div_lt_iff_lt_mul hk]; exact hij
  have hj : ij % k < k := Nat.mod_lt _ hk
  simp only []
  have gen : ∀ (l : List Nat) (s0 : α), (∀ p ∈ l, p < n) →
      l.foldl (fun (acc : Option α) p =>
        acc.bind (fun s => (a[ij / k * n + p]?).bind (fun x => (b[p * k + ij % k]?).map (fun y => Scalar.add s (Scalar.mul x y))))) (some s0)
      = some (l.foldl (fun s p => Scalar.add s (Scalar.mul (A (ij / k) p) (B p (ij % k)))) s0) := by
    intro l
    induction l with
    | nil => intro s0 _; rfl
    | cons p ps ih =>
      intro s0 hps
      have hp : p < n := hps p (by simp)
      simp only [List.foldl_cons, Option.bind_some, hA _ _ hi hp, hB _ _ hp hj, Option.map_some]
      exact ih _ (fun q hq => hps q (List.mem_cons_of_mem _ hq))
  exact gen (List.range n) Scalar.zero (fun p hp => List.mem_range.mp hp)

end
end Qeep

namespace Qeep
variable {α : Type} [Scalar α]

/-- the batched matrix product run (`linearLast2DimsMatMulElemGenerator` + `matMulDataOf2DInputs`) on operands with equal
    batch dims (what `broadcastForMatMul` produces), of every batch rank: no panic, and the element at `pre ++ [i,j]`
    is the left fold `Σ_p A[pre,i,p]·B[pre,p,j]` from 0. -/
theorem matMulRaw_spec (bd : List Nat) (m n k : Nat) (d1 d2 : List α)
    (hbd : ∀ d ∈ bd, 0 < d) (hm : 0 < m) (hn : 0 < n) (hk : 0 < k)
    (h1 : d1.length = prod (bd ++ [m, n])) (h2 : d2.length = prod (bd ++ [n, k]))
    (A B : List Nat → Nat → Nat → α)
    (hA : ∀ pre i p, Valid bd pre → i < m → p < n → (⟨bd ++ [m, n], d1⟩ : Tensor α).at? (pre ++ [i, p]) = some (A pre i p))
    (hB : ∀ pre p j, Valid bd pre → p < n → j < k → (⟨bd ++ [n, k], d2⟩ : Tensor α).at? (pre ++ [p, j]) = some (B pre p j)) :
    ∃ data, (⟨bd ++ [m, n], d1⟩ : Tensor α).matMulRaw ⟨bd ++ [n, k], d2⟩ = some ⟨bd ++ [m, k], data⟩ ∧
      data.length = prod (bd ++ [m, k]) ∧
      ∀ pre i j, Valid bd pre → i < m → j < k →
        (⟨bd ++ [m, k], data⟩ : Tensor α).at? (pre ++ [i, j]) =
          some ((List.range n).foldl (fun s p => Scalar.add s (Scalar.mul (A pre i p) (B pre p j))) Scalar.zero) := by
  obtain ⟨rows, hrun, hlen, hall, hrow⟩ := batch_run bd hbd
    (fun pre => ((⟨bd ++ [m, n], d1⟩ : Tensor α).block? pre).bind fun a =>
      ((⟨bd ++ [n, k], d2⟩ : Tensor α).block? pre).bind fun b => matMul2D m n k a.data b.data)
    (fun pre => (List.range (m * k)).map fun ij =>
      (List.range n).foldl (fun s p => Scalar.add s (Scalar.mul (A pre (ij / k) p) (B pre p (ij % k)))) Scalar.zero)
    (fun pre hv => by
      obtain ⟨a, e1, l1, g1⟩ := block?_spec bd [m, n] d1 pre hv h1
      obtain ⟨b, e2, l2, g2⟩ := block?_spec bd [n, k] d2 pre hv h2
      rw [e1, e2]
      exact matMul2D_spec m n k a b (A pre) (B pre) (by simpa [prod] using l1) (by simpa [prod] using l2) hm hn
        (fun i p hi hp => by rw [← at?_rank2 m n a i p hi hp, ← g1 [i, p] rfl]; exact hA pre i p hv hi hp)
        (fun p j hp hj => by rw [← at?_rank2 n k b p j hp hj, ← g2 [p, j] rfl]; exact hB pre p j hv hp hj))
  have hrl : ∀ b ∈ rows, b.length = prod [m, k] := fun b hb => by
    obtain ⟨pre, rfl⟩ := hall b hb
    rw [List.length_map, List.length_range]
    show m * k = m * (k * 1)
    rw [Nat.mul_one]
  have hfl : rows.flatten.length = prod (bd ++ [m, k]) := by
    rw [flatten_length_const rows _ hrl, hlen, prod_append]
  refine ⟨rows.flatten, ?_, hfl, fun q i j hq hi hj => ?_⟩
  · have hdl : (bd ++ [m, n]).dropLast.dropLast = bd := by
      rw [show bd ++ [m, n] = bd ++ [m] ++ [n] from (List.append_assoc bd [m] [n]).symm, List.dropLast_concat,
        List.dropLast_concat]
    have hr1 : (bd ++ [m, n]).reverse = n :: m :: bd.reverse := List.reverse_append
    have hr2 : (bd ++ [n, k]).reverse = k :: n :: bd.reverse := List.reverse_append
    unfold Tensor.matMulRaw
    simp only [hdl, hr1, hr2]
    rw [hrun]; rfl
  · rw [at?_prefix bd [m, k] _ q [i, j] hq hfl rfl, chunk_flatten rows _ _ _ hrl (hrow q hq), at?_rank2 m k _ i j hi hj]
    simp only [List.getElem?_map, List.getElem?_range (add_mul_lt hi hj), Option.map_some]
    have e1 : (i * k + j) / k = i := by
      rw [Nat.mul_comm, Nat.mul_add_div hk, Nat.div_eq_of_lt hj]; simp
    have e2 : (i * k + j) % k = j := by
      rw [Nat.mul_comm, Nat.mul_add_mod, Nat.mod_eq_of_lt hj]
    rw [e1, e2]

theorem zip_eq_range_map {β γ : Type} (a : List β) (b : List γ) (n : Nat) (A : Nat → β) (B : Nat → γ)
    (ha : a.length = n) (hb : b.length = n) (hA : ∀ p, p < n → a[p]? = some (A p)) (hB : ∀ p, p < n → b[p]? = some (B p)) :
    List.zip a b = (List.range n).map (fun p => (A p, B p)) := by
  apply List.ext_getElem?
  intro p
  by_cases hp : p < n
  · simp [List.getElem?_zip_eq_some, List.getElem?_range hp, hA p hp, hB p hp, List.getElem?_map]
  · rw [List.getElem?_eq_none (by simp [ha, hb]; omega), List.getElem?_eq_none (by simp; omega)]

/-- the 1-D kernel (`dotProductOf1DInputs`): the left fold `Σ_p a[p]·b[p]` from 0 -/
theorem dot1D_spec (n : Nat) (a b : List α) (A B : Nat → α) (ha : a.length = n) (hb : b.length = n)
    (hA : ∀ p, p < n → a[p]? = some (A p)) (hB : ∀ p, p < n → b[p]? = some (B p)) :
    dot1D a b = some ((List.range n).foldl (fun s p => Scalar.add s (Scalar.mul (A p) (B p))) Scalar.zero) := by
  unfold dot1D
  rw [if_pos (by rw [ha, hb]; exact Nat.le_refl n), zip_eq_range_map a b n A B ha hb hA hB, List.foldl_map]

/-- the Dot run (`linearLastDimDotProductElemGenerator` + `dotProductOf1DInputs`) on operands of equal dims: no panic,
    and the element at `pre` is the left fold `Σ_p a[pre,p]·b[pre,p]` from 0 -/
theorem dotRaw_spec (bd : List Nat) (n : Nat) (d1 d2 : List α) (hbd : ∀ d ∈ bd, 0 < d) (hn : 0 < n)
    (h1 : d1.length = prod (bd ++ [n])) (h2 : d2.length = prod (bd ++ [n]))
    (A B : List Nat → Nat → α)
    (hA : ∀ pre p, Valid bd pre → p < n → (⟨bd ++ [n], d1⟩ : Tensor α).at? (pre ++ [p]) = some (A pre p))
    (hB : ∀ pre p, Valid bd pre → p < n → (⟨bd ++ [n], d2⟩ : Tensor α).at? (pre ++ [p]) = some (B pre p)) :
    ∃ data, (⟨bd ++ [n], d1⟩ : Tensor α).dotRaw ⟨bd ++ [n], d2⟩ = some ⟨bd, data⟩ ∧ data.length = prod bd ∧
      ∀ pre, Valid bd pre →
        (⟨bd, data⟩ : Tensor α).at? pre =
          some ((List.range n).foldl (fun s p => Scalar.add s (Scalar.mul (A pre p) (B pre p))) Scalar.zero) := by
  obtain ⟨out, hrun, hlen, _, hel⟩ := batch_run bd hbd
    (fun pre => ((⟨bd ++ [n], d1⟩ : Tensor α).block? pre).bind fun r1 =>
      ((⟨bd ++ [n], d2⟩ : Tensor α).block? pre).bind fun r2 => dot1D r1.data r2.data)
    (fun pre => (List.range n).foldl (fun s p => Scalar.add s (Scalar.mul (A pre p) (B pre p))) Scalar.zero)
    (fun pre hv => by
      obtain ⟨r1, e1, l1, g1⟩ := block?_spec bd [n] d1 pre hv h1
      obtain ⟨r2, e2, l2, g2⟩ := block?_spec bd [n] d2 pre hv h2
      rw [e1, e2]
      exact dot1D_spec n r1 r2 (A pre) (B pre) (by simpa [prod] using l1) (by simpa [prod] using l2)
        (fun p hp => by rw [← at?_singleton n r1 p hp, ← g1 [p] rfl]; exact hA pre p hv hp)
        (fun p hp => by rw [← at?_singleton n r2 p hp, ← g2 [p] rfl]; exact hB pre p hv hp))
  refine ⟨out, ?_, hlen, fun q hq => ?_⟩
  · have hdl : (bd ++ [n]).dropLast = bd := by simp
    unfold Tensor.dotRaw
    simp only [hdl]
    rw [hrun]; rfl
  · rw [Tensor.at?_of_valid (⟨bd, out⟩ : Tensor α) hq]; exact hel q hq

end Qeep
