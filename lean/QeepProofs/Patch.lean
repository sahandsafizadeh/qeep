import QeepProofs.Slice
/-!
# `copiedWithPatchOf`: the recursive patch copier
-/

namespace Qeep
variable {α : Type}

inductive FitsP : List (Nat × Nat) → List Nat → List Nat → Prop
  | nil : FitsP [] [] []
  | cons {f t idx sd sds dd dds} : f + sd ≤ dd → FitsP idx sds dds → FitsP ((f, t) :: idx) (sd :: sds) (dd :: dds)

def insideP : List (Nat × Nat) → List Nat → List Nat → Bool
  | (f, _) :: idx, sd :: sds, j :: js => decide (f ≤ j ∧ j < f + sd) && insideP idx sds js
  | _, _, _ => true

def unshiftP : List (Nat × Nat) → List Nat → List Nat
  | (f, _) :: idx, j :: js => (j - f) :: unshiftP idx js
  | _, _ => []

theorem FitsP.lengths : ∀ {idx sds dds}, FitsP idx sds dds → sds.length = dds.length
  | _, _, _, .nil => rfl
  | _, _, _, .cons _ h => by simp [h.lengths]

theorem unshiftP_length : ∀ {idx sds dds js}, FitsP idx sds dds → Valid dds js → (unshiftP idx js).length = sds.length
  | _, _, _, _, .nil, .nil => rfl
  | _, _, _, _, .cons _ hf, .cons _ hv => by simp [unshiftP, unshiftP_length hf hv]

/-- `copiedWithPatchOf`: the copy does not panic; it holds the source element (at the index shifted back by `From`)
    inside the block and the target element everywhere else. -/
theorem patchData_get : ∀ (idx : List (Nat × Nat)) (sds dds : List Nat) (src dst : List α), FitsP idx sds dds →
    src.length = prod sds → dst.length = prod dds →
    ∃ out, patchData idx sds dds src dst = some out ∧ out.length = prod dds ∧
      ∀ js, Valid dds js →
        (⟨dds, out⟩ : Tensor α).at? js =
          if insideP idx sds js then (⟨sds, src⟩ : Tensor α).at? (unshiftP idx js) else (⟨dds, dst⟩ : Tensor α).at? js
  | [], [], [], src, dst, .nil, hs, hd => by
    simp only [prod] at hs hd
    match src, dst, hs, hd with
    | [x], [y], _, _ =>
      refine ⟨[x], rfl, by simp [prod], ?_⟩
      intro js hjs; cases hjs; simp [insideP, unshiftP]
  | (f, t) :: idx, sd :: sds, dd :: dds, src, dst, .cons hfit hrest, hs, hd => by
    simp only [prod] at hs hd
    let row : Nat → Option (List α) := fun j =>
      if f ≤ j ∧ j < f + sd then patchData idx sds dds (chunk src (prod sds) (j - f)) (chunk dst (prod dds) j)
      else some (chunk dst (prod dds) j)
    have hrow : ∀ j, j < dd → ∃ r, row j = some r ∧ r.length = prod dds ∧
        ∀ js, Valid dds js →
          (⟨dds, r⟩ : Tensor α).at? js =
            if (decide (f ≤ j ∧ j < f + sd) && insideP idx sds js) then
              (⟨sds, chunk src (prod sds) (j - f)⟩ : Tensor α).at? (unshiftP idx js)
            else (⟨dds, chunk dst (prod dds) j⟩ : Tensor α).at? js := by
      intro j hj
      have hcl := chunk_length dst (prod dds) j dd hd hj
      by_cases hin : f ≤ j ∧ j < f + sd
      · obtain ⟨r, e1, e2, e3⟩ := patchData_get idx sds dds (chunk src (prod sds) (j - f)) (chunk dst (prod dds) j)
          hrest (chunk_length src (prod sds) (j - f) sd hs (Nat.sub_lt_left_of_lt_add hin.1 hin.2)) hcl
        exact ⟨r, (if_pos hin).trans e1, e2, fun js hjs => by
          rw [e3 js hjs]; simp only [hin, and_self, decide_true, Bool.true_and]⟩
      · exact ⟨_, if_neg hin, hcl, fun js _ => by
          simp only [hin, decide_false, Bool.false_and, Bool.false_eq_true, if_false]⟩
    obtain ⟨out, h1, h2, h3⟩ := rows_tensor dd dds row _ hrow
    refine ⟨out, by simp only [patchData]; rw [if_pos ⟨hfit, hs, hd⟩]; exact h1, h2, ?_⟩
    intro js hjs
    cases hjs with
    | cons hj hv =>
      rename_i j js'
      obtain ⟨r, q, e⟩ := h3 j js' hj hv.length_eq
      rw [e, q js' hv, at?_cons dd dds dst j js' hj hv.length_eq]
      simp only [insideP, unshiftP]
      by_cases hin : f ≤ j ∧ j < f + sd
      · rw [at?_cons sd sds src (j - f) _ (Nat.sub_lt_left_of_lt_add hin.1 hin.2) (unshiftP_length hrest hv)]; rfl
      · simp only [hin, decide_false, Bool.false_and, Bool.false_eq_true, if_false]
termination_by structural idx => idx

end Qeep
