import Mathlib.Analysis.SpecialFunctions.Pow.Real
import Mathlib.Analysis.SpecialFunctions.Trigonometric.Basic
import Mathlib.Analysis.SpecialFunctions.Trigonometric.Deriv
import Mathlib.Analysis.SpecialFunctions.Sqrt
import Mathlib.Analysis.SpecialFunctions.Log.Basic
import Qeep.Components
/-!
# The real-number instance of the scalar domain

What the theorems that speak about values are about: `ℝ` with Mathlib's functions. `negInf` / `posInf` have no real
counterpart: theorems about Max / Min take "the fold identity is below / above every element" as a hypothesis.
Division by zero, `log` of a non-positive number etc. take Mathlib's junk values here; theorems that need
definedness state the domain explicitly.
-/

namespace Qeep

noncomputable instance : Scalar ℝ where
  add := (· + ·)
  sub := (· - ·)
  mul := (· * ·)
  div := (· / ·)
  lt a b := decide (a < b)
  le a b := decide (a ≤ b)
  pow := Real.rpow
  exp := Real.exp
  log := Real.log
  sin := Real.sin
  cos := Real.cos
  tan := Real.tan
  sinh := Real.sinh
  cosh := Real.cosh
  tanh := Real.tanh
  sqrt := Real.sqrt
  abs := fun x => |x|
  max := max
  min := min
  ofNat n := (n : ℝ)
  ofSci m e := (m : ℝ) / (10 : ℝ) ^ e
  neg x := -x
  negInf := 0
  posInf := 0
  toNat x := ⌊x⌋₊

namespace RealScalar
open Scalar

@[simp] theorem add_eq (a b : ℝ) : Scalar.add a b = a + b := rfl
@[simp] theorem sub_eq (a b : ℝ) : Scalar.sub a b = a - b := rfl
@[simp] theorem mul_eq (a b : ℝ) : Scalar.mul a b = a * b := rfl
@[simp] theorem div_eq (a b : ℝ) : Scalar.div a b = a / b := rfl
@[simp] theorem neg_eq (a : ℝ) : Scalar.neg a = -a := rfl
@[simp] theorem ofNat_eq (n : ℕ) : (Scalar.ofNat n : ℝ) = (n : ℝ) := rfl
@[simp] theorem zero_eq : (Scalar.zero : ℝ) = 0 := by simp [Scalar.zero]
@[simp] theorem one_eq : (Scalar.one : ℝ) = 1 := by simp [Scalar.one]
@[simp] theorem two_eq : (Scalar.two : ℝ) = 2 := by simp [Scalar.two]
@[simp] theorem max_eq (a b : ℝ) : Scalar.max a b = Max.max a b := rfl
@[simp] theorem min_eq (a b : ℝ) : Scalar.min a b = Min.min a b := rfl
@[simp] theorem exp_eq (a : ℝ) : Scalar.exp a = Real.exp a := rfl
@[simp] theorem log_eq (a : ℝ) : Scalar.log a = Real.log a := rfl
@[simp] theorem tanh_eq (a : ℝ) : Scalar.tanh a = Real.tanh a := rfl
@[simp] theorem pow_eq (a b : ℝ) : Scalar.pow a b = a ^ b := rfl
@[simp] theorem sin_eq (a : ℝ) : Scalar.sin a = Real.sin a := rfl
@[simp] theorem cos_eq (a : ℝ) : Scalar.cos a = Real.cos a := rfl
@[simp] theorem tan_eq (a : ℝ) : Scalar.tan a = Real.tan a := rfl
@[simp] theorem sinh_eq (a : ℝ) : Scalar.sinh a = Real.sinh a := rfl
@[simp] theorem cosh_eq (a : ℝ) : Scalar.cosh a = Real.cosh a := rfl
@[simp] theorem sqrt_eq (a : ℝ) : Scalar.sqrt a = Real.sqrt a := rfl
@[simp] theorem sin_fn : (Scalar.sin : ℝ → ℝ) = Real.sin := rfl
@[simp] theorem cos_fn : (Scalar.cos : ℝ → ℝ) = Real.cos := rfl
@[simp] theorem sinh_fn : (Scalar.sinh : ℝ → ℝ) = Real.sinh := rfl
@[simp] theorem cosh_fn : (Scalar.cosh : ℝ → ℝ) = Real.cosh := rfl
@[simp] theorem exp_fn : (Scalar.exp : ℝ → ℝ) = Real.exp := rfl
@[simp] theorem tanh_fn : (Scalar.tanh : ℝ → ℝ) = Real.tanh := rfl
@[simp] theorem mul_fn : (Scalar.mul : ℝ → ℝ → ℝ) = fun a b => a * b := rfl
@[simp] theorem div_fn : (Scalar.div : ℝ → ℝ → ℝ) = fun a b => a / b := rfl
@[simp] theorem add_fn : (Scalar.add : ℝ → ℝ → ℝ) = fun a b => a + b := rfl
@[simp] theorem sub_fn : (Scalar.sub : ℝ → ℝ → ℝ) = fun a b => a - b := rfl
@[simp] theorem lt_eq (a b : ℝ) : Scalar.lt a b = decide (a < b) := rfl
@[simp] theorem le_eq (a b : ℝ) : Scalar.le a b = decide (a ≤ b) := rfl
theorem half_eq : (Scalar.half : ℝ) = 1 / 2 := by simp [Scalar.half, Scalar.ofSci]; norm_num
theorem eps_eq : (Scalar.eps : ℝ) = 1 / 10 ^ 12 := by simp [Scalar.eps, Scalar.ofSci]

/-- the left fold the code's reducers perform is the sum of the list -/
theorem foldl_add (l : List ℝ) (a : ℝ) : l.foldl Scalar.add a = a + l.sum := by
  induction l generalizing a with
  | nil => simp
  | cons x xs ih => rw [List.foldl_cons, ih, List.sum_cons, add_eq, add_assoc]

end RealScalar
end Qeep
