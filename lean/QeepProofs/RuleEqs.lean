import Qeep.Grad
import QeepProofs.Gates
/-!
# `evalRule`, one equation per `Rule` constructor

Each Go `gradFn` closure of `tensor/internal/gradtrack/gradients.go` is one arm of `Qeep.evalRule`; the lemmas below
are those arms (all by `rfl`), so that a proof about one closure rewrites with its equation and never sees the others.
-/

namespace Qeep
open Scalar

variable {α : Type} [Scalar α] (bm : BMode) (H : Heap α) (gy : Tensor α)

theorem evalRule_concatI (index : List IRange) : evalRule bm H gy (.concatI index) = vSlice gy index := rfl

theorem evalRule_sliceX (x : Nat) (index : List IRange) :
    evalRule bm H gy (.sliceX x index) = vPatch (vScale (H.val x) zero) index gy := rfl

theorem evalRule_patchX (p : Nat) (index : List IRange) :
    evalRule bm H gy (.patchX p index) = vPatch gy index (vScale (H.val p) zero) := rfl

theorem evalRule_patchP (p : Nat) (index : List IRange) :
    evalRule bm H gy (.patchP p index) = vSlice gy (patchedBlock index (H.val p).dims) := rfl

theorem evalRule_transposeX : evalRule bm H gy .transposeX = vTranspose gy := rfl

theorem evalRule_reshapeX (x : Nat) :
    evalRule bm H gy (.reshapeX x) = vReshape gy ((H.val x).dims.map Int.ofNat) := rfl

theorem evalRule_bcastX (x y : Nat) :
    evalRule bm H gy (.bcastX x y) = bcastRule bm (H.val x).dims (H.val y).dims gy := rfl

theorem evalRule_sumAlongX (x dim : Nat) :
    evalRule bm H gy (.sumAlongX x dim) = reducerBroadcasted gy (H.val x).dims dim := rfl

theorem evalRule_extAlongX (x y dim : Nat) :
    evalRule bm H gy (.extAlongX x y dim) =
      (reducerBroadcasted gy (H.val x).dims dim).bind fun gyb =>
        (reducerBroadcasted (H.val y) (H.val x).dims dim).bind fun yb =>
          (vCmp .eq (H.val x) yb).bind fun gx => vArith .mul gyb gx := rfl

theorem evalRule_avgAlongX (x dim : Nat) :
    evalRule bm H gy (.avgAlongX x dim) =
      (reducerBroadcasted gy (H.val x).dims dim).bind fun gyb =>
        .ok (vScale gyb (div one (ofNat ((H.val x).dims.getD dim 0)))) := rfl

theorem evalRule_varAlongX (x dim : Nat) :
    evalRule bm H gy (.varAlongX x dim) =
      (reducerBroadcasted gy (H.val x).dims dim).bind fun gyb =>
        if (H.val x).dims.getD dim 0 = 1 then .ok (vScale (H.val x) zero) else
          (vAlong .mean (H.val x) dim).bind fun u => (vUnSqueeze u dim).bind fun u =>
            (vArith .sub (H.val x) u).bind fun gx =>
              vArith .mul gyb (vScale gx (div two (ofNat ((H.val x).dims.getD dim 0 - 1)))) := rfl

theorem evalRule_stdAlongX (x y dim : Nat) :
    evalRule bm H gy (.stdAlongX x y dim) =
      (reducerBroadcasted gy (H.val x).dims dim).bind fun gyb =>
        if (H.val x).dims.getD dim 0 = 1 then .ok (vScale (H.val x) zero) else
          (vAlong .mean (H.val x) dim).bind fun u => (vUnSqueeze u dim).bind fun u =>
            (vArith .sub (H.val x) u).bind fun gx => (vUnSqueeze (H.val y) dim).bind fun yu =>
              (vArith .div gx yu).bind fun gx =>
                vArith .mul gyb (vScale gx (div one (ofNat ((H.val x).dims.getD dim 0 - 1)))) := rfl

theorem evalRule_scaleX (a : α) : evalRule bm H gy (.scaleX a) = .ok (vScale gy a) := rfl

theorem evalRule_powX (x : Nat) (a : α) :
    evalRule bm H gy (.powX x a) =
      if isZero a then .ok (vScale (H.val x) zero) else vArith .mul gy (vScale (vPow (H.val x) (sub a one)) a) := rfl

theorem evalRule_expX (y : Nat) : evalRule bm H gy (.expX y) = vArith .mul gy (H.val y) := rfl

theorem evalRule_logX (x : Nat) : evalRule bm H gy (.logX x) = vArith .div gy (H.val x) := rfl

theorem evalRule_sinX (x : Nat) : evalRule bm H gy (.sinX x) = vArith .mul gy (vUnary .cos (H.val x)) := rfl

theorem evalRule_cosX (x : Nat) :
    evalRule bm H gy (.cosX x) = vArith .mul gy (vScale (vUnary .sin (H.val x)) (neg one)) := rfl

theorem evalRule_tanX (x : Nat) :
    evalRule bm H gy (.tanX x) = vArith .mul gy (vPow (vUnary .cos (H.val x)) (neg two)) := rfl

theorem evalRule_sinhX (x : Nat) : evalRule bm H gy (.sinhX x) = vArith .mul gy (vUnary .cosh (H.val x)) := rfl

theorem evalRule_coshX (x : Nat) : evalRule bm H gy (.coshX x) = vArith .mul gy (vUnary .sinh (H.val x)) := rfl

theorem evalRule_tanhX (x : Nat) :
    evalRule bm H gy (.tanhX x) = vArith .mul gy (vPow (vUnary .cosh (H.val x)) (neg two)) := rfl

theorem evalRule_elext (y a b : Nat) :
    evalRule bm H gy (.elext y a b) =
      (vCmp .eq (H.val y) (H.val a)).bind fun ga => (vCmp .eq (H.val a) (H.val b)).bind fun eq =>
        (vArith .sub ga (vScale eq half)).bind fun ga => vArith .mul gy ga := rfl

theorem evalRule_idG : evalRule bm H gy .idG = .ok gy := rfl

theorem evalRule_negG : evalRule bm H gy .negG = .ok (vScale gy (neg one)) := rfl

theorem evalRule_mulG (o : Nat) : evalRule bm H gy (.mulG o) = vArith .mul gy (H.val o) := rfl

theorem evalRule_divA (b : Nat) : evalRule bm H gy (.divA b) = vArith .div gy (H.val b) := rfl

theorem evalRule_divB (a b : Nat) :
    evalRule bm H gy (.divB a b) =
      (vArith .div (vScale (H.val a) (neg one)) (vPow (H.val b) two)).bind fun gb => vArith .mul gy gb := rfl

theorem evalRule_dotG (o : Nat) :
    evalRule bm H gy (.dotG o) = (vUnSqueeze gy gy.dims.length).bind fun g => vArith .mul g (H.val o) := rfl

theorem evalRule_matmulA (b : Nat) :
    evalRule bm H gy (.matmulA b) = (vTranspose (H.val b)).bind fun ga => vMatMul gy ga := rfl

theorem evalRule_matmulB (a : Nat) :
    evalRule bm H gy (.matmulB a) = (vTranspose (H.val a)).bind fun gb => vMatMul gb gy := rfl

end Qeep
