import QeepProofs.ValueOps
/-!
# Forward "run" lemmas: success and value of each heap operation

`Ran m H v r H'` : running `m` on heap `H` succeeds with result node `r` and heap `H'`, the node holds value `v`,
the old heap is untouched (`Extends`), and `r` is a fresh node. `ran_*` says that the operation runs as soon as the
value-level function succeeds, and nothing about contexts: it is `ran_of_push` of the right-to-left half of the operation's
`h*_iff` (`QeepProofs.Heap`), or of `hArith_run` (`QeepProofs.Vals`). The value theorems of the components chain these; where the contexts matter, use `C13x.run_*`.
-/
set_option linter.unusedSectionVars false

namespace Qeep
variable {α : Type} [Scalar α]

structure Ran (m : HM α Nat) (H : Heap α) (v : Tensor α) (r : Nat) (H' : Heap α) : Prop where
  run : m H = .ok (r, H')
  val : H'.val r = v
  ext : Extends H H'
  lt : r < H'.size
  ge : H.size ≤ r

theorem ran_of_push {m : HM α Nat} {H : Heap α} {v : Tensor α} {c : Ctx α} (h : m H = .ok (H.size, H.push ⟨v, c⟩)) :
    Ran m H v H.size (H.push ⟨v, c⟩) :=
  ⟨h, push_val_new _ _, extends_push _ _, by simp, Nat.le_refl _⟩

theorem ran_hOp1 (x : Nat) (v : Tensor α) (rule : Nat → Rule α) (H : Heap α) :
    ∃ r H', Ran (hOp1 x (.ok v) rule) H v r H' :=
  ⟨_, _, ran_of_push (hOp1_run x v rule H)⟩

/-- the operations that read the heap and then call `hOp1` succeed as soon as the value-level function does -/
theorem ran_viaOp1 {m : HM α Nat} {f : Heap α → Out (Tensor α)} {rule : Heap α → Nat → Rule α} {x : Nat}
    (hm : m = (do let H ← getHeap; hOp1 x (f H) (rule H))) (H : Heap α) (v : Tensor α) (h : f H = .ok v) :
    ∃ r H', Ran m H v r H' := by
  subst hm
  exact ⟨_, _, ran_of_push (show hOp1 x (f H) (rule H) H = _ by rw [h, hOp1_run])⟩

theorem ran_hScale (x : Nat) (a : α) (H : Heap α) : ∃ r H', Ran (hScale x a) H (vScale (H.val x) a) r H' :=
  ran_viaOp1 rfl H _ rfl

theorem ran_hPow (x : Nat) (a : α) (H : Heap α) : ∃ r H', Ran (hPow x a) H (vPow (H.val x) a) r H' :=
  ran_viaOp1 rfl H _ rfl

theorem ran_hUnary (f : Unary) (x : Nat) (H : Heap α) : ∃ r H', Ran (hUnary f x) H (vUnary f (H.val x)) r H' :=
  ran_viaOp1 rfl H _ rfl

theorem ran_hBroadcast (x : Nat) (s : List Int) (H : Heap α) (v : Tensor α) (h : vBroadcast (H.val x) s = .ok v) :
    ∃ r H', Ran (hBroadcast x s) H v r H' := ran_viaOp1 rfl H v h

theorem ran_hAlong (rd : Reducer) (x : Nat) (d : Int) (H : Heap α) (v : Tensor α) (h : vAlong rd (H.val x) d = .ok v) :
    ∃ r H', Ran (hAlong rd x d) H v r H' := ran_viaOp1 rfl H v h

theorem ran_hUnSqueeze (x : Nat) (dim : Int) (H : Heap α) (v : Tensor α) (h : vUnSqueeze (H.val x) dim = .ok v) :
    ∃ r H', Ran (hUnSqueeze x dim) H v r H' := ran_viaOp1 rfl H v h

theorem ran_hCmp (c : Cmp) (a b : Nat) (H : Heap α) (v : Tensor α) (h : vCmp c (H.val a) (H.val b) = .ok v) :
    ∃ r H', Ran (hCmp c a b) H v r H' :=
  ⟨_, _, ran_of_push (hCmp_iff.2 ⟨v, h, rfl, rfl⟩)⟩

theorem ran_hArith (o : Arith) (a b : Nat) (H : Heap α) (ha : a < H.size) (hb : b < H.size)
    (va vb : Tensor α) (v : Tensor α)
    (hba : vBroadcastN (H.val a) (targetBroadcastDims (H.val a).dims (H.val b).dims) = .ok va)
    (hbb : vBroadcastN (H.val b) (targetBroadcastDims (H.val a).dims (H.val b).dims) = .ok vb)
    (hz : Tensor.zipRaw o.fn va vb = some v) :
    ∃ r H', Ran (hArith o a b) H v r H' := by
  obtain ⟨Ha, Hb, ea, eb, hs, run⟩ := hArith_run o hb hba hbb hz
  have x : Extends H Hb := by rw [eb, ea]; exact (extends_push _ _).trans (extends_push _ _)
  exact ⟨_, _, run, by rw [← hs, push_val_new], x.trans (extends_push _ _), by rw [Array.size_push, hs]; omega, by omega⟩

theorem ran_hArith_same (o : Arith) (a b : Nat) (H : Heap α) (ha : a < H.size) (hb : b < H.size)
    (wa : (H.val a).WF) (wb : (H.val b).WF) (hd : (H.val a).dims = (H.val b).dims) :
    ∃ r H', Ran (hArith o a b) H ⟨(H.val a).dims, List.zipWith o.fn (H.val a).data (H.val b).data⟩ r H' := by
  have hl : (H.val a).data.length = (H.val b).data.length := by rw [wa.1, wb.1, hd]
  apply ran_hArith o a b H ha hb (H.val a) (H.val b)
  · rw [← hd, targetBroadcastDims_self]; exact vBroadcastN_self _ wa
  · rw [← hd, targetBroadcastDims_self, hd]; exact vBroadcastN_self _ wb
  · simp [Tensor.zipRaw, hd, hl]

end Qeep
