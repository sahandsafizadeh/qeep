import QeepProofs.Index
/-!
# Rows, chunks and the recursive copiers (`copiedSliceOf`)

Indexing the first dimension selects a chunk. The row-wise copiers (`copiedSliceOf`, `copiedWithPatchOf`, `fillCat`)
share one shape, `rows_tensor`: if every row is produced, the copy is the tensor whose rows they are.
Indices here are Go's (big-endian, first dimension first).
-/

namespace Qeep
variable {α : Type}

theorem offset_lt : ∀ {ds is : List Nat} {o : Nat}, offset ds is = some o → is.length = ds.length → o < prod ds
  | [], [], o, h, _ => by simp [offset] at h; subst h; simp [prod]
  | [], _ :: _, _, _, hl => by simp at hl
  | _ :: _, [], _, _, hl => by simp at hl
  | d :: ds, i :: is, o, h, hl => by
    have hl' : is.length = ds.length := by simpa using hl
    simp only [offset] at h
    split at h
    · rename_i hi
      cases ho : offset ds is with
      | none => rw [ho] at h; simp at h
      | some o' =>
        rw [ho] at h
        simp only [Option.map_some, Option.some.injEq] at h
        have := offset_lt ho hl'
        rw [hl', List.take_length] at h
        subst h
        simp only [prod]
        exact add_mul_lt hi this
    · simp at h

theorem chunk_getElem? (data : List α) (sz i o : Nat) (ho : o < sz) : (chunk data sz i)[o]? = data[i * sz + o]? := by
  unfold chunk
  rw [List.getElem?_take_of_lt ho, List.getElem?_drop]

theorem chunk_length (data : List α) (sz i n : Nat) (h : data.length = n * sz) (hi : i < n) : (chunk data sz i).length = sz := by
  unfold chunk
  simp only [List.length_take, List.length_drop, h]
  have : (i + 1) * sz ≤ n * sz := Nat.mul_le_mul_right _ hi
  rw [Nat.add_mul] at this
  omega

theorem at?_cons (d : Nat) (ds : List Nat) (data : List α) (i : Nat) (is : List Nat) (hi : i < d) (hl : is.length = ds.length) :
    (⟨d :: ds, data⟩ : Tensor α).at? (i :: is) = (⟨ds, chunk data (prod ds) i⟩ : Tensor α).at? is := by
  unfold Tensor.at?
  simp only [List.length_cons, hl, if_true, offset, hi]
  cases ho : offset ds is with
  | none => simp
  | some o =>
    have hlt := offset_lt ho hl
    simp only [Option.map_some, Option.bind_some, List.take_length]
    rw [chunk_getElem? _ _ _ _ hlt]

theorem at?_none_of_ge (d : Nat) (ds : List Nat) (data : List α) (i : Nat) (is : List Nat) (hi : ¬ i < d) :
    (⟨d :: ds, data⟩ : Tensor α).at? (i :: is) = none := by
  unfold Tensor.at?
  simp [offset, hi]

theorem chunk_flatten (blocks : List (List α)) (sz i : Nat) (b : List α) (hb : ∀ b ∈ blocks, b.length = sz)
    (hi : blocks[i]? = some b) : chunk blocks.flatten sz i = b := by
  induction blocks generalizing i with
  | nil => cases hi
  | cons b0 bs ih =>
    have hbl : b0.length = sz := hb b0 List.mem_cons_self
    unfold chunk
    rw [List.flatten_cons]
    cases i with
    | zero =>
      obtain rfl : b0 = b := Option.some.inj hi
      rw [Nat.zero_mul, List.drop_zero, ← hbl, List.take_left]
    | succ i =>
      rw [show (i + 1) * sz = b0.length + i * sz by rw [Nat.add_mul, hbl]; omega, List.drop_length_add_append]
      exact ih i (fun x hx => hb x (List.mem_cons_of_mem _ hx)) hi

theorem flatten_length_const {β : Type} (rows : List (List β)) (sz : Nat) (h : ∀ b ∈ rows, b.length = sz) :
    rows.flatten.length = rows.length * sz := by
  induction rows with
  | nil => simp
  | cons b bs ih =>
    rw [List.flatten_cons, List.length_append, h b (by simp), ih fun x hx => h x (by simp [hx]), List.length_cons,
      Nat.add_mul, Nat.one_mul, Nat.add_comm]

/-- assembling a tensor from rows: the outer loop of every row-wise copier, with `Q j` what is known of row `j` -/
theorem rows_tensor (n : Nat) (ds : List Nat) (f : Nat → Option (List α)) (Q : Nat → List α → Prop)
    (h : ∀ j, j < n → ∃ r, f j = some r ∧ r.length = prod ds ∧ Q j r) :
    ∃ out, (allSome ((List.range n).map f)).map List.flatten = some out ∧ out.length = n * prod ds ∧
      ∀ j js, j < n → js.length = ds.length →
        ∃ r, Q j r ∧ (⟨n :: ds, out⟩ : Tensor α).at? (j :: js) = (⟨ds, r⟩ : Tensor α).at? js := by
  obtain ⟨rows, h1, rfl, h3⟩ := allSome_range_exists n f (fun j r => r.length = prod ds ∧ Q j r) h
  have hlen : ∀ b ∈ rows, b.length = prod ds := fun b hb => by
    obtain ⟨j, hj, rfl⟩ := List.getElem_of_mem hb
    obtain ⟨r, e, hr, _⟩ := h3 j hj
    rw [List.getElem?_eq_getElem hj] at e; cases e; exact hr
  refine ⟨rows.flatten, by rw [h1]; rfl, flatten_length_const rows _ hlen, fun j js hj hl => ?_⟩
  obtain ⟨r, e, _, q⟩ := h3 j hj
  exact ⟨r, q, by rw [at?_cons _ ds _ j js hj hl, chunk_flatten rows _ j r hlen e]⟩

theorem sliceDims_cons (f t : Nat) (idx : List (Nat × Nat)) : sliceDims ((f, t) :: idx) = (t - f) :: sliceDims idx := rfl

theorem allSome_some_iff {β : Type} : ∀ (l : List (Option β)) (r : List β), allSome l = some r ↔ l = r.map some
  | [], r => by cases r <;> simp [allSome]
  | none :: l, r => by cases r <;> simp [allSome]
  | some x :: l, r => by
    cases r with
    | nil => simp [allSome]
    | cons y r =>
      simp only [allSome, Option.map_eq_some_iff, List.map_cons, List.cons.injEq, Option.some.injEq]
      constructor
      · rintro ⟨a, ha, rfl, rfl⟩
        exact ⟨rfl, (allSome_some_iff l _).mp ha⟩
      · rintro ⟨rfl, h⟩
        exact ⟨r, (allSome_some_iff l r).mpr h, rfl, rfl⟩

inductive InBlock : List (Nat × Nat) → List Nat → Prop
  | nil : InBlock [] []
  | cons {f t idx j js} : j < t - f → InBlock idx js → InBlock ((f, t) :: idx) (j :: js)

def shiftIdx : List (Nat × Nat) → List Nat → List Nat
  | (f, _) :: idx, j :: js => (j + f) :: shiftIdx idx js
  | _, _ => []

inductive Fits : List (Nat × Nat) → List Nat → Prop
  | nil : Fits [] []
  | cons {f t idx d ds} : t ≤ d → Fits idx ds → Fits ((f, t) :: idx) (d :: ds)

theorem Fits.length_eq : ∀ {idx ds}, Fits idx ds → idx.length = ds.length
  | _, _, .nil => rfl
  | _, _, .cons _ h => by simp [h.length_eq]

theorem InBlock.length_eq : ∀ {idx js}, InBlock idx js → js.length = idx.length
  | _, _, .nil => rfl
  | _, _, .cons _ h => by simp [h.length_eq]

theorem shiftIdx_length : ∀ {idx js}, InBlock idx js → (shiftIdx idx js).length = idx.length
  | _, _, .nil => rfl
  | _, _, .cons _ h => by simp [shiftIdx, shiftIdx_length h]

/-- `copiedSliceOf`: for ranges that fit the dims (what the validator guarantees) the copy does not panic and holds, at
    every local index `j`, the source element at `j + From`. -/
theorem sliceData_get : ∀ (idx : List (Nat × Nat)) (dims : List Nat) (data : List α), Fits idx dims →
    data.length = prod dims →
    ∃ out, sliceData idx dims data = some out ∧ out.length = prod (sliceDims idx) ∧
      ∀ js, InBlock idx js →
        (⟨sliceDims idx, out⟩ : Tensor α).at? js = (⟨dims, data⟩ : Tensor α).at? (shiftIdx idx js)
  | [], [], data, _, hlen => by
    simp only [prod] at hlen
    match data, hlen with
    | [x], _ =>
      refine ⟨[x], rfl, by simp [sliceDims, prod], ?_⟩
      intro js hjs; cases hjs; rfl
  | (f, t) :: idx, d :: ds, data, .cons htd hfit, hlen => by
    simp only [prod] at hlen
    have hrow : ∀ i, i < t - f → ∃ out, sliceData idx ds (chunk data (prod ds) (i + f)) = some out ∧
        out.length = prod (sliceDims idx) ∧ ∀ js, InBlock idx js →
          (⟨sliceDims idx, out⟩ : Tensor α).at? js = (⟨ds, chunk data (prod ds) (i + f)⟩ : Tensor α).at? (shiftIdx idx js) :=
      fun i hi => sliceData_get idx ds _ hfit (chunk_length data (prod ds) (i + f) d hlen
        (Nat.lt_of_lt_of_le (Nat.add_lt_of_lt_sub hi) htd))
    obtain ⟨out, h1, h2, h3⟩ := rows_tensor (t - f) (sliceDims idx) _ _ hrow
    refine ⟨out, by simp only [sliceData, htd, hlen, and_self, if_true]; exact h1, h2, ?_⟩
    intro js hjs
    cases hjs with
    | cons hj hrest =>
      rename_i j js'
      obtain ⟨r, q, e⟩ := h3 j js' hj (by rw [hrest.length_eq, sliceDims, List.length_map])
      rw [sliceDims_cons, e, q js' hrest, shiftIdx,
        at?_cons d ds data (j + f) _ (Nat.lt_of_lt_of_le (Nat.add_lt_of_lt_sub hj) htd)
          (by rw [shiftIdx_length hrest, hfit.length_eq])]
termination_by structural idx => idx

end Qeep
