import QeepProofs.Index
/-!
# The `transposeElemGenerator` carry loop

On little-endian lists the Go loop visits positions 1, 0, 2, 3, … (`incrT`). Swapping the first two entries
turns it into the ordinary odometer on the swapped dims: the generator enumerates the source indices in the
row-major order of the TRANSPOSED shape.
-/

namespace Qeep

/-- swap the first two entries (last two dimensions, little-endian) -/
def swap2 : List Nat → List Nat
  | a :: b :: rest => b :: a :: rest
  | l => l

theorem swap2_swap2 : ∀ l : List Nat, swap2 (swap2 l) = l
  | [] | [_] | _ :: _ :: _ => rfl

theorem swap2_length : ∀ l : List Nat, (swap2 l).length = l.length
  | [] | [_] | _ :: _ :: _ => rfl

theorem mem_swap2 {d : Nat} : ∀ {l : List Nat}, d ∈ swap2 l ↔ d ∈ l
  | [] | [_] => Iff.rfl
  | a :: b :: r => by simp only [swap2, List.mem_cons]; exact or_left_comm

theorem prod_swap2 : ∀ l : List Nat, prod (swap2 l) = prod l
  | [] | [_] => rfl
  | a :: b :: r => Nat.mul_left_comm b a (prod r)

theorem valid_swap2 : ∀ {ds u : List Nat}, Valid ds u → Valid (swap2 ds) (swap2 u)
  | _, _, .nil => .nil
  | _, _, .cons h .nil => .cons h .nil
  | _, _, .cons h (.cons h' hv) => .cons h' (.cons h hv)

theorem transposeDims_eq (dims : List Nat) : transposeDims dims = (swap2 dims.reverse).reverse := by
  have h : dims = dims.reverse.reverse := (List.reverse_reverse dims).symm
  unfold transposeDims
  generalize dims.reverse = r at h ⊢
  subst h
  match r with
  | [] | [_] | _ :: _ :: _ => rfl

theorem mem_transposeDims {d : Nat} {dims : List Nat} : d ∈ transposeDims dims ↔ d ∈ dims := by
  rw [transposeDims_eq, List.mem_reverse, mem_swap2, List.mem_reverse]

theorem prod_transposeDims (dims : List Nat) : prod (transposeDims dims) = prod dims := by
  rw [transposeDims_eq, prod_reverse, prod_swap2, prod_reverse]

theorem incrT_swap (d0 d1 : Nat) (ds : List Nat) (s0 s1 : Nat) (ss : List Nat) :
    swap2 (incrT (d0 :: d1 :: ds) (s0 :: s1 :: ss)) = incr (d1 :: d0 :: ds) (s1 :: s0 :: ss) := by
  simp only [incrT, incr]
  by_cases h1 : s1 + 1 < d1
  · simp [h1, swap2]
  · by_cases h0 : s0 + 1 < d0 <;> simp [h1, h0, swap2]

theorem incrT_swap2 (d0 d1 : Nat) (ds : List Nat) : ∀ {u : List Nat}, u.length = (d1 :: d0 :: ds).length →
    incrT (d0 :: d1 :: ds) (swap2 u) = swap2 (incr (d1 :: d0 :: ds) u)
  | [], h | [_], h => by simp at h
  | s1 :: s0 :: ss, _ => by
    show incrT _ (s0 :: s1 :: ss) = _
    rw [← incrT_swap, swap2_swap2]

/-- after `k` generator calls, the state is the `k`-th index of the transposed shape with its first two entries swapped -/
theorem iterT_swap (d0 d1 : Nat) (ds : List Nat) (k : Nat) :
    iterN (incrT (d0 :: d1 :: ds)) k (zerosLike (d0 :: d1 :: ds))
      = swap2 (iterN (incr (d1 :: d0 :: ds)) k (zerosLike (d1 :: d0 :: ds))) :=
  (iterN_conj (φ := swap2) (P := fun u => u.length = (d1 :: d0 :: ds).length) (s0 := zerosLike (d1 :: d0 :: ds))
    (fun _ hu => ⟨incrT_swap2 d0 d1 ds hu, incr_length' hu⟩) (by simp [zerosLike]) k).1

end Qeep
