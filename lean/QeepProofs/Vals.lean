import QeepProofs.Heap
/-!
# Value semantics of the heap operations

Each public operation on the heap computes the value-level function (`Qeep.Forward`) of its operands' values and
stores it in a freshly allocated node. `*_val` (the value of the new node, in terms of the value-level function) and
`*_node` / `*_id` (its index and context) are what a successful run says, read off the operation's `h*_iff` (`QeepProofs.Heap`)
and the facts about `push`; a new operation gets its `h*_iff` there, and a `*_val` here only when a component theorem is
stated on its value.
-/
set_option linter.unusedSectionVars false

namespace Qeep
variable {α : Type} [Scalar α]

theorem viaOp1_ok {m : HM α Nat} {v : Heap α → Out (Tensor α)} {rule : Heap α → Nat → Rule α} {x : Nat} {H H' : Heap α}
    {r : Nat} (hm : m = (do let H ← getHeap; hOp1 x (v H) (rule H))) (h : m H = .ok (r, H')) :
    hOp1 x (v H) (rule H) H = .ok (r, H') := by subst hm; exact h

theorem viaOp1_val {m : HM α Nat} {v : Heap α → Out (Tensor α)} {rule : Heap α → Nat → Rule α} {x : Nat} {H H' : Heap α}
    {r : Nat} (hm : m = (do let H ← getHeap; hOp1 x (v H) (rule H))) (h : m H = .ok (r, H')) :
    v H = .ok (H'.val r) ∧ r = H.size ∧ Extends H H' ∧ r < H'.size := by
  obtain ⟨t, e, rfl, rfl⟩ := hOp1_iff.1 (viaOp1_ok hm h)
  exact ⟨by rw [e, push_val_new], rfl, extends_push _ _, by simp⟩

/-- every one-operand operation returns the next free index and grows the heap by one node -/
theorem viaOp1_id {m : HM α Nat} {v : Heap α → Out (Tensor α)} {rule : Heap α → Nat → Rule α} {x : Nat} {H H' : Heap α}
    {r : Nat} (hm : m = (do let H ← getHeap; hOp1 x (v H) (rule H))) (h : m H = .ok (r, H')) :
    r = H.size ∧ H'.size = H.size + 1 := by
  obtain ⟨t, _, rfl, rfl⟩ := hOp1_iff.1 (viaOp1_ok hm h)
  exact ⟨rfl, Array.size_push ..⟩

theorem hPow_id {x : Nat} {a : α} {H H' : Heap α} {r : Nat} (h : hPow x a H = .ok (r, H')) :
    r = H.size ∧ H'.size = H.size + 1 := viaOp1_id rfl h

theorem hUnary_id {f : Unary} {x : Nat} {H H' : Heap α} {r : Nat} (h : hUnary f x H = .ok (r, H')) :
    r = H.size ∧ H'.size = H.size + 1 := viaOp1_id rfl h

theorem hAlong_id {rd : Reducer} {x : Nat} {d : Int} {H H' : Heap α} {r : Nat} (h : hAlong rd x d H = .ok (r, H')) :
    r = H.size ∧ H'.size = H.size + 1 := viaOp1_id rfl h

theorem hUnSqueeze_id {x : Nat} {d : Int} {H H' : Heap α} {r : Nat} (h : hUnSqueeze x d H = .ok (r, H')) :
    r = H.size ∧ H'.size = H.size + 1 := viaOp1_id rfl h

theorem hCmp_id {c : Cmp} {a b : Nat} {H H' : Heap α} {r : Nat} (h : hCmp c a b H = .ok (r, H')) : r = H.size :=
  let ⟨_, _, e, _⟩ := hCmp_iff.1 h; e

theorem hCmp_grows {c : Cmp} {a b : Nat} {H H' : Heap α} {r : Nat} (h : hCmp c a b H = .ok (r, H')) :
    H'.size = H.size + 1 := by
  obtain ⟨t, _, _, rfl⟩ := hCmp_iff.1 h
  exact Array.size_push ..

theorem hBroadcast_node {x : Nat} {s : List Int} {H H' : Heap α} {r : Nat} (h : hBroadcast x s H = .ok (r, H')) :
    r = H.size ∧ H'.size = H.size + 1 ∧ Extends H H' ∧ H'.ctx H.size = mkCtx H [x] [⟨x, .bcastX x H.size⟩] :=
  -- `v` and `rule` are named: left to unification, the `rfl` below unfolds the whole of `vBroadcast`
  hOp1_node (viaOp1_ok (v := fun H => vBroadcast (H.val x) s) (rule := fun _ y => .bcastX x y) rfl h)

theorem hScale_node {x : Nat} {a : α} {H H' : Heap α} {r : Nat} (h : hScale x a H = .ok (r, H')) :
    r = H.size ∧ H'.size = H.size + 1 ∧ Extends H H' ∧ H'.ctx H.size = mkCtx H [x] [⟨x, .scaleX a⟩] :=
  hOp1_node (viaOp1_ok (v := fun H => .ok (vScale (H.val x) a)) (rule := fun _ _ => .scaleX a) rfl h)

theorem hScale_val {x : Nat} {a : α} {H H' : Heap α} {r : Nat} (h : hScale x a H = .ok (r, H')) :
    H'.val r = vScale (H.val x) a ∧ r = H.size ∧ Extends H H' :=
  let ⟨e, a', b, _⟩ := viaOp1_val rfl h; ⟨(Out.ok.inj e).symm, a', b⟩

theorem hPow_val {x : Nat} {a : α} {H H' : Heap α} {r : Nat} (h : hPow x a H = .ok (r, H')) :
    H'.val r = vPow (H.val x) a ∧ r = H.size ∧ Extends H H' :=
  let ⟨e, a', b, _⟩ := viaOp1_val rfl h; ⟨(Out.ok.inj e).symm, a', b⟩

theorem hUnary_val {f : Unary} {x : Nat} {H H' : Heap α} {r : Nat} (h : hUnary f x H = .ok (r, H')) :
    H'.val r = vUnary f (H.val x) ∧ r = H.size ∧ Extends H H' :=
  let ⟨e, a', b, _⟩ := viaOp1_val rfl h; ⟨(Out.ok.inj e).symm, a', b⟩

theorem hAlong_val {rd : Reducer} {x : Nat} {d : Int} {H H' : Heap α} {r : Nat} (h : hAlong rd x d H = .ok (r, H')) :
    vAlong rd (H.val x) d = .ok (H'.val r) ∧ r = H.size ∧ Extends H H' :=
  let ⟨e, a', b, _⟩ := viaOp1_val rfl h; ⟨e, a', b⟩

theorem hUnSqueeze_val {x : Nat} {d : Int} {H H' : Heap α} {r : Nat} (h : hUnSqueeze x d H = .ok (r, H')) :
    vUnSqueeze (H.val x) d = .ok (H'.val r) ∧ r = H.size ∧ Extends H H' :=
  let ⟨e, a', b, _⟩ := viaOp1_val rfl h; ⟨e, a', b⟩

theorem hBroadcast_val {x : Nat} {s : List Int} {H H' : Heap α} {r : Nat} (h : hBroadcast x s H = .ok (r, H')) :
    vBroadcast (H.val x) s = .ok (H'.val r) ∧ r = H.size ∧ Extends H H' :=
  let ⟨e, a', b, _⟩ := viaOp1_val rfl h; ⟨e, a', b⟩

theorem alloc_size_lt {x : Nat} {s : List Int} {H H' : Heap α} {r : Nat} (h : hBroadcast x s H = .ok (r, H')) :
    r < H'.size := (viaOp1_val rfl h).2.2.2

theorem hCmp_val {c : Cmp} {a b : Nat} {H H' : Heap α} {r : Nat} (h : hCmp c a b H = .ok (r, H')) :
    vCmp c (H.val a) (H.val b) = .ok (H'.val r) ∧ r = H.size ∧ Extends H H' := by
  obtain ⟨t, e, rfl, rfl⟩ := hCmp_iff.1 h
  exact ⟨by rw [e, push_val_new], rfl, extends_push _ _⟩

theorem pair_ok {a b : Nat} {s1 s2 : Heap α → List Int} {H H' : Heap α} {a' b' : Nat}
    (h : (do let H ← getHeap; let a' ← hBroadcast a (s1 H); let b' ← hBroadcast b (s2 H); pure (a', b') : HM α (Nat × Nat)) H
        = .ok ((a', b'), H')) :
    ∃ Ha, hBroadcast a (s1 H) H = .ok (a', Ha) ∧ hBroadcast b (s2 H) Ha = .ok (b', H') := pair_iff.1 h

theorem pair_val {a b : Nat} {s1 s2 : Heap α → List Int} {H H' : Heap α} {a' b' : Nat} (hb : b < H.size)
    (h : (do let H ← getHeap; let a' ← hBroadcast a (s1 H); let b' ← hBroadcast b (s2 H); pure (a', b') : HM α (Nat × Nat)) H
        = .ok ((a', b'), H')) :
    vBroadcast (H.val a) (s1 H) = .ok (H'.val a') ∧ vBroadcast (H.val b) (s2 H) = .ok (H'.val b') ∧
    Extends H H' ∧ a' < H'.size ∧ b' < H'.size := by
  obtain ⟨Ha, g1, g2⟩ := pair_ok h
  obtain ⟨va, _, xa⟩ := hBroadcast_val g1
  obtain ⟨vb, _, xb⟩ := hBroadcast_val g2
  have hlt : a' < Ha.size := alloc_size_lt g1
  rw [xa.val hb] at vb
  rw [← xb.val hlt] at va
  exact ⟨va, vb, xa.trans xb, Nat.lt_of_lt_of_le hlt xb.1, alloc_size_lt g2⟩

theorem hBroadcastPair_val {a b : Nat} {H H' : Heap α} {a' b' : Nat} (_ : a < H.size) (hb : b < H.size)
    (h : hBroadcastPair a b H = .ok ((a', b'), H')) :
    vBroadcastPair (H.val a) (H.val b) = .ok (H'.val a', H'.val b') ∧ Extends H H' ∧ a' < H'.size ∧ b' < H'.size := by
  obtain ⟨va, vb, x, la, lb⟩ := pair_val hb h
  refine ⟨?_, x, la, lb⟩
  unfold vBroadcastPair vBroadcastN
  simp only [bind, Out.bind]
  rw [va]; simp only []; rw [vb]; rfl

theorem hArith_val {o : Arith} {a b : Nat} {H H' : Heap α} {r : Nat} (ha : a < H.size) (hb : b < H.size)
    (h : hArith o a b H = .ok (r, H')) :
    vArith o (H.val a) (H.val b) = .ok (H'.val r) ∧ H.size ≤ r ∧ r < H'.size ∧ Extends H H' := by
  obtain ⟨a', b', H1, t, h1, e4, rfl, rfl⟩ := hArith_iff.1 h
  obtain ⟨vp, xp, _, _⟩ := hBroadcastPair_val ha hb h1
  refine ⟨?_, xp.1, by simp, xp.trans (extends_push _ _)⟩
  unfold vArith
  simp only [bind, Out.bind]
  rw [vp]; simp only []; rw [e4, push_val_new]; rfl

/-- the three tensors an arithmetic operation allocates: the two `Broadcast` copies of its operands, then the result -/
theorem hArith_nodes {o : Arith} {a b : Nat} {H H' : Heap α} {r : Nat} (h : hArith o a b H = .ok (r, H')) :
    ∃ Ha Hb edges, Extends H Ha ∧ Ha.size = H.size + 1 ∧ Extends Ha Hb ∧ Hb.size = H.size + 2 ∧ Extends Hb H' ∧
      H'.size = H.size + 3 ∧ r = H.size + 2 ∧
      H'.ctx H.size = mkCtx H [a] [⟨a, .bcastX a H.size⟩] ∧
      H'.ctx (H.size + 1) = mkCtx Ha [b] [⟨b, .bcastX b (H.size + 1)⟩] ∧
      H'.ctx r = mkCtx Hb [H.size, H.size + 1] edges := by
  obtain ⟨a', b', Hb, t, q1, _, rfl, rfl⟩ := hArith_iff.1 h
  obtain ⟨Ha, ga, gb⟩ := pair_ok q1
  obtain ⟨rfl, sa, xa, ca⟩ := hBroadcast_node ga
  obtain ⟨eb, sb, xb, cb⟩ := hBroadcast_node gb
  rw [sa] at eb sb cb
  subst eb
  obtain ⟨sr, cr, xr⟩ := push_node Hb t (mkCtx Hb [H.size, H.size + 1] (arithEdges o H.size (H.size + 1)))
  exact ⟨Ha, Hb, _, xa, sa, xb, sb, xr, by rw [sr, sb], sb, by rw [(xb.trans xr).ctx (by omega), ca],
    by rw [xr.ctx (by omega), cb], cr⟩

theorem hBroadcastPairMM_val {a b : Nat} {H H' : Heap α} {a' b' : Nat} (_ : a < H.size) (hb : b < H.size)
    (h : hBroadcastPairMM a b H = .ok ((a', b'), H')) :
    vBroadcastPairMM (H.val a) (H.val b) = .ok (H'.val a', H'.val b') ∧ Extends H H' ∧ a' < H'.size ∧ b' < H'.size := by
  obtain ⟨va, vb, x, la, lb⟩ := pair_val hb h
  refine ⟨?_, x, la, lb⟩
  unfold vBroadcastPairMM vBroadcastN
  simp only [bind, Out.bind]
  rw [va]; simp only []; rw [vb]; rfl

theorem hMatMul_val {a b : Nat} {H H' : Heap α} {r : Nat} (ha : a < H.size) (hb : b < H.size)
    (h : hMatMul a b H = .ok (r, H')) :
    vMatMul (H.val a) (H.val b) = .ok (H'.val r) ∧ H.size ≤ r ∧ r < H'.size ∧ Extends H H' := by
  obtain ⟨hv, a', b', H1, t, h1, e4, rfl, rfl⟩ := hMatMul_iff.1 h
  obtain ⟨vp, xp, _, _⟩ := hBroadcastPairMM_val ha hb h1
  refine ⟨?_, xp.1, by simp, xp.trans (extends_push _ _)⟩
  unfold vMatMul
  rw [if_pos hv]
  simp only [bind, Out.bind]
  rw [vp]; simp only []; rw [e4, push_val_new]; rfl

/-! ## the run direction of the two-operand operations

On operands of `H` whose `Broadcast`s succeed, the operation pushes three nodes: the two copies `H.size`, `H.size + 1` and the
result `H.size + 2`. `Ran`, `C16x.Alloc` and `C13x.StIf` describe these three pushes each in its own terms. -/

theorem bcast2_run {a b : Nat} {sa sb : List Int} {H : Heap α} (hb : b < H.size) {va vb : Tensor α}
    (hba : vBroadcast (H.val a) sa = .ok va) (hbb : vBroadcast (H.val b) sb = .ok vb) :
    ∃ Ha Hb : Heap α, Ha = H.push ⟨va, mkCtx H [a] [⟨a, .bcastX a H.size⟩]⟩ ∧
      Hb = Ha.push ⟨vb, mkCtx Ha [b] [⟨b, .bcastX b (H.size + 1)⟩]⟩ ∧ Hb.size = H.size + 2 ∧
      hBroadcast a sa H = .ok (H.size, Ha) ∧ hBroadcast b sb Ha = .ok (H.size + 1, Hb) ∧
      Hb.val H.size = va ∧ Hb.val (H.size + 1) = vb := by
  have ga := hBroadcast_iff.2 ⟨va, hba, rfl, rfl⟩
  have xa := extends_push H ⟨va, mkCtx H [a] [⟨a, .bcastX a H.size⟩]⟩
  have gb := hBroadcast_iff (x := b) (s := sb).2 ⟨vb, by rw [xa.val hb]; exact hbb, rfl, rfl⟩
  have hs : (H.push ⟨va, mkCtx H [a] [⟨a, .bcastX a H.size⟩]⟩).size = H.size + 1 := Array.size_push ..
  rw [hs] at gb
  refine ⟨_, _, rfl, rfl, by rw [Array.size_push, hs], ga, gb, ?_, ?_⟩
  · rw [(extends_push _ _).val (by rw [hs]; exact Nat.lt_succ_self _), push_val_new]
  · rw [← hs, push_val_new]

theorem hArith_run (o : Arith) {a b : Nat} {H : Heap α} (hb : b < H.size) {va vb v : Tensor α}
    (hba : vBroadcastN (H.val a) (targetBroadcastDims (H.val a).dims (H.val b).dims) = .ok va)
    (hbb : vBroadcastN (H.val b) (targetBroadcastDims (H.val a).dims (H.val b).dims) = .ok vb)
    (hz : Tensor.zipRaw o.fn va vb = some v) :
    ∃ Ha Hb : Heap α, Ha = H.push ⟨va, mkCtx H [a] [⟨a, .bcastX a H.size⟩]⟩ ∧
      Hb = Ha.push ⟨vb, mkCtx Ha [b] [⟨b, .bcastX b (H.size + 1)⟩]⟩ ∧ Hb.size = H.size + 2 ∧
      hArith o a b H = .ok (H.size + 2, Hb.push ⟨v, mkCtx Hb [H.size, H.size + 1] (arithEdges o H.size (H.size + 1))⟩) := by
  obtain ⟨Ha, Hb, ea, eb, hs, ga, gb, wa, wb⟩ := bcast2_run hb hba hbb
  refine ⟨Ha, Hb, ea, eb, hs, ?_⟩
  rw [← hs]
  exact hArith_iff.2 ⟨_, _, Hb, v, hBroadcastPair_iff.2 ⟨Ha, ga, gb⟩, by rw [wa, wb]; exact hz, rfl, rfl⟩

theorem hMatMul_run {a b : Nat} {H : Heap α} (hb : b < H.size) {va vb v : Tensor α}
    (hv : validMatMul (H.val a).dims (H.val b).dims = true)
    (hba : vBroadcastN (H.val a) (matMulShape (targetBroadcastDims (H.val a).dims (H.val b).dims) (H.val a).dims) = .ok va)
    (hbb : vBroadcastN (H.val b) (matMulShape (targetBroadcastDims (H.val a).dims (H.val b).dims) (H.val b).dims) = .ok vb)
    (hm : va.matMulRaw vb = some v) :
    ∃ Ha Hb : Heap α, Ha = H.push ⟨va, mkCtx H [a] [⟨a, .bcastX a H.size⟩]⟩ ∧
      Hb = Ha.push ⟨vb, mkCtx Ha [b] [⟨b, .bcastX b (H.size + 1)⟩]⟩ ∧ Hb.size = H.size + 2 ∧
      hMatMul a b H = .ok (H.size + 2,
        Hb.push ⟨v, mkCtx Hb [H.size, H.size + 1] [⟨H.size, .matmulA (H.size + 1)⟩, ⟨H.size + 1, .matmulB H.size⟩]⟩) := by
  obtain ⟨Ha, Hb, ea, eb, hs, ga, gb, wa, wb⟩ := bcast2_run hb hba hbb
  refine ⟨Ha, Hb, ea, eb, hs, ?_⟩
  rw [← hs]
  exact hMatMul_iff.2 ⟨hv, _, _, Hb, v, hBroadcastPairMM_iff.2 ⟨Ha, ga, gb⟩, by rw [wa, wb]; exact hm, rfl, rfl⟩

end Qeep
