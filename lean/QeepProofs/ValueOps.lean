import QeepProofs.Bcast
import QeepProofs.Vals
/-!
# Value-level operations on operands of equal shape

Binary arithmetic goes through `Broadcast` of both operands to the common target shape; for operands of equal
shape that is the identity, so the result is the element-wise `zipWith`.
-/
set_option linter.unusedSectionVars false

namespace Qeep
variable {α : Type}

theorem targetBroadcastLE_self : ∀ (ds : List Nat), targetBroadcastLE ds ds = ds
  | [] => rfl
  | d :: ds => by simp [targetBroadcastLE, targetBroadcastLE_self ds]

theorem targetBroadcastDims_self (ds : List Nat) : targetBroadcastDims ds ds = ds := by
  simp [targetBroadcastDims, targetBroadcastLE_self]

theorem natDims_ofNat (ds : List Nat) : natDims (ds.map Int.ofNat) = ds := by
  induction ds with
  | nil => rfl
  | cons d ds ih => simp [natDims] at ih ⊢; exact ih

theorem validInputDims_ofNat (ds : List Nat) (h : ∀ d ∈ ds, 0 < d) : validInputDims (ds.map Int.ofNat) = true := by
  simp only [validInputDims, List.all_eq_true, List.mem_map, decide_eq_true_eq]
  rintro z ⟨d, hd, rfl⟩
  have := h d hd
  show (0 : Int) < ((d : Nat) : Int)
  omega

theorem vBroadcastN_self (t : Tensor α) (hwf : t.WF) : vBroadcastN t t.dims = .ok t := by
  unfold vBroadcastN vBroadcast
  rw [validInputDims_ofNat _ hwf.2, natDims_ofNat]
  have : validBroadcast t.dims t.dims = true := validBroadcastLE_self _
  simp [this, broadcast_self t hwf, Out.ofOpt]

section
variable [Scalar α]

theorem vArith_same (o : Arith) (a b : Tensor α) (ha : a.WF) (hb : b.WF) (hd : a.dims = b.dims) :
    vArith o a b = .ok ⟨a.dims, List.zipWith o.fn a.data b.data⟩ := by
  have hl : a.data.length = b.data.length := by rw [ha.1, hb.1, hd]
  unfold vArith vBroadcastPair
  rw [← hd, targetBroadcastDims_self]
  simp only [bind, Out.bind]
  rw [vBroadcastN_self a ha]
  simp only []
  rw [hd, vBroadcastN_self b hb]
  simp [pure, Tensor.zipRaw, hd, hl, Out.ofOpt]

theorem vCmp_same (c : Cmp) (a b : Tensor α) (ha : a.WF) (hb : b.WF) (hd : a.dims = b.dims) :
    vCmp c a b = .ok ⟨a.dims, List.zipWith c.fn a.data b.data⟩ := by
  have hl : a.data.length = b.data.length := by rw [ha.1, hb.1, hd]
  simp [vCmp, validDimsMatch, hd, Tensor.zipRaw, hl, Out.ofOpt]

theorem map_wf (f : α → α) (t : Tensor α) (h : t.WF) : (t.map f).WF := ⟨by simpa [Tensor.map] using h.1, h.2⟩

theorem zip_wf (f : α → α → α) (a b : Tensor α) (ha : a.WF) (hb : b.WF) (hd : a.dims = b.dims) :
    (⟨a.dims, List.zipWith f a.data b.data⟩ : Tensor α).WF := by
  refine ⟨?_, ha.2⟩
  simp only [List.length_zipWith]
  rw [ha.1, hb.1, hd]; simp

end
end Qeep
