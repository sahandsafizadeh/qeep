import QeepProps.C01
import QeepProps.C01all
import QeepProps.C01p
import QeepProps.C01q
import QeepProps.C01t
import QeepProps.C01u
import QeepProps.C01w
import QeepProps.C01x
import QeepProps.C01y
import QeepProps.C01z
import QeepProps.C02
import QeepProps.C02x
import QeepProps.C02y
import QeepProps.C03
import QeepProps.C03x
import QeepProps.C04
import QeepProps.C04x
import QeepProps.C05
import QeepProps.C05all
import QeepProps.C05x
import QeepProps.C06
import QeepProps.C06all
import QeepProps.C06y
import QeepProps.C07
import QeepProps.C08
import QeepProps.C08all
import QeepProps.C08x
import QeepProps.C08z
import QeepProps.C09
import QeepProps.C09x
import QeepProps.C10
import QeepProps.C11
import QeepProps.C11all
import QeepProps.C11n
import QeepProps.C11o
import QeepProps.C11p
import QeepProps.C11r
import QeepProps.C11s
import QeepProps.C11t
import QeepProps.C11u
import QeepProps.C11v
import QeepProps.C11w
import QeepProps.C11x
import QeepProps.C11z
import QeepProps.C12
import QeepProps.C12g
import QeepProps.C12x
import QeepProps.C13
import QeepProps.C13all
import QeepProps.C13s
import QeepProps.C13t
import QeepProps.C13u
import QeepProps.C13v
import QeepProps.C13w
import QeepProps.C13x
import QeepProps.C13z
import QeepProps.C14
import QeepProps.C14y
import QeepProps.C15
import QeepProps.C15all
import QeepProps.C15t
import QeepProps.C15u
import QeepProps.C15v
import QeepProps.C15w
import QeepProps.C15x
import QeepProps.C15y
import QeepProps.C15z
import QeepProps.C16
import QeepProps.C16all
import QeepProps.C16t
import QeepProps.C16u
import QeepProps.C16v
import QeepProps.C16w
import QeepProps.C16x
import QeepProps.C16y
import QeepProps.C16z
import QeepProps.C17
import QeepProps.C17all
import QeepProps.C18
import QeepProps.C19
import QeepProps.C20
