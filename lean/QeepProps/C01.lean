import QeepProofs.Graph
import QeepProofs.Heap
import QeepProofs.Dag
/-!
# C01 — back-propagation yields the total derivative on any operation DAG

`backprop` (model of `BackPropagate`, `Qeep.Grad`) = depth-first order + one pass over the back edges.
The theorems below hold for every heap whose back edges point to older tensors (`HeapDag`; proved to hold of every heap
built through the public API, `reachable_is_dag`: an operation's operands exist before its result) — every fan-out and
reconvergence pattern, every depth, every tracked/untracked assignment, every root.

* `backwardOrder_spec`  — the order contains the root, is closed under tracked back edges, has no duplicates and
  is topological (no tensor is processed before one of its consumers);
* `backprop_adjoint`    — if the walk succeeds, every tensor's final gradient is its previous gradient (plus the
  all-ones seed at the root) plus, edge by edge in processing order and each edge exactly once, the backward rule
  applied to the FINAL gradient of the consumer: the adjoint equations;
* `backprop_calls_le`   — the number of rule applications is at most the number of back edges of the visited tensors
  (and, last clause of `backprop_adjoint`, on success exactly the number of those with a tracked target): linear in
  the size of the graph, whatever the depth or sharing;
* `backprop_untracked_root` — from an untracked root nothing happens.

That the solution of the adjoint equations is the derivative (the multivariate chain rule, once each rule is the
vector-Jacobian product of its operation, C02) is `C01x.backprop_chain_rule`.
-/
set_option linter.unusedSectionVars false

namespace Qeep
namespace C01

variable {α : Type} [Scalar α]

-- `HeapDag H` (back edges point to older tensors) is defined in `QeepProofs.Dag`, where it is shown to be an
-- invariant of every heap the public API can build (`reach_dag`).

theorem mem_succs {H : Heap α} {u v : Nat} :
    v ∈ succs H u ↔ H.tracked v = true ∧ ∃ e ∈ (H.ctx u).edges, e.target = v := by
  simp only [succs, List.mem_filter, List.mem_map, and_comm]

theorem mem_edgesOf {H : Heap α} {u : Nat} {p : Nat × Rule α} :
    p ∈ edgesOf H u ↔ ∃ e ∈ (H.ctx u).edges, (e.target, e.rule) = p := by
  simp only [edgesOf, List.mem_map]

theorem edge_succs {H : Heap α} {u : Nat} {e : Edge α} (he : e ∈ (H.ctx u).edges) (ht : H.tracked e.target = true) :
    e.target ∈ succs H u := mem_succs.mpr ⟨ht, e, he, rfl⟩

theorem dag_succs (H : Heap α) (h : HeapDag H) : DagS (succs H) := by
  intro n c hc
  obtain ⟨_, e, he, rfl⟩ := mem_succs.mp hc
  exact h n e he

theorem order_root_tracked {H : Heap α} {root n : Nat} (h : n ∈ backwardOrder H root) : H.tracked root = true := by
  unfold backwardOrder at h
  split at h
  · assumption
  · cases h

/-- **The order of the walk**: root first, closed under tracked back edges, duplicate-free, topological. -/
theorem backwardOrder_spec (H : Heap α) (root : Nat) (hdag : HeapDag H) (htr : H.tracked root = true) :
    root ∈ backwardOrder H root ∧ ClosedS (succs H) (backwardOrder H root) ∧
    TopoS (succs H) (backwardOrder H root) ∧ (backwardOrder H root).Nodup := by
  unfold backwardOrder
  rw [if_pos htr]
  obtain ⟨hinv, _, hmem⟩ := visit_spec (succs H) (dag_succs H hdag) (root + 1) root [] (by omega)
    (DInv.mk (fun a ha => by simp at ha) TopoS.nil)
  exact ⟨hmem, hinv.closed, hinv.topo, hinv.topo.nodup⟩

theorem order_induct (H : Heap α) (root : Nat) (P : Nat → Prop) (hroot : P root)
    (hcl : ∀ u, P u → ∀ v ∈ succs H u, P v) : ∀ n ∈ backwardOrder H root, P n := by
  intro n hn
  unfold backwardOrder at hn
  split at hn
  · exact visit_subset (succs H) P hcl (root + 1) root [] hroot (by simp) n hn
  · cases hn

theorem mem_order_tracked {H : Heap α} {root n : Nat} (h : n ∈ backwardOrder H root) : H.tracked n = true :=
  order_induct H root (fun n => H.tracked n = true) (order_root_tracked h) (fun _ _ _ hv => (mem_succs.mp hv).1) n h

theorem order_closed {H : Heap α} {root u : Nat} (hdag : HeapDag H) (hu : u ∈ backwardOrder H root) {e : Edge α}
    (he : e ∈ (H.ctx u).edges) (ht : H.tracked e.target = true) : e.target ∈ backwardOrder H root :=
  (backwardOrder_spec H root hdag (order_root_tracked hu)).2.1 u hu _ (edge_succs he ht)

theorem markDirty_fields (H : Heap α) (ns : List Nat) (m : Nat) :
    (markDirty H ns).tracked m = H.tracked m ∧ ((markDirty H ns).ctx m).edges = (H.ctx m).edges ∧
    (markDirty H ns).grad m = H.grad m := by
  unfold Heap.tracked Heap.grad
  rw [markDirty_ctx]
  split <;> exact ⟨rfl, rfl, rfl⟩

theorem writeBack_grad (H : Heap α) (G : Nat → Option (Tensor α)) (n : Nat) (hn : n < H.size) :
    (writeBack H G).grad n = G n := by
  rw [Heap.grad, writeBack_ctx, if_pos hn]

def bpPairs (H : Heap α) (root : Nat) : List (Pair (Rule α)) := allPairs (edgesOf H) (backwardOrder H root)

theorem mem_bpPairs {H : Heap α} {root : Nat} {p : Pair (Rule α)} :
    p ∈ bpPairs H root ↔ p.1 ∈ backwardOrder H root ∧ ∃ e ∈ (H.ctx p.1).edges, (e.target, e.rule) = p.2 := by
  rw [bpPairs, mem_allPairs, mem_edgesOf]

theorem edgesOf_markDirty (H : Heap α) (ns : List Nat) : edgesOf (markDirty H ns) = edgesOf H := by
  funext u; unfold edgesOf; rw [(markDirty_fields H ns u).2.1]

/-- the state in which the loop over the back edges ends, started on the store `G1` (the seeded gradients) -/
def bpRun (bm : BMode) (H : Heap α) (root : Nat) (G1 : Nat → Option (Tensor α)) : BPSt (Tensor α) :=
  (bpPairs H root).foldl
    (stepPair (vArith .add) (fun r gy => evalRule bm (markDirty H (backwardOrder H root)) gy r) H.tracked) { grads := G1 }

/-- **`BackPropagate` from a tracked root, in the terms of the unmarked heap**: seed the root, fold over the back
    edges of the visited tensors, write the store back. (Flags, edges and old gradients are read after `markDirty`
    in the model; it changes none of them.) -/
theorem backprop_eq (bm : BMode) (H : Heap α) (root : Nat) (htr : H.tracked root = true) :
    backprop bm H root =
      match accumG (vArith .add) (fun n => H.grad n) root (vPow (H.val root) Scalar.zero) with
      | .ok G1 => { heap := writeBack (markDirty H (backwardOrder H root)) (bpRun bm H root G1).grads,
                    status := (bpRun bm H root G1).status, calls := (bpRun bm H root G1).calls }
      | .err => { heap := markDirty H (backwardOrder H root), status := .err }
      | .panic => { heap := markDirty H (backwardOrder H root), status := .panic } := by
  have hG0 : (fun n => (markDirty H (backwardOrder H root)).grad n) = (fun n => H.grad n) :=
    funext fun n => (markDirty_fields H _ n).2.2
  have htrk : (markDirty H (backwardOrder H root)).tracked = H.tracked := funext fun n => (markDirty_fields H _ n).1
  unfold backprop bpRun bpPairs
  simp only [htr, Bool.not_true, Bool.false_eq_true, if_false]
  rw [hG0, markDirty_val, htrk, edgesOf_markDirty]
  cases accumG (vArith Arith.add) (fun n => H.grad n) root (vPow (H.val root) Scalar.zero) with
  | ok G1 => simp only [runBP_eq_fold]
  | err => rfl
  | panic => rfl

theorem stable_bpPairs (H : Heap α) (root : Nat) (hdag : HeapDag H) (htr : H.tracked root = true) :
    Stable H.tracked (bpPairs H root) :=
  stable_of_topo H.tracked (succs H) (edgesOf H) (dag_succs H hdag)
    (fun u e he ht => by obtain ⟨e0, he0, rfl⟩ := mem_edgesOf.mp he; exact edge_succs he0 ht)
    _ (backwardOrder_spec H root hdag htr).2.2.1

/-- **Adjoint equations.** `seedG` is the gradient store right after the all-ones seed has been
    accumulated on the root; `final` the store the walk ends with, which is what `Gradient()` returns afterwards. -/
theorem backprop_adjoint (bm : BMode) (H : Heap α) (root : Nat) (hdag : HeapDag H) (htr : H.tracked root = true)
    (hok : (backprop bm H root).status = .ok ()) :
    ∃ (seedG final : Nat → Option (Tensor α)),
      accumG (vArith .add) (fun n => H.grad n) root (vPow (H.val root) Scalar.zero) = .ok seedG ∧
      (∀ n, n < H.size → (backprop bm H root).heap.grad n = final n) ∧
      (∀ n, Sums (vArith .add) (seedG n)
          (contrib (fun r gy => evalRule bm (markDirty H (backwardOrder H root)) gy r) H.tracked final (bpPairs H root) n)
          (final n)) ∧
      (∀ p ∈ bpPairs H root, H.tracked p.2.1 = true →
          ∃ gy g, final p.1 = some gy ∧ evalRule bm (markDirty H (backwardOrder H root)) gy p.2.2 = .ok g) ∧
      (backprop bm H root).calls = ((bpPairs H root).filter (fun p => H.tracked p.2.1)).length := by
  rw [backprop_eq bm H root htr] at hok ⊢
  cases hseed : accumG (vArith Arith.add) (fun n => H.grad n) root (vPow (H.val root) Scalar.zero) with
  | err => rw [hseed] at hok; cases hok
  | panic => rw [hseed] at hok; cases hok
  | ok G1 =>
    rw [hseed] at hok
    obtain ⟨hA, hB, hC⟩ := fold_adjoint (vArith Arith.add)
      (fun r gy => evalRule bm (markDirty H (backwardOrder H root)) gy r) H.tracked
      (bpPairs H root) { grads := G1 } rfl (stable_bpPairs H root hdag htr) hok
    exact ⟨G1, _, rfl, fun n hn => writeBack_grad _ _ n (by rw [markDirty_size]; exact hn), hA, hB,
      hC.trans (Nat.zero_add _)⟩

/-- **Every heap the public API can build has the shape the theorems need**: whatever sequence of constructors,
    operations (on existing tensors), `Gradient()`, `BackPropagate()` and `ResetGradContext()` calls produced it. -/
theorem reachable_is_dag {bm : BMode} {H : Heap α} (h : Reach bm H) : HeapDag H := reach_dag h

theorem backprop_adjoint_reachable (bm : BMode) (H : Heap α) (root : Nat) (hr : Reach bm H) (htr : H.tracked root = true)
    (hok : (backprop bm H root).status = .ok ()) :
    ∃ (seedG final : Nat → Option (Tensor α)),
      accumG (vArith .add) (fun n => H.grad n) root (vPow (H.val root) Scalar.zero) = .ok seedG ∧
      (∀ n, n < H.size → (backprop bm H root).heap.grad n = final n) ∧
      (∀ n, Sums (vArith .add) (seedG n)
          (contrib (fun r gy => evalRule bm (markDirty H (backwardOrder H root)) gy r) H.tracked final (bpPairs H root) n)
          (final n)) ∧
      (∀ p ∈ bpPairs H root, H.tracked p.2.1 = true →
          ∃ gy g, final p.1 = some gy ∧ evalRule bm (markDirty H (backwardOrder H root)) gy p.2.2 = .ok g) ∧
      (backprop bm H root).calls = ((bpPairs H root).filter (fun p => H.tracked p.2.1)).length :=
  backprop_adjoint bm H root (reach_dag hr) htr hok

/-- **Rule applications are linear in the graph**: at most one per back edge of a visited tensor, whatever the
    outcome of the walk (a failing rule stops it early). -/
theorem backprop_calls_le (bm : BMode) (H : Heap α) (root : Nat) :
    (backprop bm H root).calls ≤ (bpPairs H root).length := by
  cases htr : H.tracked root with
  | false => unfold backprop; simp [htr]
  | true =>
    rw [backprop_eq bm H root htr]
    split
    · exact Nat.le_trans (fold_calls_le ..) (Nat.le_of_eq (Nat.zero_add _))
    · exact Nat.zero_le _
    · exact Nat.zero_le _

theorem backprop_untracked_root (bm : BMode) (H : Heap α) (root : Nat) (h : H.tracked root = false) :
    (backprop bm H root).heap = H ∧ (backprop bm H root).status = .ok () ∧ (backprop bm H root).calls = 0 := by
  unfold backprop; simp [h]

/-- non-vacuity: a two-node graph (x tracked leaf, y = Scale(x, 2)) satisfies the hypotheses -/
def H0 : Heap Rat :=
  #[⟨⟨[], [3]⟩, { tracked := true }⟩, ⟨⟨[], [6]⟩, { tracked := true, edges := [⟨0, .scaleX 2⟩] }⟩]

example : HeapDag H0 ∧ H0.tracked 1 = true := by
  refine ⟨?_, rfl⟩
  intro n e he
  match n with
  | 0 => simp [H0, Heap.ctx] at he
  | 1 => simp [H0, Heap.ctx] at he; subst he; simp
  | n + 2 => simp [H0, Heap.ctx] at he

/-- x = leaf 3, y = Scale(x, 2), built by the model's own operations -/
def Hr : Heap Int :=
  match (hLeaf (⟨[], [3]⟩ : Tensor Int) true >>= fun x => hScale x 2) #[] with
  | .ok (_, H) => H
  | _ => #[]

/-- non-vacuity of `Reach`: that history is reachable, its result is a tracked root, and the walk succeeds -/
example : Reach .sum Hr ∧ Hr.size = 2 ∧ Hr.tracked 1 = true ∧ (backprop .sum Hr 1).status = .ok () := by
  refine ⟨?_, by decide, by decide, by decide⟩
  exact Reach.scale (x := 0) (a := 2) (r := 1) (Reach.leaf (v := ⟨[], [3]⟩) (b := true) (r := 0) Reach.empty rfl) (by decide) rfl

end C01
end Qeep
