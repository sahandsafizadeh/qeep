import QeepProps.C01x
import QeepProps.C01y
import QeepProps.C01w
import QeepProps.C01p
import QeepProps.C01q
import QeepProps.C01u
import QeepProps.C01t
/-! Every module with a theorem of property C01; the check of C01 builds this module (`lake build QeepProps.C01all`) and
then prints the axioms of each theorem (`work/audit_C01.lean`). -/
