import QeepProps.C01w
/-!
# C01 — progress: when every rule on the walk succeeds on well-shaped input, `BackPropagate` succeeds

`walk_progress` (generic): let `P n g` be any per-tensor invariant of gradient values ("has the shape of tensor `n`") that
accumulation preserves and under which it succeeds; if every back edge visited by the walk has a rule that, applied to a
`P`-gradient of its source, succeeds with a `P`-gradient of its target, then the walk ends with status `ok` and every
stored gradient satisfies `P`. The order facts used: every visited tensor other than the root has a visited consumer
that comes EARLIER in the order (DFS reverse post-order is topological), so its gradient exists when its own edges are
processed — the `panic` branch of the model (`y.Gradient()` nil) is unreachable.

`backprop_ok`: the instance for the model's `backprop`.
-/

namespace Qeep
namespace C01p
open C01 C01x C01z C01w C20

section generic
variable {D R : Type} (add : D → D → Out D) (pull : R → D → Out D) (tracked : Nat → Bool)

structure Good (V : Nat → Prop) (P : Nat → D → Prop) (s : BPSt D) : Prop where
  ok : s.status = .ok ()
  p : ∀ n, V n → ∀ g, s.grads n = some g → P n g

theorem accumG_good (V : Nat → Prop) (P : Nat → D → Prop)
    (hadd : ∀ n a b, P n a → P n b → ∃ s, add a b = .ok s ∧ P n s)
    (G : Nat → Option D) (hG : ∀ n, V n → ∀ g, G n = some g → P n g) (v : Nat) (hv' : V v) (g : D) (hg : P v g) :
    ∃ G', accumG add G v g = .ok G' ∧ (∀ n, V n → ∀ x, G' n = some x → P n x) ∧ G' v ≠ none ∧ (∀ n, n ≠ v → G' n = G n) := by
  have upd : ∀ s, P v s → (∀ n, V n → ∀ x, updStore G v s n = some x → P n x) ∧ updStore G v s v ≠ none ∧
      ∀ n, n ≠ v → updStore G v s n = G n := fun s ps =>
    ⟨fun n hVn x hx => by
      by_cases hn : n = v
      · subst hn; rw [updStore_self] at hx; cases hx; exact ps
      · rw [updStore_ne hn] at hx; exact hG n hVn x hx,
     by rw [updStore_self]; nofun, fun n hn => updStore_ne hn⟩
  unfold accumG
  cases hv : G v with
  | none => exact ⟨_, rfl, upd g hg⟩
  | some old =>
    obtain ⟨s, hs, ps⟩ := hadd v old g (hG v hv' old hv) hg
    exact ⟨_, by simp [hs, Out.bind], upd s ps⟩

theorem inner_progress (V : Nat → Prop) (P : Nat → D → Prop)
    (hadd : ∀ n a b, P n a → P n b → ∃ s, add a b = .ok s ∧ P n s) (u : Nat) (hVu : V u) :
    ∀ (es : List (Nat × R)) (s : BPSt D), Good V P s → s.grads u ≠ none → (∀ e ∈ es, e.1 ≠ u) →
      (∀ e ∈ es, tracked e.1 = true → V e.1) →
      (∀ e ∈ es, tracked e.1 = true → ∀ gy, P u gy → ∃ g, pull e.2 gy = .ok g ∧ P e.1 g) →
      Good V P (es.foldl (stepEdge add pull tracked u) s) ∧
      (∀ n, s.grads n ≠ none → (es.foldl (stepEdge add pull tracked u) s).grads n ≠ none) ∧
      (∀ e ∈ es, tracked e.1 = true → (es.foldl (stepEdge add pull tracked u) s).grads e.1 ≠ none) := by
  intro es
  induction es with
  | nil => intro s hs _ _ _ _; exact ⟨hs, fun n h => h, fun e he => by simp at he⟩
  | cons e es ih =>
    intro s hs hu hne hV hp
    simp only [List.foldl_cons]
    have step : Good V P (stepEdge add pull tracked u s e) ∧
        (∀ n, s.grads n ≠ none → (stepEdge add pull tracked u s e).grads n ≠ none) ∧
        (tracked e.1 = true → (stepEdge add pull tracked u s e).grads e.1 ≠ none) := by
      cases ht : tracked e.1 with
      | false => rw [stepEdge_untracked add pull tracked ht]; exact ⟨hs, fun n h => h, nofun⟩
      | true =>
        cases hgu : s.grads u with
        | none => exact absurd hgu hu
        | some gy =>
          -- the live case: by hypothesis the rule succeeds, and so does the accumulation
          obtain ⟨g, hpg, pg⟩ := hp e (by simp) ht gy (hs.p u hVu gy hgu)
          obtain ⟨G', hG', pG', hv, hoth⟩ := accumG_good add V P hadd s.grads hs.p e.1 (hV e (by simp) ht) g pg
          rw [stepEdge_live add pull tracked hs.ok ht hgu, hpg]
          simp only [Out.bind, hG']
          refine ⟨⟨rfl, pG'⟩, fun n hn => ?_, fun _ => hv⟩
          by_cases hne' : n = e.1
          · subst hne'; exact hv
          · rw [hoth n hne']; exact hn
    obtain ⟨g1, m1, t1⟩ := step
    have hu' : (stepEdge add pull tracked u s e).grads u ≠ none := m1 u hu
    obtain ⟨g2, m2, t2⟩ := ih (stepEdge add pull tracked u s e) g1 hu'
      (fun e' he' => hne e' (List.mem_cons_of_mem _ he')) (fun e' he' => hV e' (List.mem_cons_of_mem _ he'))
      (fun e' he' => hp e' (List.mem_cons_of_mem _ he'))
    refine ⟨g2, fun n hn => m2 n (m1 n hn), ?_⟩
    intro e' he' ht'
    rcases List.mem_cons.mp he' with rfl | h
    · exact m2 _ (t1 ht')
    · exact t2 e' h ht'

/-- **Progress of the walk**: `pre` are the tensors already processed, `rest` those still to come -/
theorem walk_progress (V : Nat → Prop) (P : Nat → D → Prop) (edges : Nat → List (Nat × R)) (root : Nat)
    (hadd : ∀ n a b, P n a → P n b → ∃ s, add a b = .ok s ∧ P n s)
    (hself : ∀ u, ∀ e ∈ edges u, e.1 ≠ u)
    (hclosed : ∀ u, V u → ∀ e ∈ edges u, tracked e.1 = true → V e.1) :
    ∀ (rest pre : List Nat) (s : BPSt D), (∀ u ∈ rest, V u) → Good V P s → s.grads root ≠ none →
      (∀ w ∈ pre, ∀ e ∈ edges w, tracked e.1 = true → s.grads e.1 ≠ none) →
      (∀ (a b : List Nat) (u : Nat), rest = a ++ u :: b → u = root ∨ ∃ w ∈ pre ++ a, ∃ e ∈ edges w, e.1 = u ∧ tracked u = true) →
      (∀ u ∈ rest, ∀ e ∈ edges u, tracked e.1 = true → ∀ gy, P u gy → ∃ g, pull e.2 gy = .ok g ∧ P e.1 g) →
      Good V P (runBP add pull tracked edges rest s) := by
  intro rest
  induction rest with
  | nil => intro pre s _ hs _ _ _ _; exact hs
  | cons u rest ih =>
    intro pre s hVr hs hroot hpre hearlier hp
    unfold runBP
    simp only [List.foldl_cons]
    have hu : s.grads u ≠ none := by
      rcases hearlier [] rest u rfl with rfl | ⟨w, hw, e, he, het, htu⟩
      · exact hroot
      · simp only [List.append_nil] at hw
        have := hpre w hw e he (by rw [het]; exact htu)
        rw [het] at this; exact this
    obtain ⟨g1, m1, t1⟩ := inner_progress add pull tracked V P hadd u (hVr u (by simp)) (edges u) s hs hu (hself u)
      (hclosed u (hVr u (by simp))) (hp u (by simp))
    have := ih (pre ++ [u]) ((edges u).foldl (stepEdge add pull tracked u) s) (fun v hv => hVr v (List.mem_cons_of_mem _ hv)) g1 (m1 root hroot)
      (by
        intro w hw e he ht
        rcases List.mem_append.mp hw with h | h
        · exact m1 _ (hpre w h e he ht)
        · simp at h; subst h; exact t1 e he ht)
      (by
        intro a b v hab
        have := hearlier (u :: a) b v (by rw [hab]; rfl)
        rcases this with h | ⟨w, hw, rest'⟩
        · left; exact h
        · right
          refine ⟨w, ?_, rest'⟩
          simp only [List.append_assoc, List.singleton_append]
          exact hw)
      (fun v hv => hp v (List.mem_cons_of_mem _ hv))
    exact this

end generic

theorem topo_split {S : Nat → List Nat} : ∀ {l : List Nat}, TopoS S l → ∀ (a b : List Nat) (u : Nat), l = a ++ u :: b →
    ∀ w ∈ b, u ∉ S w := by
  intro l h
  induction h with
  | nil => intro a b u hab; cases a <;> simp at hab
  | @cons m rest hback hnot ht ih =>
    intro a b u hab w hw
    cases a with
    | nil =>
      simp only [List.nil_append, List.cons.injEq] at hab
      obtain ⟨rfl, rfl⟩ := hab
      exact hback w hw
    | cons x a =>
      simp only [List.cons_append, List.cons.injEq] at hab
      exact ih a b u hab.2 w hw

variable {α : Type} [Scalar α]

/-- **`BackPropagate` succeeds** when every visited rule succeeds on `P`-gradients -/
theorem backprop_ok (bm : BMode) (H : Heap α) (root : Nat) (hdag : HeapDag H) (htr : H.tracked root = true)
    (P : Nat → Tensor α → Prop)
    (hadd : ∀ n a b, P n a → P n b → ∃ s, vArith .add a b = .ok s ∧ P n s)
    (hold : ∀ n ∈ backwardOrder H root, ∀ g, H.grad n = some g → P n g)
    (hones : P root (vPow (H.val root) Scalar.zero))
    (hp : ∀ u ∈ backwardOrder H root, ∀ e ∈ (H.ctx u).edges, H.tracked e.target = true → ∀ gy, P u gy →
        ∃ g, evalRule bm (markDirty H (backwardOrder H root)) gy e.rule = .ok g ∧ P e.target g) :
    (backprop bm H root).status = .ok () := by
  obtain ⟨hroot, hcl, htopo, hnd⟩ := backwardOrder_spec H root hdag htr
  obtain ⟨G1, hG1, pG1, hr1, _⟩ := C01p.accumG_good (vArith .add) (fun n => n ∈ backwardOrder H root) P hadd
    (fun n => H.grad n) hold root hroot _ hones
  rw [backprop_eq bm H root htr, hG1]
  have key := walk_progress (vArith .add) (fun r gy => evalRule bm (markDirty H (backwardOrder H root)) gy r) H.tracked
    (fun n => n ∈ backwardOrder H root) P (edgesOf H) root hadd
    (by
      intro u e he
      obtain ⟨e0, he0, rfl⟩ := mem_edgesOf.mp he
      exact Nat.ne_of_lt (hdag u e0 he0))
    (by
      intro u hu e he ht
      obtain ⟨e0, he0, rfl⟩ := mem_edgesOf.mp he
      exact order_closed hdag hu he0 ht)
    (backwardOrder H root) [] { grads := G1 } (fun u hu => hu) ⟨rfl, pG1⟩ hr1 (by intro w hw; simp at hw)
    (by
      intro a b u hab
      have hu : u ∈ backwardOrder H root := by rw [hab]; simp
      rcases order_members_tracked H root hdag u hu with rfl | ⟨w, hw, hsu⟩
      · left; rfl
      · right
        -- w is visited and u ∈ succs w; by topological order w is not after u, and it is not u itself
        have hwu : w ≠ u := fun e => by
          subst e
          exact absurd (dag_succs H hdag w w hsu) (Nat.lt_irrefl _)
        have hnb : w ∉ b := fun hb => topo_split htopo a b u hab w hb hsu
        have hwa : w ∈ a := by
          rw [hab] at hw
          rcases List.mem_append.mp hw with h | h
          · exact h
          · rcases List.mem_cons.mp h with h | h
            · exact absurd h hwu
            · exact absurd h hnb
        obtain ⟨htu, e, he, het⟩ := mem_succs.mp hsu
        exact ⟨w, by simpa using hwa, (e.target, e.rule), mem_edgesOf.mpr ⟨e, he, rfl⟩, het, htu⟩)
    (by
      intro u hu e he ht gy hgy
      obtain ⟨e0, he0, rfl⟩ := mem_edgesOf.mp he
      exact hp u hu e0 he0 ht gy hgy)
  rw [runBP_eq_fold] at key
  exact key.ok

end C01p
end Qeep
