import QeepProps.C01w
import QeepProps.C16x
/-!
# C01 — gradients along a path of sole consumers

`grad_path`: in any successful walk, if a visited tensor `n` ends with the gradient `G` and `n = n₀ → n₁ → … → n_k = m` is a
path of back edges on which every `n_{i+1}` is consumed by `n_i` only (one edge from `n_i`, none from any other visited
tensor), starts without a gradient and is tracked, then `m` ends with exactly `evalPath rules G`: the rules of the path
applied in order (`C16x.evalPath`), every evaluation succeeding. With this the path-wise statements of the components
(`fc_grad_weight`, `fc_grad_bias`, …) become statements about what `BackPropagate` stores.
-/

namespace Qeep
namespace C01q
open RealScalar C01 C01x C01z C01w C16x

/-- a path of back edges from `n` to `m` on which every tensor after `n` has its predecessor on the path as its only
    consumer among the tensors the walk from `root` visits -/
inductive SolePath (H : Heap ℝ) (root : Nat) : Nat → List (Rule ℝ) → Nat → Prop
  | nil (n : Nat) : SolePath H root n [] n
  | cons {n t m : Nat} {r : Rule ℝ} {rs : List (Rule ℝ)} :
      (H.ctx n).edges.filter (fun e => decide (e.target = t)) = [⟨t, r⟩] →
      (∀ v ∈ backwardOrder H root, v ≠ n → ∀ e ∈ (H.ctx v).edges, e.target ≠ t) →
      H.tracked t = true → H.grad t = none → t ≠ root →
      SolePath H root t rs m → SolePath H root n (r :: rs) m

theorem grad_path (bm : BMode) (H : Heap ℝ) (root : Nat) (hdag : HeapDag H) (htr : H.tracked root = true)
    (hok : (backprop bm H root).status = .ok ()) :
    ∀ (n m : Nat) (rs : List (Rule ℝ)), SolePath H root n rs m → ∀ (G : Tensor ℝ), n ∈ backwardOrder H root →
      (backprop bm H root).heap.grad n = some G →
      ∃ g, evalPath bm (markDirty H (backwardOrder H root)) rs G = .ok g ∧ (backprop bm H root).heap.grad m = some g ∧
        m ∈ backwardOrder H root := by
  intro n m rs hp
  induction hp with
  | nil n => intro G hn hG; exact ⟨G, rfl, hG, hn⟩
  | @cons n t m r rs hf hother htt hgt hne _ ih =>
    intro G hn hG
    obtain ⟨seedG, final, hseed, hfin, hsums, hdef, _⟩ := backprop_adjoint bm H root hdag htr hok
    have hlt := order_lt_size H root hdag htr
    have hedge : (⟨t, r⟩ : Edge ℝ) ∈ (H.ctx n).edges := mem_of_filter_eq_cons hf
    have hmem : t ∈ backwardOrder H root := order_closed hdag hn hedge htt
    have hpair : (n, (t, r)) ∈ bpPairs H root := mem_bpPairs.mpr ⟨hn, _, hedge, rfl⟩
    obtain ⟨gy, g, hgy, hpull⟩ := hdef _ hpair htt
    have : gy = G := by
      have h1 := hfin n (hlt n hn)
      rw [hG, hgy] at h1
      injection h1 with h1; exact h1.symm
    subst this
    have hgt' := grad_single' bm H root hdag htr hok t n hn hne hgt htt r hf hother gy g hG hpull
    obtain ⟨g', hp', hg', hm'⟩ := ih g hmem hgt'
    exact ⟨g', by rw [evalPath_cons hpull]; exact hp', hg', hm'⟩

end C01q
end Qeep
