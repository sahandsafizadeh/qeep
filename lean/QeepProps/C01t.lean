import QeepProps.C15z
/-!
# C01 — one consumer with TWO back edges into the same tensor

`grad_double`: if the only visited tensor with back edges into `n` is `u`, and `u` has exactly two of them (rules `r1`, `r2`:
the same tensor passed twice to `Concat`, `ElMax`, `ElMin` or `Patch`, whose edges point at their operands directly), then
`n` receives the SUM of the two deliveries — each edge once.
`elmax_self_backprop`: `y = x.ElMax(x)`, `BackPropagate(y)`: `x.Gradient()` is all ones — the tie-aware rule gives each of the
two edges one half.
-/
set_option linter.unusedSectionVars false

namespace Qeep
namespace C01t
open RealScalar C15x C15z C01 C01x C01z C01w C20 Block

theorem edge_sum_double (H : Heap ℝ) (pull : Rule ℝ → Tensor ℝ → Out (Tensor ℝ)) (G : Nat → Option (Tensor ℝ))
    (n u : Nat) (t : Tensor ℝ) (r1 r2 : Rule ℝ) (htn : H.tracked n = true)
    (hf : (H.ctx u).edges.filter (fun e => decide (e.target = n)) = [⟨n, r1⟩, ⟨n, r2⟩]) :
    ((edgesOf H u).map (fun e => edgeTerm dotp pull H.tracked G n t u e)).sum
      = match G u with
        | some gy => (match pull r1 gy with | .ok g => dotp g t | _ => 0) + (match pull r2 gy with | .ok g => dotp g t | _ => 0)
        | none => 0 := by
  unfold edgesOf
  rw [List.map_map]
  have : ((H.ctx u).edges.map ((fun e => edgeTerm dotp pull H.tracked G n t u e) ∘ fun e => (e.target, e.rule)))
      = (H.ctx u).edges.map (fun e => if e.target = n then
          (match G u with | some gy => (match pull e.rule gy with | .ok g => dotp g t | _ => 0) | none => 0) else 0) := by
    apply List.map_congr_left
    intro e _
    simp only [Function.comp, edgeTerm]
    by_cases h : e.target = n
    · rw [if_pos (⟨by rw [h]; exact htn, h⟩ : H.tracked e.target = true ∧ e.target = n), if_pos h]
      cases G u with
      | none => rfl
      | some gy => simp only []; cases hq : pull e.rule gy <;> simp
    · rw [if_neg (fun hc => h hc.2), if_neg h]
  rw [this, sum_filter_eq, hf]
  cases G u with
  | none => simp
  | some gy => simp

theorem grad_double (bm : BMode) (H : Heap ℝ) (root : Nat) (hdag : HeapDag H) (htr : H.tracked root = true)
    (hok : (backprop bm H root).status = .ok ()) (n u : Nat) (hu : u ∈ backwardOrder H root) (hnr : n ≠ root)
    (hg : H.grad n = none) (htn : H.tracked n = true) (r1 r2 : Rule ℝ)
    (hf : (H.ctx u).edges.filter (fun e => decide (e.target = n)) = [⟨n, r1⟩, ⟨n, r2⟩])
    (hother : ∀ v ∈ backwardOrder H root, v ≠ u → ∀ e ∈ (H.ctx v).edges, e.target ≠ n)
    (gy g1 g2 s : Tensor ℝ) (hgy : (backprop bm H root).heap.grad u = some gy)
    (hp1 : evalRule bm (markDirty H (backwardOrder H root)) gy r1 = .ok g1)
    (hp2 : evalRule bm (markDirty H (backwardOrder H root)) gy r2 = .ok g2) (ds : List Nat)
    (hs1 : Shaped ds g1) (hs2 : Shaped ds g2) (hadd : vArith .add g1 g2 = .ok s) :
    (backprop bm H root).heap.grad n = some s := by
  have hedge : (⟨n, r1⟩ : Edge ℝ) ∈ (H.ctx u).edges := by
    have : (⟨n, r1⟩ : Edge ℝ) ∈ (H.ctx u).edges.filter (fun e => decide (e.target = n)) := by rw [hf]; simp
    exact (List.mem_filter.mp this).1
  have hmem : n ∈ backwardOrder H root := by
    obtain ⟨_, hcl, _, _⟩ := backwardOrder_spec H root hdag htr
    apply hcl u hu
    unfold succs
    exact List.mem_filter.mpr ⟨List.mem_map.mpr ⟨⟨n, r1⟩, hedge, rfl⟩, htn⟩
  obtain ⟨_, _, _, hnd⟩ := backwardOrder_spec H root hdag htr
  obtain ⟨ss, hdot⟩ := shaped_add ds g1 g2 s hs1 hs2 hadd
  apply grad_eq bm H root hdag htr hok n hmem hnr hg ds ?_ s ss
  · intro t
    rw [sum_one _ (backwardOrder H root) hnd u hu]
    · rw [edge_sum_double H _ _ n u t r1 r2 htn hf, hgy]
      simp only [hp1, hp2]
      rw [hdot t]
    · intro v hv hvu
      exact edge_sum_none H _ _ n v t (hother v hv hvu)
  · intro v hv e he _ het gy' g' hgy' h'
    by_cases hvu : v = u
    · subst hvu
      have : e ∈ (H.ctx v).edges.filter (fun e => decide (e.target = n)) := List.mem_filter.mpr ⟨he, by simpa using het⟩
      rw [hf] at this
      simp at this
      rw [hgy] at hgy'
      cases hgy'
      rcases this with rfl | rfl
      · rw [hp1] at h'; cases h'; exact hs1
      · rw [hp2] at h'; cases h'; exact hs2
    · exact absurd het (hother v hv hvu e he)

/-- the block `x.ElMax(x)` appends at base `k`: one tensor with two tie-aware edges into `x` -/
noncomputable def maxTable (x k : Nat) : DTable ℝ :=
  [some [(.inp 0, .elext k x x, tie id id id), (.inp 0, .elext k x x, tie id id id)]]

/-- **`y = x.ElMax(x)`** (the same tensor as both operands of an operation whose back edges point at the operands directly) -/
theorem elmax_self_backprop (bm : BMode) (H : Heap ℝ) (x : Nat) (hR : Reach bm H) (hwf : (H.val x).WF) (l : Live H x) :
    ∃ r H', hCmp .elmax x x H = .ok (r, H') ∧ H'.val r = H.val x ∧
      ((backprop bm H' r).status = .ok () →
        (backprop bm H' r).heap.grad x = some ⟨(H.val x).dims, (H.val x).data.map (fun _ => 1)⟩) := by
  obtain ⟨r, H', hran⟩ := ran_hCmp .elmax x x H _ (vCmp_same .elmax _ _ hwf hwf rfl)
  obtain ⟨_, hext, cr, _⟩ := hCmp_ext_live (Or.inl rfl) hran.run l l
  obtain rfl := hCmp_id hran.run
  have vy : H'.val H.size = (H.val x).map id := by
    rw [hran.val, List.zipWith_self]
    simp only [Tensor.map, Cmp.fn, max_eq, max_self]
    rfl
  have hv : ∀ {n v}, H'.val n = v → (markDirty H' (backwardOrder H' H.size)).val n = v :=
    fun h => (markDirty_val _ _ _).trans h
  have hx := hv ((hext.val l.1).trans (val_id _))
  have D : Diag bm H' H.size H.size [x] (H.val x).dims (H.val x).data (maxTable x H.size) :=
    Diag.of (sh := [some [.inp 0, .inp 0]]) rfl (tracked_lt_size H' _ (liveCtx_grad H' _ _ cr).2.1) (by simpa using l.1)
      (by simp) rfl hwf.1
      ⟨live_row cr ⟨dz_elext bm _ hwf.1 hwf.2 (hv vy) hx hx, dz_elext bm _ hwf.1 hwf.2 (hv vy) hx hx, trivial⟩, trivial⟩
  have hadj : adj (maxTable x H.size) (.inp 0) = fun _ => 1 := by
    rw [D.adj1_two (τ := .inp 0) (sh := [some [.inp 0, .inp 0]]) rfl (n := 1) rfl (by decide) (i := 0) rfl rfl rfl
      (Diag.adj_top _)]
    funext a
    have hthr : Scalar.abs (0 : ℝ) ≤ (Scalar.eqThr : ℝ) := by simpa [Scalar.abs] using le_of_lt eqThr_pos
    simp only [tie, id, Scalar.near, sub_self, sub_eq, le_eq, decide_eq_true hthr, if_true]
    norm_num
  refine ⟨H.size, H', hran.run, by rw [vy]; exact (val_id _).symm, ?_⟩
  exact (D.top_run (k := H.size) (ns := maxTable x H.size) (Reach.cmp hR l.1 l.1 hran.run) (l.ext hext)
    (fresh_hCmp _ _ _ H _ _ hran.run).2 (Nat.succ_pos _) (liveCtx_grad H' _ _ cr).2.1 (sh := [some [.inp 0, .inp 0]]) rfl rfl
    rfl hwf vy hadj).2

end C01t
end Qeep
