import QeepProps.C15z
/-!
# C01 — the same tensor twice in one call: `y = x.Mul(x)`

`mul_self_backprop`: on any reachable heap, for a tracked unspent `x` (leaf or not), after `y = x.Mul(x)` and a successful
`BackPropagate(y)`: `x.Gradient() = 2·x` element by element — the derivative of `Σ x²`. The two operands are one tensor; the
library gives each its own `Broadcast` node, both with a back edge into `x`, and the walk adds the two deliveries: a block of
three tensors over `x`, walked from its top (`Block.Diag.top_run`).
-/
set_option linter.unusedSectionVars false

namespace Qeep
namespace C01u
open RealScalar C15x C15z C01 C01x C01z C01w C20 Block

def mulShape : Table := [some [.inp 0], some [.inp 0], some [.loc 0, .loc 1]]

/-- the block `x.Mul(x)` appends at base `k`: the two `Broadcast` copies of `x`, each with its own edge into `x`, and their
    product -/
def mulTable (x k : Nat) : DTable ℝ :=
  [some [(.inp 0, .bcastX x k, fun _ => 1)],
   some [(.inp 0, .bcastX x (k + 1), fun _ => 1)],
   some [(.loc 0, .mulG (k + 1), id), (.loc 1, .mulG k, id)]]

theorem mul_self_backprop (bm : BMode) (H : Heap ℝ) (x : Nat) (hR : Reach bm H) (hwf : (H.val x).WF) (l : Live H x) :
    ∃ r H', hArith .mul x x H = .ok (r, H') ∧
      ((backprop bm H' r).status = .ok () →
        (backprop bm H' r).heap.grad x = some ⟨(H.val x).dims, (H.val x).data.map (fun a => 2 * a)⟩) := by
  obtain ⟨r, H', hran⟩ := ran_hArith_same .mul x x H l.1 l.1 hwf hwf rfl
  obtain ⟨a', b', rfl, rfl, rfl, _, hext, va, vb, _, ca, cb, cr, _⟩ := hArith_live_id hran.run l l
  rw [targetBroadcastDims_self, vBroadcastN_self _ hwf] at va vb
  injection va with va
  injection vb with vb
  have hv : ∀ {n v}, H'.val n = v → (markDirty H' (backwardOrder H' (H.size + 2))).val n = v :=
    fun h => (markDirty_val _ _ _).trans h
  have D : Diag bm H' (H.size + 2) H.size [x] (H.val x).dims (H.val x).data (mulTable x H.size) :=
    Diag.of (sh := mulShape) rfl (tracked_lt_size H' _ (liveCtx_grad H' _ _ cr).2.1) (by simpa using l.1) (by simp) rfl hwf.1
      ⟨live_row ca ⟨dz_bcast bm _ hwf.1 (by rw [hv (hext.val l.1), hv va.symm]), trivial⟩,
       live_row cb ⟨dz_bcast bm _ hwf.1 (by rw [hv (hext.val l.1), hv vb.symm]), trivial⟩,
       live_row cr ⟨dz_mul bm _ hwf.1 hwf.2 (hv (vb.symm.trans (val_id _))),
         dz_mul bm _ hwf.1 hwf.2 (hv (va.symm.trans (val_id _))), trivial⟩, trivial⟩
  have hadj : adj (mulTable x H.size) (.inp 0) = fun a => 2 * a := by
    have a2 : adj (mulTable x H.size) (.loc 2) = _ := Diag.adj_top _
    have a0 := D.adj1 (τ := .loc 0) (sh := mulShape) rfl (n := 3) rfl (by decide) (i := 2) rfl rfl rfl a2
    have a1 := D.adj1 (τ := .loc 1) (sh := mulShape) rfl (n := 3) rfl (by decide) (i := 2) rfl rfl rfl a2
    rw [D.adj2 (τ := .inp 0) (sh := mulShape) rfl (n := 3) rfl (by decide) (i := 0) (j := 1) rfl rfl rfl rfl rfl a0 a1]
    funext a
    simp only [id]
    ring
  have vr : H'.val (H.size + 2) = (H.val x).map (fun a => a * a) := by
    rw [hran.val, List.zipWith_self]; rfl
  exact ⟨_, H', hran.run, (D.top_run (k := H.size) (ns := mulTable x H.size) (Reach.arith hR l.1 l.1 hran.run) (l.ext hext)
    (fresh_hArith _ _ _ H _ _ hran.run).2 (Nat.succ_pos _) (liveCtx_grad H' _ _ cr).2.1 (sh := mulShape) rfl rfl rfl hwf vr
    hadj).2⟩

end C01u
end Qeep
