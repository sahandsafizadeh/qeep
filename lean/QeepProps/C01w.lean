import QeepProps.C01z
import QeepProps.C08
/-!
# C01 — from pairings to tensors: the stored gradient is determined element by element

Where no addition takes place (the root; a tensor with a single consumer) the stored gradient is read off the adjoint
equations directly, for any scalar type: `root_keeps_seed`, `single_delivery`.

Where deliveries are added up the order of accumulation is the processing order of the walk, so the sum is identified
through the element-wise pairing `C01x.dotp` over the reals: if the gradient a walk stores on `n` pairs with every unit
tangent like a tensor `E` of the right shape, it IS `E` (`ext_of_dotp`). Together with `C01z.final_pairing` this turns
the "sum over the consumers" statement into an equation between tensors (`grad_eq`, `grad_list`).
-/
set_option linter.unusedSectionVars false
set_option linter.unusedVariables false

namespace Qeep
namespace C01w
open C01 C01x C01z C20

/-- the `i`-th unit tangent of shape `ds` -/
noncomputable def unitT (ds : List Nat) (i : Nat) : Tensor ℝ :=
  ⟨ds, (List.range (prod ds)).map (fun k => if k = i then (1 : ℝ) else 0)⟩

theorem zipWith_unit_sum (l : List ℝ) (off i : Nat) :
    (List.zipWith (· * ·) l ((List.range' off l.length).map (fun k => if k = i then (1 : ℝ) else 0))).sum
      = if off ≤ i ∧ i < off + l.length then l.getD (i - off) 0 else 0 := by
  induction l generalizing off with
  | nil => simp
  | cons a l ih =>
    simp only [List.length_cons, List.range'_succ, List.map_cons, List.zipWith_cons_cons, List.sum_cons, ih (off + 1)]
    by_cases h0 : off = i
    · subst h0
      have : ¬ (off + 1 ≤ off ∧ off < off + 1 + l.length) := by omega
      simp
    · simp only [h0, if_false, mul_zero, zero_add]
      by_cases h1 : off + 1 ≤ i ∧ i < off + 1 + l.length
      · have h2 : off ≤ i ∧ i < off + (l.length + 1) := by omega
        rw [if_pos h1, if_pos h2]
        have : i - off = (i - (off + 1)) + 1 := by omega
        rw [this, List.getD_cons_succ]
      · have h2 : ¬ (off ≤ i ∧ i < off + (l.length + 1)) := by omega
        rw [if_neg h1, if_neg h2]

theorem dotp_unit (g : Tensor ℝ) (wg : g.WF) (i : Nat) (hi : i < g.data.length) :
    dotp g (unitT g.dims i) = g.data.getD i 0 := by
  unfold dotp unitT
  simp only []
  have hl : prod g.dims = g.data.length := wg.1.symm
  rw [hl, List.range_eq_range']
  have := zipWith_unit_sum g.data 0 i
  simp only [Nat.zero_le, true_and, Nat.zero_add, Nat.sub_zero] at this
  rw [this, if_pos hi]

theorem ext_of_dotp (a b : Tensor ℝ) (wa : a.WF) (wb : b.WF) (hd : a.dims = b.dims)
    (h : ∀ i, i < a.data.length → dotp a (unitT a.dims i) = dotp b (unitT a.dims i)) : a = b := by
  have hl : a.data.length = b.data.length := by rw [wa.1, wb.1, hd]
  cases a with
  | mk ad adata =>
  cases b with
  | mk bd bdata =>
  simp only at hd hl h ⊢
  subst hd
  congr 1
  apply List.ext_getElem hl
  intro i h1 h2
  have e := h i h1
  rw [dotp_unit ⟨ad, adata⟩ wa i h1] at e
  have e2 := dotp_unit ⟨ad, bdata⟩ wb i h2
  simp only at e e2
  rw [e2] at e
  simpa [List.getD, h1, h2] using e

/-- a sum over a duplicate-free list in which only the members of a duplicate-free sublist `S` contribute -/
theorem sum_members (F : Nat → ℝ) : ∀ (L : List Nat), L.Nodup → ∀ (S : List Nat), S.Nodup → (∀ u ∈ S, u ∈ L) →
    (∀ u ∈ L, u ∉ S → F u = 0) → (L.map F).sum = (S.map F).sum := by
  intro L
  induction L with
  | nil =>
    intro _ S _ hsub _
    cases S with
    | nil => rfl
    | cons a S => exact absurd (hsub a (by simp)) (by simp)
  | cons x L ih =>
    intro hnd S hS hsub h0
    have hx := List.nodup_cons.mp hnd
    simp only [List.map_cons, List.sum_cons]
    by_cases hxS : x ∈ S
    · have hp := List.perm_cons_erase hxS
      have : (S.map F).sum = F x + ((S.erase x).map F).sum := by
        have := (hp.map F).sum_eq
        simpa using this
      rw [this]
      congr 1
      apply ih hx.2 (S.erase x) (hS.erase x)
      · intro u hu
        have huS : u ∈ S := List.mem_of_mem_erase hu
        have hux : u ≠ x := fun e => by
          subst e
          exact (List.Nodup.not_mem_erase hS) hu
        rcases List.mem_cons.mp (hsub u huS) with h | h
        · exact absurd h hux
        · exact h
      · intro u hu hnot
        apply h0 u (List.mem_cons_of_mem _ hu)
        intro huS
        apply hnot
        have hux : u ≠ x := fun e => hx.1 (by rw [← e]; exact hu)
        exact (List.mem_erase_of_ne hux).mpr huS
    · rw [h0 x (by simp) hxS, zero_add]
      apply ih hx.2 S hS
      · intro u hu
        rcases List.mem_cons.mp (hsub u hu) with h | h
        · exact absurd (h ▸ hu) hxS
        · exact h
      · intro u hu hnot
        exact h0 u (List.mem_cons_of_mem _ hu) hnot

theorem sum_one (F : Nat → ℝ) (L : List Nat) (hnd : L.Nodup) (c : Nat) (hc : c ∈ L)
    (hz : ∀ u ∈ L, u ≠ c → F u = 0) : (L.map F).sum = F c := by
  rw [sum_members F L hnd [c] (List.nodup_singleton c) (by simpa using hc) (fun u hu h => hz u hu (by simpa using h))]
  simp

/-- the invariant under which the element-wise pairing is additive: well-formed, of shape `ds` -/
def Shaped (ds : List Nat) (g : Tensor ℝ) : Prop := g.WF ∧ g.dims = ds

theorem shaped_add (ds : List Nat) (a b s : Tensor ℝ) (ha : Shaped ds a) (hb : Shaped ds b) (h : vArith .add a b = .ok s) :
    Shaped ds s ∧ ∀ t, dotp s t = dotp a t + dotp b t := dotp_add_same ds a b s ha hb h

theorem ones_shaped (v : Tensor ℝ) (wv : v.WF) : Shaped v.dims (vPow v Scalar.zero) := by
  refine ⟨⟨?_, wv.2⟩, rfl⟩
  simp [vPow, Tensor.map, wv.1]

theorem mem_of_filter_eq_cons {β : Type} {l as : List β} {p : β → Bool} {a : β} (h : l.filter p = a :: as) : a ∈ l :=
  (List.mem_filter.mp (h ▸ List.mem_cons_self ..)).1

section anyScalar
variable {α : Type} [Scalar α]

/-- the deliveries of one visited tensor `u` into a tracked `n`: one per back edge of `u` that points to `n` -/
theorem contrib_node (H : Heap α) (pull : Rule α → Tensor α → Out (Tensor α)) (G : Nat → Option (Tensor α)) (u n : Nat)
    (htn : H.tracked n = true) :
    contrib pull H.tracked G ((edgesOf H u).map fun e => (u, e)) n
      = ((H.ctx u).edges.filter fun e => decide (e.target = n)).filterMap fun e =>
          match G u with
          | some gy => (match pull e.rule gy with | .ok g => some g | _ => none)
          | none => none := by
  unfold contrib edgesOf
  rw [List.map_map, List.filterMap_map, ← List.filterMap_eq_filter, List.filterMap_filterMap]
  refine List.filterMap_congr fun e _ => ?_
  by_cases h : e.target = n
  · simp [h, htn]
    cases G u with
    | none => rfl
    | some gy => simp only []; cases hq : pull e.rule gy <;> simp
  · simp [h, Option.guard]

/-- **the root keeps the all-ones seed**: nothing visited has a back edge into the root -/
theorem root_keeps_seed (bm : BMode) (H : Heap α) (root : Nat) (hdag : HeapDag H) (htr : H.tracked root = true)
    (hok : (backprop bm H root).status = .ok ()) (hg : H.grad root = none) :
    (backprop bm H root).heap.grad root = some (vPow (H.val root) Scalar.zero) := by
  obtain ⟨seedG, final, hseed, hfin, hsums, _⟩ := backprop_adjoint bm H root hdag htr hok
  have hS := hsums root
  rw [contrib_eq_nil _ _ fun p hp _ heq => by
    obtain ⟨hu, e, he, hpe⟩ := mem_bpPairs.mp hp
    have h1 := hdag p.1 e he
    have h2 := order_le_root H root hdag p.1 hu
    rw [← hpe] at heq; simp only at heq; omega] at hS
  rw [hfin root (tracked_lt_size H root htr), hS.eq_of_nil]
  obtain ⟨s, rfl, ⟨_, rfl⟩ | ⟨old, ho, _⟩⟩ := accumG_ok _ hseed
  · exact updStore_self
  · rw [hg] at ho; cases ho

/-- **one consumer**: the only visited back edge into `n` comes from `u` with rule `r`; then `n` receives exactly `r`
    applied to the final gradient of `u` (no accumulation takes place, so no shape hypothesis is needed) -/
theorem single_delivery (bm : BMode) (H : Heap α) (root : Nat) (hdag : HeapDag H) (htr : H.tracked root = true)
    (hok : (backprop bm H root).status = .ok ()) (n u : Nat) (hu : u ∈ backwardOrder H root) (hnr : n ≠ root)
    (hg : H.grad n = none) (htn : H.tracked n = true) (r : Rule α)
    (hf : (H.ctx u).edges.filter (fun e => decide (e.target = n)) = [⟨n, r⟩])
    (hother : ∀ v ∈ backwardOrder H root, v ≠ u → ∀ e ∈ (H.ctx v).edges, e.target ≠ n)
    (gy g : Tensor α) (hgy : (backprop bm H root).heap.grad u = some gy)
    (hpull : evalRule bm (markDirty H (backwardOrder H root)) gy r = .ok g) :
    (backprop bm H root).heap.grad n = some g := by
  obtain ⟨seedG, final, hseed, hfin, hsums, _⟩ := backprop_adjoint bm H root hdag htr hok
  have hlt := order_lt_size H root hdag htr
  have hmem : n ∈ backwardOrder H root := order_closed hdag hu (mem_of_filter_eq_cons hf) htn
  have hS := hsums n
  -- nothing at `n` before the walk; the deliveries into `n` are those of `u`, of which there is one
  rw [(accumG_other _ hseed n hnr).trans hg, bpPairs, contrib_allPairs,
    flatMap_eq_of_single (backwardOrder_spec H root hdag htr).2.2.2 hu fun v hv hvu =>
      contrib_eq_nil _ _ fun p hp _ heq => by
        obtain ⟨e, he, rfl⟩ := List.mem_map.mp hp
        obtain ⟨e0, he0, rfl⟩ := mem_edgesOf.mp he
        exact hother v hv hvu e0 he0 heq,
    contrib_node H _ _ u n htn, hf, ← hfin u (hlt u hu), hgy] at hS
  simp only [List.filterMap_cons, List.filterMap_nil, hpull] at hS
  rw [hfin n (hlt n hmem), hS.eq_of_single]

end anyScalar

theorem grad_root (bm : BMode) (H : Heap ℝ) (root : Nat) (hdag : HeapDag H) (htr : H.tracked root = true)
    (hok : (backprop bm H root).status = .ok ()) (hg : H.grad root = none) (wv : (H.val root).WF) :
    (backprop bm H root).heap.grad root = some (vPow (H.val root) Scalar.zero) :=
  root_keeps_seed bm H root hdag htr hok hg

theorem grad_single' (bm : BMode) (H : Heap ℝ) (root : Nat) (hdag : HeapDag H) (htr : H.tracked root = true)
    (hok : (backprop bm H root).status = .ok ()) (n u : Nat) (hu : u ∈ backwardOrder H root) (hnr : n ≠ root)
    (hg : H.grad n = none) (htn : H.tracked n = true) (r : Rule ℝ)
    (hf : (H.ctx u).edges.filter (fun e => decide (e.target = n)) = [⟨n, r⟩])
    (hother : ∀ v ∈ backwardOrder H root, v ≠ u → ∀ e ∈ (H.ctx v).edges, e.target ≠ n)
    (gy g : Tensor ℝ) (hgy : (backprop bm H root).heap.grad u = some gy)
    (hpull : evalRule bm (markDirty H (backwardOrder H root)) gy r = .ok g) :
    (backprop bm H root).heap.grad n = some g :=
  single_delivery bm H root hdag htr hok n u hu hnr hg htn r hf hother gy g hgy hpull

/-- **one consumer**: the only visited back edge into `n` comes from `u` with rule `r`; then `n` receives `r` applied to
    the final gradient of `u` -/
theorem grad_single (bm : BMode) (H : Heap ℝ) (root : Nat) (hdag : HeapDag H) (htr : H.tracked root = true)
    (hok : (backprop bm H root).status = .ok ()) (n u : Nat) (hu : u ∈ backwardOrder H root) (hnr : n ≠ root)
    (hg : H.grad n = none) (htn : H.tracked n = true) (r : Rule ℝ)
    (hf : (H.ctx u).edges.filter (fun e => decide (e.target = n)) = [⟨n, r⟩])
    (hother : ∀ v ∈ backwardOrder H root, v ≠ u → ∀ e ∈ (H.ctx v).edges, e.target ≠ n)
    (gy g : Tensor ℝ) (hgy : (backprop bm H root).heap.grad u = some gy)
    (hpull : evalRule bm (markDirty H (backwardOrder H root)) gy r = .ok g) (ds : List Nat) (hshape : Shaped ds g) :
    (backprop bm H root).heap.grad n = some g :=
  single_delivery bm H root hdag htr hok n u hu hnr hg htn r hf hother gy g hgy hpull

/-- **a visited tensor other than the root that had no gradient receives exactly the sum of what its consumers
    deliver**: if that sum pairs with every tangent like the tensor `E`, the stored gradient is `E` -/
theorem grad_eq (bm : BMode) (H : Heap ℝ) (root : Nat) (hdag : HeapDag H) (htr : H.tracked root = true)
    (hok : (backprop bm H root).status = .ok ()) (n : Nat) (hmem : n ∈ backwardOrder H root) (hnr : n ≠ root)
    (hg : H.grad n = none) (ds : List Nat)
    (hrule : ∀ u ∈ backwardOrder H root, ∀ e ∈ (H.ctx u).edges, H.tracked e.target = true → e.target = n →
        ∀ gy g, (backprop bm H root).heap.grad u = some gy →
          evalRule bm (markDirty H (backwardOrder H root)) gy e.rule = .ok g → Shaped ds g)
    (E : Tensor ℝ) (sE : Shaped ds E)
    (hsum : ∀ t, ((backwardOrder H root).map (fun u => ((edgesOf H u).map (fun e =>
        edgeTerm dotp (fun r gy => evalRule bm (markDirty H (backwardOrder H root)) gy r) H.tracked
          (fun m => (backprop bm H root).heap.grad m) n t u e)).sum)).sum = dotp E t) :
    (backprop bm H root).heap.grad n = some E := by
  have hlt : n < H.size := order_lt_size H root hdag htr n hmem
  have fp := fun t => final_pairing bm H root hdag htr hok dotp n hlt (Shaped ds)
      (shaped_add _) (by intro g h; rw [hg] at h; cases h) (fun h => absurd h hnr) hrule t
  have hne := C08.bp_gives_gradients bm H root hdag htr hok n hmem hlt
  cases hG : (backprop bm H root).heap.grad n with
  | none => exact absurd hG hne
  | some G =>
    obtain ⟨seedG, hseed, hgood, _⟩ := fp (unitT [] 0)
    have sG := hgood G hG
    congr 1
    apply ext_of_dotp G E sG.1 sE.1 (by rw [sG.2, sE.2])
    intro i _
    obtain ⟨seedG', hseed', _, hp⟩ := fp (unitT G.dims i)
    rw [hG, hsum] at hp
    have hs : seedG' n = none := (accumG_other _ hseed' n hnr).trans hg
    rw [hs] at hp
    simpa [ipo] using hp

theorem sum_filter_eq {β : Type} (l : List β) (p : β → Prop) [DecidablePred p] (f : β → ℝ) :
    (l.map (fun e => if p e then f e else 0)).sum = ((l.filter (fun e => decide (p e))).map f).sum := by
  induction l with
  | nil => simp
  | cons a l ih =>
    by_cases h : p a
    · simp [h, ih]
    · simp [h, ih]

theorem edge_sum_single (H : Heap ℝ) (pull : Rule ℝ → Tensor ℝ → Out (Tensor ℝ)) (G : Nat → Option (Tensor ℝ))
    (n u : Nat) (t : Tensor ℝ) (r : Rule ℝ) (htn : H.tracked n = true)
    (hf : (H.ctx u).edges.filter (fun e => decide (e.target = n)) = [⟨n, r⟩]) :
    ((edgesOf H u).map (fun e => edgeTerm dotp pull H.tracked G n t u e)).sum
      = match G u with
        | some gy => (match pull r gy with | .ok g => dotp g t | _ => 0)
        | none => 0 := by
  unfold edgesOf
  rw [List.map_map]
  have : ((H.ctx u).edges.map ((fun e => edgeTerm dotp pull H.tracked G n t u e) ∘ fun e => (e.target, e.rule)))
      = (H.ctx u).edges.map (fun e => if e.target = n then
          (match G u with | some gy => (match pull e.rule gy with | .ok g => dotp g t | _ => 0) | none => 0) else 0) := by
    apply List.map_congr_left
    intro e _
    simp only [Function.comp, edgeTerm]
    by_cases h : e.target = n
    · rw [if_pos (⟨by rw [h]; exact htn, h⟩ : H.tracked e.target = true ∧ e.target = n), if_pos h]
      cases G u with
      | none => rfl
      | some gy => simp only []; cases hq : pull e.rule gy <;> simp
    · rw [if_neg (fun hc => h hc.2), if_neg h]
  rw [this, sum_filter_eq, hf]
  simp

theorem edge_sum_none (H : Heap ℝ) (pull : Rule ℝ → Tensor ℝ → Out (Tensor ℝ)) (G : Nat → Option (Tensor ℝ))
    (n u : Nat) (t : Tensor ℝ) (hno : ∀ e ∈ (H.ctx u).edges, e.target ≠ n) :
    ((edgesOf H u).map (fun e => edgeTerm dotp pull H.tracked G n t u e)).sum = 0 := by
  refine List.sum_eq_zero fun x hx => ?_
  obtain ⟨e, he, rfl⟩ := List.mem_map.mp hx
  obtain ⟨e0, he0, rfl⟩ := mem_edgesOf.mp he
  exact if_neg fun hc => hno e0 he0 hc.2

/-- one consumer of `n`: the visited tensor, the rule of its back edge into `n`, its final gradient, what the rule delivers -/
structure Consumer where
  u : Nat
  rule : Rule ℝ
  gy : Tensor ℝ
  g : Tensor ℝ

/-- **any number of consumers**, each with exactly one back edge into `n`: `n` receives a tensor that pairs like the sum of
    the deliveries -/
theorem grad_list (bm : BMode) (H : Heap ℝ) (root : Nat) (hdag : HeapDag H) (htr : H.tracked root = true)
    (hok : (backprop bm H root).status = .ok ()) (n : Nat) (hnr : n ≠ root)
    (hg : H.grad n = none) (htn : H.tracked n = true) (cs : List Consumer) (hne : cs ≠ [])
    (hnd : (cs.map (·.u)).Nodup) (ds : List Nat)
    (hc : ∀ c ∈ cs, c.u ∈ backwardOrder H root ∧
      (H.ctx c.u).edges.filter (fun e => decide (e.target = n)) = [⟨n, c.rule⟩] ∧
      (backprop bm H root).heap.grad c.u = some c.gy ∧
      evalRule bm (markDirty H (backwardOrder H root)) c.gy c.rule = .ok c.g ∧ Shaped ds c.g)
    (hother : ∀ v ∈ backwardOrder H root, v ∉ cs.map (·.u) → ∀ e ∈ (H.ctx v).edges, e.target ≠ n)
    (E : Tensor ℝ) (sE : Shaped ds E) (hE : ∀ t, dotp E t = (cs.map (fun c => dotp c.g t)).sum) :
    (backprop bm H root).heap.grad n = some E := by
  obtain ⟨_, _, _, hndL⟩ := backwardOrder_spec H root hdag htr
  have hmem : n ∈ backwardOrder H root := by
    obtain ⟨c, hcm⟩ := List.exists_mem_of_ne_nil cs hne
    exact order_closed hdag (hc c hcm).1 (mem_of_filter_eq_cons (hc c hcm).2.1) htn
  apply grad_eq bm H root hdag htr hok n hmem hnr hg ds ?_ E sE
  · intro t
    rw [sum_members _ (backwardOrder H root) hndL (cs.map (·.u)) hnd]
    · rw [hE t, List.map_map]
      congr 1
      apply List.map_congr_left
      intro c hcm
      obtain ⟨_, hf, hgy, hp, _⟩ := hc c hcm
      simp only [Function.comp]
      rw [edge_sum_single H _ _ n c.u t c.rule htn hf, hgy]
      simp only [hp]
    · intro u hu
      obtain ⟨c, hcm, rfl⟩ := List.mem_map.mp hu
      exact (hc c hcm).1
    · intro v hv hnot
      exact edge_sum_none H _ _ n v t (hother v hv hnot)
  · -- an edge into `n` is the one edge of one of the consumers
    intro v hv e he _ het gy' g' hgy' h'
    by_cases hvS : v ∈ cs.map (·.u)
    · obtain ⟨c, hcm, rfl⟩ := List.mem_map.mp hvS
      obtain ⟨_, hf, hgy, hp, hs⟩ := hc c hcm
      have : e ∈ (H.ctx c.u).edges.filter (fun e => decide (e.target = n)) := List.mem_filter.mpr ⟨he, by simpa using het⟩
      rw [hf, List.mem_singleton] at this
      subst this
      rw [hgy] at hgy'; cases hgy'
      rw [hp] at h'; cases h'
      exact hs
    · exact absurd het (hother v hv hvS e he)

/-- **two consumers** `u1 ≠ u2`, each with exactly one back edge into `n`: `n` receives the sum of the two deliveries -/
theorem grad_two (bm : BMode) (H : Heap ℝ) (root : Nat) (hdag : HeapDag H) (htr : H.tracked root = true)
    (hok : (backprop bm H root).status = .ok ()) (n u1 u2 : Nat) (hu1 : u1 ∈ backwardOrder H root)
    (hu2 : u2 ∈ backwardOrder H root) (h12 : u1 ≠ u2) (hnr : n ≠ root)
    (hg : H.grad n = none) (htn : H.tracked n = true) (r1 r2 : Rule ℝ)
    (hf1 : (H.ctx u1).edges.filter (fun e => decide (e.target = n)) = [⟨n, r1⟩])
    (hf2 : (H.ctx u2).edges.filter (fun e => decide (e.target = n)) = [⟨n, r2⟩])
    (hother : ∀ v ∈ backwardOrder H root, v ≠ u1 → v ≠ u2 → ∀ e ∈ (H.ctx v).edges, e.target ≠ n)
    (gy1 g1 gy2 g2 s : Tensor ℝ) (hgy1 : (backprop bm H root).heap.grad u1 = some gy1)
    (hgy2 : (backprop bm H root).heap.grad u2 = some gy2)
    (hp1 : evalRule bm (markDirty H (backwardOrder H root)) gy1 r1 = .ok g1)
    (hp2 : evalRule bm (markDirty H (backwardOrder H root)) gy2 r2 = .ok g2) (ds : List Nat)
    (hs1 : Shaped ds g1) (hs2 : Shaped ds g2)
    (hadd : vArith .add g1 g2 = .ok s) :
    (backprop bm H root).heap.grad n = some s := by
  obtain ⟨ss, hdot⟩ := shaped_add ds g1 g2 s hs1 hs2 hadd
  refine grad_list bm H root hdag htr hok n hnr hg htn [⟨u1, r1, gy1, g1⟩, ⟨u2, r2, gy2, g2⟩] (by simp)
    (by simpa using h12) ds ?_ ?_ s ss (fun t => by simp [hdot t])
  · intro c hcm
    simp only [List.mem_cons, List.not_mem_nil, or_false] at hcm
    rcases hcm with rfl | rfl
    · exact ⟨hu1, hf1, hgy1, hp1, hs1⟩
    · exact ⟨hu2, hf2, hgy2, hp2, hs2⟩
  · intro v hv hnot
    simp only [List.map_cons, List.map_nil, List.mem_cons, List.not_mem_nil, or_false, not_or] at hnot
    exact hother v hv hnot.1 hnot.2

end C01w
end Qeep
