import QeepProps.C01
import QeepProps.C20
import QeepProofs.Duality
import QeepProofs.ValueOps
import QeepProofs.Real
/-!
# C01 (graph-level chain rule) — back-propagation computes the adjoint of tangent propagation

`backprop_chain_rule`: for ANY heap with the DAG shape (every reachable heap: `C01.reachable_is_dag`), any tracked
root, any pairing `ip` between gradient values and tangents, and ANY family of per-edge linear maps `push` to which the
backward rules are adjoint on the values that occur (`ip (rule gy) t = ip gy (push rule t)`: the rule is the
vector-Jacobian product of its edge; C02 proves this rule by rule for the element-wise family): if `dv` solves the
forward tangent equations of the graph with perturbations `δ u` injected at the nodes, then after a successful walk

  `Σ_{u ∈ walk} ⟨grad u, δ u⟩ = ⟨ones, dv root⟩`  (plus the pairing with gradients that were there before).

That is the multivariate chain rule for the whole DAG: the gradient of each tensor is the coefficient of its
perturbation in the first-order variation of the sum of the root's elements — for every fan-out and reconvergence
pattern, depth and tracked/untracked assignment. `Good n` is the per-node invariant (for the code: "has the shape of
tensor n") under which accumulation is additive; `dotp_add_same` shows the additivity hypothesis holds for the
element-wise pairing on tensors of equal shape.
-/
set_option linter.unusedSectionVars false

namespace Qeep
namespace C01x
open C01 C20

variable {α : Type} [Scalar α]

theorem tracked_lt_size (H : Heap α) (n : Nat) (h : H.tracked n = true) : n < H.size := by
  apply Classical.byContradiction
  intro hn
  rw [Heap.tracked, ctx_of_size_le H (Nat.le_of_not_lt hn)] at h
  cases h

theorem order_lt_size (H : Heap α) (root : Nat) (hdag : HeapDag H) (htr : H.tracked root = true) :
    ∀ n ∈ backwardOrder H root, n < H.size :=
  order_induct H root _ (tracked_lt_size H _ htr) fun _ _ v hv => tracked_lt_size H v (mem_succs.mp hv).1

/-- **Graph-level chain rule**: `Σ_{u ∈ walk} ⟨grad u, δ u⟩ = ⟨ones, dv root⟩` plus the pairing with the gradients
    that were there before. -/
theorem backprop_chain_rule {T : Type} (bm : BMode) (H : Heap α) (root : Nat) (hdag : HeapDag H)
    (htr : H.tracked root = true) (hok : (backprop bm H root).status = .ok ())
    (ip : Tensor α → T → ℝ) (push : Rule α → T → T) (Good : Nat → Tensor α → Prop)
    (hadd : ∀ n a b s, Good n a → Good n b → vArith .add a b = .ok s → Good n s ∧ ∀ t, ip s t = ip a t + ip b t)
    (hold : ∀ n g, H.grad n = some g → Good n g)
    (hones : Good root (vPow (H.val root) Scalar.zero))
    (hrule : ∀ u ∈ backwardOrder H root, ∀ e ∈ (H.ctx u).edges, H.tracked e.target = true →
        ∀ gy g, evalRule bm (markDirty H (backwardOrder H root)) gy e.rule = .ok g → Good e.target g)
    (hadj : ∀ u ∈ backwardOrder H root, ∀ e ∈ (H.ctx u).edges, H.tracked e.target = true →
        ∀ gy g, evalRule bm (markDirty H (backwardOrder H root)) gy e.rule = .ok g → ∀ t, ip g t = ip gy (push e.rule t))
    (dv δ : Nat → T)
    (htan : ∀ u ∈ backwardOrder H root, ∀ gy, ip gy (dv u) = ip gy (δ u)
        + ((H.ctx u).edges.map (fun e => if H.tracked e.target = true then ip gy (push e.rule (dv e.target)) else 0)).sum) :
    ∃ seedG, accumG (vArith .add) (fun n => H.grad n) root (vPow (H.val root) Scalar.zero) = .ok seedG ∧
      ((backwardOrder H root).map (fun u => ipo ip ((backprop bm H root).heap.grad u) (δ u))).sum
        = ((backwardOrder H root).map (fun n => ipo ip (seedG n) (dv n))).sum := by
  obtain ⟨seedG, final, hseed, hfin, hsums, hdef, _⟩ := backprop_adjoint bm H root hdag htr hok
  obtain ⟨hroot, hclosed, _, hnd⟩ := backwardOrder_spec H root hdag htr
  refine ⟨seedG, hseed, ?_⟩
  have hlt := order_lt_size H root hdag htr
  have hL : ((backwardOrder H root).map (fun u => ipo ip ((backprop bm H root).heap.grad u) (δ u)))
      = ((backwardOrder H root).map (fun u => ipo ip (final u) (δ u))) := by
    apply List.map_congr_left
    intro u hu
    rw [hfin u (hlt u hu)]
  rw [hL]
  have hseedGood : ∀ n x, seedG n = some x → Good n x :=
    accumG_pres _ hseed Good hold hones fun a s ha h => (hadd _ a _ s ha hones h).1
  refine adjoint_duality (vArith .add) (fun r gy => evalRule bm (markDirty H (backwardOrder H root)) gy r) H.tracked ip push
    (edgesOf H) (backwardOrder H root) hnd final seedG hsums hdef ?_ Good hadd hseedGood ?_ ?_ dv δ ?_
  ·
    intro p hp ht
    obtain ⟨hu, e, he, hpe⟩ := mem_bpPairs.mp hp
    rw [← hpe] at ht ⊢
    exact order_closed hdag hu he ht
  ·
    intro n g hg
    obtain ⟨p, hp, ht, rfl, gy, _, hp2⟩ := (mem_contrib _ _).mp hg
    obtain ⟨hu, e, he, hpe⟩ := mem_bpPairs.mp hp
    rw [← hpe] at ht hp2 ⊢
    exact hrule p.1 hu e he ht gy g hp2
  · -- adjointness, re-indexed over `edgesOf`
    intro p hp ht gy g hg t
    obtain ⟨hu, e, he, hpe⟩ := mem_bpPairs.mp hp
    rw [← hpe] at ht hg ⊢
    exact hadj p.1 hu e he ht gy g hg t
  · -- tangent equations, re-indexed over `edgesOf`
    intro u hu gy
    rw [htan u hu gy]
    congr 1
    unfold edgesOf
    rw [List.map_map]
    rfl

/-- on a graph that carries no earlier gradients the right-hand side is the pairing of the all-ones seed with the
    tangent of the root -/
theorem seed_side_fresh {T : Type} (H : Heap α) (root : Nat) (L : List Nat) (hnd : L.Nodup) (hroot : root ∈ L)
    (hfresh : ∀ n, H.grad n = none) (ip : Tensor α → T → ℝ) (dv : Nat → T) (seedG : Nat → Option (Tensor α))
    (hseed : accumG (vArith .add) (fun n => H.grad n) root (vPow (H.val root) Scalar.zero) = .ok seedG) :
    (L.map (fun n => ipo ip (seedG n) (dv n))).sum = ip (vPow (H.val root) Scalar.zero) (dv root) := by
  obtain ⟨s, rfl, ⟨_, rfl⟩ | ⟨old, ho, _⟩⟩ := accumG_ok _ hseed
  swap
  · rw [hfresh] at ho; cases ho
  have : ∀ n, ipo ip (updStore (fun n => H.grad n) root (vPow (H.val root) Scalar.zero) n) (dv n)
      = if root = n then ip (vPow (H.val root) Scalar.zero) (dv root) else 0 := by
    intro n
    by_cases hn : n = root
    · subst hn; simp [ipo]
    · simp [updStore_ne hn, hfresh, Ne.symm hn, ipo]
  rw [sum_congr_map L _ _ (fun n _ => this n), sum_indicator L hnd root]
  simp [hroot]

/-- the element-wise pairing of a gradient with a tangent of the same shape -/
def dotp (g t : Tensor ℝ) : ℝ := (List.zipWith (· * ·) g.data t.data).sum

/-- the additivity hypothesis holds for `dotp` with "has shape `ds`" as invariant: accumulation of two gradients of
    the same shape is element-wise addition -/
theorem dotp_add_same (ds : List Nat) (a b s : Tensor ℝ) (ha : a.WF ∧ a.dims = ds) (hb : b.WF ∧ b.dims = ds)
    (h : vArith .add a b = .ok s) : (s.WF ∧ s.dims = ds) ∧ ∀ t, dotp s t = dotp a t + dotp b t := by
  have hd : a.dims = b.dims := by rw [ha.2, hb.2]
  rw [vArith_same .add a b ha.1 hb.1 hd] at h
  cases h
  have hl : a.data.length = b.data.length := by rw [ha.1.1, hb.1.1, hd]
  refine ⟨⟨⟨?_, ha.1.2⟩, ha.2⟩, ?_⟩
  · simp only [List.length_zipWith, hl, Nat.min_self]; rw [← hl]; exact ha.1.1
  · intro t
    unfold dotp
    simp only []
    generalize a.data = A at hl
    generalize b.data = B at hl
    generalize t.data = X
    induction A generalizing B X with
    | nil => cases B <;> simp at hl ⊢
    | cons x A ih =>
      cases B with
      | nil => simp at hl
      | cons y B =>
        cases X with
        | nil => simp
        | cons z X =>
          have ih' := ih B (by simpa using hl) X
          simp only [Arith.fn] at ih'
          simp only [List.zipWith_cons_cons, List.sum_cons, Arith.fn]
          rw [ih']
          have : Scalar.add x y = x + y := rfl
          rw [this]
          ring

end C01x
end Qeep
