import QeepProps.C01
import QeepProps.C02
import QeepProofs.Run
import Mathlib.Analysis.Calculus.Deriv.Comp
/-!
# C01y — end-to-end: back-propagation through an element-wise chain of any length leaves the derivative

An instance of C01 without abstract adjointness / vector-Jacobian hypotheses: for every heap, every fresh tracked leaf
`x` of any well-formed shape and every list `os` of total smooth element-wise operations
(`exp | sin | cos | sinh | cosh | tanh | scale a`), of any length including 0, running the operations one after the
other (`chain os x`) succeeds, `BackPropagate` from the result succeeds (both `BMode`s: no Broadcast rule occurs), and
the gradient it leaves on `x` is, element by element, `compF' os x_i`, the derivative of the composed function
(`compF_hasDerivAt`) — which, the operations being element-wise, is the partial derivative with respect to `x_i` of
the sum of the result's elements (`sum_hasDerivAt`, `chain_backprop_total_derivative`).

The walk is computed, not assumed: `backwardOrder` on the path graph is the path (`visit_chain`), the edge sequence is
the path's edges root-first (`allPairs_chain`), and the fold over them (`fold_chain`) multiplies the upstream gradient
by the rule factor of each operation (`rule_op`, from the C02 rule theorems).
-/

namespace Qeep
namespace C01y
open RealScalar

/-- total smooth element-wise operations (defined on all of ℝ: no domain side conditions) -/
inductive Op where
  | exp | sin | cos | sinh | cosh | tanh
  | scale (a : ℝ)

noncomputable def Op.f : Op → ℝ → ℝ
  | .exp => Real.exp
  | .sin => Real.sin
  | .cos => Real.cos
  | .sinh => Real.sinh
  | .cosh => Real.cosh
  | .tanh => Real.tanh
  | .scale a => fun t => a * t

/-- the derivative of `Op.f`, in the form the backward rule computes it -/
noncomputable def Op.f' : Op → ℝ → ℝ
  | .exp => Real.exp
  | .sin => Real.cos
  | .cos => fun t => -1 * Real.sin t
  | .sinh => Real.cosh
  | .cosh => Real.sinh
  | .tanh => fun t => (Real.cosh t) ^ (-2 : ℝ)
  | .scale a => fun _ => a

theorem Op.hasDerivAt (o : Op) (a : ℝ) : HasDerivAt o.f (o.f' a) a := by
  cases o with
  | exp => exact d_exp a
  | sin => exact d_sin a
  | cos => exact d_cos a
  | sinh => exact d_sinh a
  | cosh => exact d_cosh a
  | tanh => exact d_tanh a
  | scale c => simpa [Op.f, Op.f'] using (hasDerivAt_id a).const_mul c

/-- the public operation of the Model -/
noncomputable def Op.run (o : Op) (x : Nat) : HM ℝ Nat :=
  match o with
  | .exp => hUnary .exp x
  | .sin => hUnary .sin x
  | .cos => hUnary .cos x
  | .sinh => hUnary .sinh x
  | .cosh => hUnary .cosh x
  | .tanh => hUnary .tanh x
  | .scale a => hScale x a

/-- the backward rule the operation attaches to its result `y` (operand `x`) -/
noncomputable def Op.rule (o : Op) (x y : Nat) : Rule ℝ :=
  match o with
  | .exp => .expX y
  | .sin => .sinX x
  | .cos => .cosX x
  | .sinh => .sinhX x
  | .cosh => .coshX x
  | .tanh => .tanhX x
  | .scale a => .scaleX a

noncomputable def chain : List Op → Nat → HM ℝ Nat
  | [], x => pure x
  | o :: os, x => o.run x >>= chain os

/-- the composed scalar function (first operation of the list applied first) -/
noncomputable def compF : List Op → ℝ → ℝ
  | [], a => a
  | o :: os, a => compF os (o.f a)

noncomputable def compF' : List Op → ℝ → ℝ
  | [], _ => 1
  | o :: os, a => compF' os (o.f a) * o.f' a

/-- **`compF'` is the derivative of `compF`** (Mathlib's chain rule) -/
theorem compF_hasDerivAt (os : List Op) (a : ℝ) : HasDerivAt (compF os) (compF' os a) a := by
  induction os generalizing a with
  | nil => exact hasDerivAt_id a
  | cons o os ih =>
    have h := HasDerivAt.comp a (ih (o.f a)) (o.hasDerivAt a)
    exact h

/-- element-wise operations: the derivative of the SUM of the outputs with respect to input `i` is the derivative of the
    composed function at `x_i` -/
theorem sum_hasDerivAt {n : ℕ} (os : List Op) (x : Fin n → ℝ) (i : Fin n) :
    HasDerivAt (fun t => ∑ k, compF os (Function.update x i t k)) (compF' os (x i)) (x i) := by
  have h := hasDerivAt_weighted_map (compF os) (compF' os) x (fun _ => 1) i (compF_hasDerivAt os (x i))
  simpa using h

theorem run_eq (o : Op) (x : Nat) (H : Heap ℝ) :
    o.run x H = .ok (H.size, H.push ⟨(H.val x).map o.f, mkCtx H [x] [⟨x, o.rule x H.size⟩]⟩) := by
  cases o <;> rfl

theorem mkCtx_live (H : Heap ℝ) (x : Nat) (es : List (Edge ℝ)) (ht : H.tracked x = true) (hd : H.dirty x = false) :
    mkCtx H [x] es = { tracked := true, edges := es } := by
  rw [mkCtx_eq]
  simp [ht, hd, C15x.liveCtx]

/-- the result node of `chain os x` run on a heap of size `N` -/
def top : Nat → Nat → List Op → Nat
  | _, x, [] => x
  | N, _, _ :: os => top (N + 1) N os

/-- `H'` contains, from index `N` on, the nodes of the chain `os` started at `x`: node `N` is the first result … -/
def IsChain (H' : Heap ℝ) : Nat → Nat → List Op → Prop
  | _, _, [] => True
  | N, x, o :: os =>
      H'.ctx N = { tracked := true, edges := [⟨x, o.rule x N⟩] } ∧ H'.val N = (H'.val x).map o.f ∧ IsChain H' (N + 1) N os

theorem chain_spec (os : List Op) : ∀ (x : Nat) (H : Heap ℝ), x < H.size → H.tracked x = true → H.dirty x = false →
    ∃ H', chain os x H = .ok (top H.size x os, H') ∧ Extends H H' ∧ H'.size = H.size + os.length ∧ IsChain H' H.size x os := by
  induction os with
  | nil => intro x H _ _ _; exact ⟨H, rfl, Extends.refl _, rfl, trivial⟩
  | cons o os ih =>
    intro x H hx ht hd
    let H1 : Heap ℝ := H.push ⟨(H.val x).map o.f, mkCtx H [x] [⟨x, o.rule x H.size⟩]⟩
    have hsz : H1.size = H.size + 1 := by simp [H1]
    have hext : Extends H H1 := extends_push _ _
    have hctx1 : H1.ctx H.size = { tracked := true, edges := [⟨x, o.rule x H.size⟩] } := by
      rw [← mkCtx_live H x _ ht hd]; simp [H1, Heap.ctx]
    have hval1 : H1.val H.size = (H.val x).map o.f := push_val_new _ _
    obtain ⟨H', hrun, hext', hsz', hch⟩ := ih H.size H1 (by omega) (by simp [Heap.tracked, hctx1]) (by simp [Heap.dirty, hctx1])
    have hlt1 : H.size < H1.size := by omega
    refine ⟨H', ?_, hext.trans hext', by rw [hsz', hsz, List.length_cons]; omega, ?_, ?_, ?_⟩
    · show (o.run x >>= chain os) H = _
      rw [bind_run (run_eq o x H)]
      rw [hsz] at hrun
      exact hrun
    · rw [hext'.ctx hlt1, hctx1]
    · rw [hext'.val hlt1, hval1, (hext.trans hext').val hx]
    · rw [hsz] at hch; exact hch

/-- the new nodes of the chain, newest first (without the start node) -/
def chainUp : Nat → List Op → List Nat
  | _, [] => []
  | N, _ :: os => chainUp (N + 1) os ++ [N]

/-- the back edges of the chain, in the order the walk processes them: root first -/
noncomputable def chainPairs : Nat → Nat → List Op → List (Pair (Rule ℝ))
  | _, _, [] => []
  | N, x, o :: os => chainPairs (N + 1) N os ++ [(N, (x, o.rule x N))]

theorem top_cons (os : List Op) : ∀ (o : Op) (N x : Nat), top N x (o :: os) = N + os.length := by
  induction os with
  | nil => intro o N x; rfl
  | cons o2 os ih =>
    intro o N x
    show top (N + 1) N (o2 :: os) = _
    rw [ih o2 (N + 1) N, List.length_cons]; omega

theorem top_ge (os : List Op) (N x : Nat) (h : x ≤ N) : x ≤ top N x os := by
  cases os with
  | nil => exact Nat.le_refl _
  | cons o os => rw [top_cons]; omega

theorem top_lt (os : List Op) (N x : Nat) (h : x < N) : top N x os < N + os.length := by
  cases os with
  | nil => simpa [top] using h
  | cons o os => rw [top_cons, List.length_cons]; omega

theorem target_lt_top (os : List Op) : ∀ (N x : Nat), x < N → ∀ p ∈ chainPairs N x os, p.2.1 < top N x os := by
  induction os with
  | nil => intro N x _ p hp; simp [chainPairs] at hp
  | cons o os ih =>
    intro N x h p hp
    simp only [chainPairs, List.mem_append, List.mem_singleton] at hp
    rcases hp with hp | hp
    · exact ih (N + 1) N (by omega) p hp
    · rw [hp]
      have := top_ge os (N + 1) N (by omega)
      show x < top (N + 1) N os
      omega

theorem target_ge (os : List Op) : ∀ (N x : Nat), ∀ p ∈ chainPairs N x os, p.2.1 = x ∨ N ≤ p.2.1 := by
  induction os with
  | nil => intro N x p hp; simp [chainPairs] at hp
  | cons o os ih =>
    intro N x p hp
    simp only [chainPairs, List.mem_append, List.mem_singleton] at hp
    rcases hp with hp | hp
    · rcases ih (N + 1) N p hp with h | h
      · right; omega
      · right; omega
    · left; rw [hp]

theorem chain_targets (H' : Heap ℝ) (os : List Op) : ∀ (N x : Nat), IsChain H' N x os → H'.tracked x = true →
    H'.grad x = none → ∀ p ∈ chainPairs N x os, H'.tracked p.2.1 = true ∧ H'.grad p.2.1 = none := by
  induction os with
  | nil => intro N x _ _ _ p hp; simp [chainPairs] at hp
  | cons o os ih =>
    intro N x hc ht hg p hp
    obtain ⟨hctx, _, hrest⟩ := hc
    simp only [chainPairs, List.mem_append, List.mem_singleton] at hp
    rcases hp with hp | hp
    · exact ih (N + 1) N hrest (by simp [Heap.tracked, hctx]) (by simp [Heap.grad, hctx]) p hp
    · rw [hp]; exact ⟨ht, hg⟩

theorem succs_chain (H' : Heap ℝ) (N x : Nat) (r : Rule ℝ) (hctx : H'.ctx N = { tracked := true, edges := [⟨x, r⟩] })
    (ht : H'.tracked x = true) : succs H' N = [x] := by
  unfold succs; rw [hctx]; simp [ht]

/-- **the depth-first order on a path is the path**: from the result down to the start node, then whatever the
    start node's own visit gives -/
theorem visit_chain (H' : Heap ℝ) (os : List Op) : ∀ (N x f : Nat), IsChain H' N x os → H'.tracked x = true →
    visit (succs H') (os.length + f) (top N x os) [] = chainUp N os ++ visit (succs H') f x [] := by
  induction os with
  | nil => intro N x f _ _; simp [top, chainUp]
  | cons o os ih =>
    intro N x f hc ht
    obtain ⟨hctx, _, hrest⟩ := hc
    have htN : H'.tracked N = true := by simp [Heap.tracked, hctx]
    have hS := succs_chain H' N x _ hctx ht
    have e : (o :: os).length + f = os.length + (f + 1) := by simp only [List.length_cons]; omega
    rw [e]
    show visit (succs H') (os.length + (f + 1)) (top (N + 1) N os) [] = _
    rw [ih (N + 1) N (f + 1) hrest htN]
    have hv : visit (succs H') (f + 1) N [] = N :: visit (succs H') f x [] := by
      simp [visit, hS]
    rw [hv]
    simp [chainUp]

theorem allPairs_chain (H' : Heap ℝ) (os : List Op) : ∀ (N x : Nat), IsChain H' N x os →
    allPairs (edgesOf H') (chainUp N os) = chainPairs N x os := by
  induction os with
  | nil => intro N x _; rfl
  | cons o os ih =>
    intro N x hc
    obtain ⟨hctx, _, hrest⟩ := hc
    have hE : edgesOf H' N = [(x, o.rule x N)] := by unfold edgesOf; rw [hctx]; rfl
    have := ih (N + 1) N hrest
    unfold allPairs at this ⊢
    simp only [chainUp, chainPairs, List.flatMap_append, this, List.flatMap_cons, List.flatMap_nil, hE,
      List.map_cons, List.map_nil, List.append_nil]

/-- **every operation's backward rule multiplies the upstream gradient by the derivative factor at the operand**
    (C02 rule theorems, uniformly over `Op`) -/
theorem rule_op (bm : BMode) (Hv : Heap ℝ) (o : Op) (x y : Nat) (gy : Tensor ℝ) (wg : gy.WF) (wx : (Hv.val x).WF)
    (hd : gy.dims = (Hv.val x).dims) (hy : Hv.val y = (Hv.val x).map o.f) :
    evalRule bm Hv gy (o.rule x y) = .ok ⟨gy.dims, List.zipWith (fun g a => g * o.f' a) gy.data (Hv.val x).data⟩ := by
  cases o with
  | exp => exact C02.rule_exp bm Hv gy x wg wx hd y hy
  | sin => exact C02.rule_sin bm Hv gy x wg wx hd
  | cos => exact C02.rule_cos bm Hv gy x wg wx hd
  | sinh => exact C02.rule_sinh bm Hv gy x wg wx hd
  | cosh => exact C02.rule_cosh bm Hv gy x wg wx hd
  | tanh => exact C02.rule_tanh bm Hv gy x wg wx hd
  | scale a =>
    show evalRule bm Hv gy (.scaleX a) = _
    rw [C02.rule_scale]
    have hl : gy.data.length = (Hv.val x).data.length := by rw [wg.1, wx.1, hd]
    congr 2
    apply List.ext_getElem
    · simp [hl]
    · intro i h1 h2; simp [Op.f', mul_comm]

/-- values along the chain (a function of the value map only, so it transfers across `markDirty`) -/
def ValChain (val : Nat → Tensor ℝ) : Nat → Nat → List Op → Prop
  | _, _, [] => True
  | N, x, o :: os => val N = (val x).map o.f ∧ ValChain val (N + 1) N os

theorem IsChain.vals {H' : Heap ℝ} : ∀ {os : List Op} {N x : Nat}, IsChain H' N x os → ValChain H'.val N x os
  | [], _, _, _ => trivial
  | _ :: _, _, _, h => ⟨h.2.1, IsChain.vals h.2.2⟩

theorem zip_step (F' f f' : ℝ → ℝ) : ∀ (gd xs : List ℝ),
    List.zipWith (fun g a => g * f' a) (List.zipWith (fun g b => g * F' b) gd (xs.map f)) xs
      = List.zipWith (fun g a => g * (F' (f a) * f' a)) gd xs
  | [], _ => by simp
  | _ :: _, [] => by simp
  | g :: gd, a :: xs => by simp [zip_step F' f f' gd xs, mul_assoc]

section generic
variable {D R : Type} (add : D → D → Out D) (pull : R → D → Out D) (trk : Nat → Bool)

theorem stepPair_fresh (s : BPSt D) (u v : Nat) (r : R) (gy g : D)
    (hs : s.status = .ok ()) (ht : trk v = true) (hg : s.grads u = some gy) (hp : pull r gy = .ok g)
    (hn : s.grads v = none) :
    (stepPair add pull trk s (u, (v, r))).status = .ok () ∧
    (stepPair add pull trk s (u, (v, r))).grads = updStore s.grads v g ∧
    (stepPair add pull trk s (u, (v, r))).calls = s.calls + 1 := by
  unfold stepPair
  rw [stepEdge_live add pull trk (u := u) (e := (v, r)) hs ht hg, hp]
  simp [Out.bind, accumG, hn]
end generic

/-- **the walk along the path**: starting with gradient `gd` on the result and none below, the walk succeeds and
    leaves on the start node `gd_i · (compF os)'(x_i)` -/
theorem fold_chain (bm : BMode) (Hv : Heap ℝ) (trk : Nat → Bool) (os : List Op) :
    ∀ (N x : Nat) (gd : List ℝ) (s : BPSt (Tensor ℝ)),
      x < N → ValChain Hv.val N x os → (Hv.val x).WF → gd.length = (Hv.val x).data.length →
      (∀ p ∈ chainPairs N x os, trk p.2.1 = true) →
      (∀ p ∈ chainPairs N x os, s.grads p.2.1 = none) →
      s.status = .ok () → s.grads (top N x os) = some ⟨(Hv.val x).dims, gd⟩ →
      ((chainPairs N x os).foldl (stepPair (vArith .add) (fun r gy => evalRule bm Hv gy r) trk) s).status = .ok () ∧
      ((chainPairs N x os).foldl (stepPair (vArith .add) (fun r gy => evalRule bm Hv gy r) trk) s).grads x
        = some ⟨(Hv.val x).dims, List.zipWith (fun g a => g * compF' os a) gd (Hv.val x).data⟩ ∧
      ((chainPairs N x os).foldl (stepPair (vArith .add) (fun r gy => evalRule bm Hv gy r) trk) s).calls
        = s.calls + os.length := by
  induction os with
  | nil =>
    intro N x gd s _ _ _ hl _ _ hs hg
    refine ⟨hs, ?_, rfl⟩
    simp only [chainPairs, List.foldl_nil, top] at hg ⊢
    rw [hg]
    congr 2
    apply List.ext_getElem
    · simp [hl]
    · intro i h1 h2; simp [compF']
  | cons o os ih =>
    intro N x gd s hxN hvc wx hl htrk hnone hs hg
    obtain ⟨hvN, hvrest⟩ := hvc
    have hdimsN : (Hv.val N).dims = (Hv.val x).dims := by rw [hvN]; rfl
    have hdataN : (Hv.val N).data = (Hv.val x).data.map o.f := by rw [hvN]; rfl
    have wN : (Hv.val N).WF := by rw [hvN]; exact map_wf _ _ wx
    have hmem1 : ∀ p ∈ chainPairs (N + 1) N os, p ∈ chainPairs N x (o :: os) := by
      intro p hp; simp only [chainPairs, List.mem_append]; exact Or.inl hp
    have hmem2 : (N, (x, o.rule x N)) ∈ chainPairs N x (o :: os) := by simp [chainPairs]
    obtain ⟨hs1, hg1, hc1⟩ := ih (N + 1) N gd s (by omega) hvrest wN (by rw [hdataN, List.length_map]; exact hl)
      (fun p hp => htrk p (hmem1 p hp)) (fun p hp => hnone p (hmem1 p hp)) hs (by rw [hdimsN]; exact hg)
    -- the start node is not touched by the upper part of the path
    have hx1 : ((chainPairs (N + 1) N os).foldl (stepPair (vArith .add) (fun r gy => evalRule bm Hv gy r) trk) s).grads x = none := by
      rw [fold_grads_unchanged]
      · exact hnone _ hmem2
      · intro p hp _
        rcases target_ge os (N + 1) N p hp with h | h <;> omega
    simp only [chainPairs, List.foldl_append, List.foldl_cons, List.foldl_nil]
    generalize (chainPairs (N + 1) N os).foldl (stepPair (vArith .add) (fun r gy => evalRule bm Hv gy r) trk) s = s1
      at hs1 hg1 hx1 hc1 ⊢
    rw [hdimsN, hdataN] at hg1
    have wg : (⟨(Hv.val x).dims, List.zipWith (fun g b => g * compF' os b) gd ((Hv.val x).data.map o.f)⟩ : Tensor ℝ).WF := by
      refine ⟨?_, wx.2⟩
      simp only [List.length_zipWith, List.length_map, hl, Nat.min_self]
      exact wx.1
    have hrule := rule_op bm Hv o x N _ wg wx rfl hvN
    obtain ⟨hs2, hg2, hc2⟩ := stepPair_fresh (vArith .add) (fun r gy => evalRule bm Hv gy r) trk s1 N x (o.rule x N) _ _
      hs1 (htrk _ hmem2) hg1 hrule hx1
    refine ⟨hs2, ?_, by rw [hc2, hc1, List.length_cons]; omega⟩
    rw [hg2]
    simp only [updStore, if_true]
    rw [zip_step]
    rfl

theorem top_append (os1 os2 : List Op) : ∀ (N x : Nat),
    top N x (os1 ++ os2) = top (N + os1.length) (top N x os1) os2 := by
  induction os1 with
  | nil => intro N x; rfl
  | cons o os1 ih =>
    intro N x
    show top (N + 1) N (os1 ++ os2) = top (N + (os1.length + 1)) (top (N + 1) N os1) os2
    rw [ih (N + 1) N]
    have e : N + 1 + os1.length = N + (os1.length + 1) := by omega
    rw [e]

theorem chainPairs_append (os1 os2 : List Op) : ∀ (N x : Nat),
    chainPairs N x (os1 ++ os2) = chainPairs (N + os1.length) (top N x os1) os2 ++ chainPairs N x os1 := by
  induction os1 with
  | nil => intro N x; simp [chainPairs, top]
  | cons o os1 ih =>
    intro N x
    show chainPairs (N + 1) N (os1 ++ os2) ++ [(N, (x, o.rule x N))]
      = chainPairs (N + (os1.length + 1)) (top (N + 1) N os1) os2 ++ (chainPairs (N + 1) N os1 ++ [(N, (x, o.rule x N))])
    rw [ih (N + 1) N]
    have e : N + 1 + os1.length = N + (os1.length + 1) := by omega
    rw [e, List.append_assoc]

theorem ValChain.append {val : Nat → Tensor ℝ} (os1 os2 : List Op) : ∀ (N x : Nat), ValChain val N x (os1 ++ os2) →
    ValChain val (N + os1.length) (top N x os1) os2 := by
  induction os1 with
  | nil => intro N x h; exact h
  | cons o os1 ih =>
    intro N x h
    have h2 := ih (N + 1) N h.2
    have e : N + 1 + os1.length = N + (os1.length + 1) := by omega
    rw [e] at h2
    exact h2

theorem ValChain.prefix {val : Nat → Tensor ℝ} (os1 os2 : List Op) : ∀ (N x : Nat), ValChain val N x (os1 ++ os2) →
    ValChain val N x os1 := by
  induction os1 with
  | nil => intro N x _; trivial
  | cons o os1 ih => intro N x h; exact ⟨h.1, ih (N + 1) N h.2⟩

theorem ValChain.top {val : Nat → Tensor ℝ} (os : List Op) : ∀ (N x : Nat), ValChain val N x os →
    val (top N x os) = (val x).map (compF os) := by
  induction os with
  | nil => intro N x _; simp [C01y.top, compF, Tensor.map]
  | cons o os ih =>
    intro N x h
    show val (C01y.top (N + 1) N os) = _
    rw [ih (N + 1) N h.2, h.1]
    simp [Tensor.map, compF, List.map_map, Function.comp_def]

/-- the node the prefix `os1` ends in receives the upstream gradient times the derivative of the REST of the chain at
    its own value -/
theorem fold_chain_split (bm : BMode) (Hv : Heap ℝ) (trk : Nat → Bool) (os1 os2 : List Op)
    (N x : Nat) (gd : List ℝ) (s : BPSt (Tensor ℝ))
    (hxN : x < N) (hvc : ValChain Hv.val N x (os1 ++ os2)) (wx : (Hv.val x).WF) (hl : gd.length = (Hv.val x).data.length)
    (htrk : ∀ p ∈ chainPairs N x (os1 ++ os2), trk p.2.1 = true)
    (hnone : ∀ p ∈ chainPairs N x (os1 ++ os2), s.grads p.2.1 = none)
    (hs : s.status = .ok ()) (hg : s.grads (top N x (os1 ++ os2)) = some ⟨(Hv.val x).dims, gd⟩) :
    ((chainPairs N x (os1 ++ os2)).foldl (stepPair (vArith .add) (fun r gy => evalRule bm Hv gy r) trk) s).grads (top N x os1)
      = some ⟨(Hv.val x).dims, List.zipWith (fun g b => g * compF' os2 b) gd ((Hv.val x).data.map (compF os1))⟩ := by
  have hvm : Hv.val (top N x os1) = (Hv.val x).map (compF os1) :=
    ValChain.top os1 N x (ValChain.prefix os1 os2 N x hvc)
  have hdm : (Hv.val (top N x os1)).dims = (Hv.val x).dims := by rw [hvm]; rfl
  have hdatam : (Hv.val (top N x os1)).data = (Hv.val x).data.map (compF os1) := by rw [hvm]; rfl
  rw [chainPairs_append] at htrk hnone ⊢
  rw [top_append] at hg
  rw [List.foldl_append]
  obtain ⟨_, hg1, _⟩ := fold_chain bm Hv trk os2 (N + os1.length) (top N x os1) gd s (top_lt os1 N x hxN)
    (ValChain.append os1 os2 N x hvc) (by rw [hvm]; exact map_wf _ _ wx) (by rw [hdatam, List.length_map]; exact hl)
    (fun p hp => htrk p (List.mem_append_left _ hp)) (fun p hp => hnone p (List.mem_append_left _ hp)) hs
    (by rw [hdm]; exact hg)
  rw [fold_grads_unchanged]
  · rw [hg1, hdm, hdatam]
  · intro p hp _
    exact Nat.ne_of_lt (target_lt_top os1 N x hxN p hp)

/-- `BackPropagate` from a tracked root without a gradient, unfolded: all-ones seed, then the fold over the edges of
    the depth-first order; rule bodies read values from the heap with the spent flags set -/
theorem backprop_unfold {α : Type} [Scalar α] (bm : BMode) (H : Heap α) (root : Nat) (htr : H.tracked root = true)
    (hg : H.grad root = none) :
    backprop bm H root =
      { heap := writeBack (markDirty H (backwardOrder H root))
          ((allPairs (edgesOf H) (backwardOrder H root)).foldl
            (stepPair (vArith .add) (fun r gy => evalRule bm (markDirty H (backwardOrder H root)) gy r) H.tracked)
            { grads := updStore (fun n => H.grad n) root (vPow (H.val root) Scalar.zero) }).grads,
        status := ((allPairs (edgesOf H) (backwardOrder H root)).foldl
            (stepPair (vArith .add) (fun r gy => evalRule bm (markDirty H (backwardOrder H root)) gy r) H.tracked)
            { grads := updStore (fun n => H.grad n) root (vPow (H.val root) Scalar.zero) }).status,
        calls := ((allPairs (edgesOf H) (backwardOrder H root)).foldl
            (stepPair (vArith .add) (fun r gy => evalRule bm (markDirty H (backwardOrder H root)) gy r) H.tracked)
            { grads := updStore (fun n => H.grad n) root (vPow (H.val root) Scalar.zero) }).calls } := by
  rw [C01.backprop_eq bm H root htr]
  simp only [accumG, hg]
  rfl

theorem top_props (H' : Heap ℝ) (os : List Op) : ∀ (N x : Nat), IsChain H' N x os → H'.tracked x = true →
    H'.grad x = none → H'.tracked (top N x os) = true ∧ H'.grad (top N x os) = none := by
  induction os with
  | nil => intro N x _ ht hg; exact ⟨ht, hg⟩
  | cons o os ih =>
    intro N x hc _ _
    obtain ⟨hctx, _, hrest⟩ := hc
    exact ih (N + 1) N hrest (by simp [Heap.tracked, hctx]) (by simp [Heap.grad, hctx])

theorem len_le_top (os : List Op) (N x : Nat) (h : x < N) : os.length ≤ top N x os := by
  cases os with
  | nil => exact Nat.zero_le _
  | cons o os => rw [top_cons, List.length_cons]; omega

/-- the all-ones seed pulled through the rest `os2` of the chain, at the value `compF os1 x_i` of the prefix's result -/
theorem ones_zip (os os1 os2 : List Op) (xs : List ℝ) :
    List.zipWith (fun g b => g * compF' os2 b) ((xs.map (compF os)).map (fun a => Scalar.pow a Scalar.zero)) (xs.map (compF os1))
      = xs.map (fun a => compF' os2 (compF os1 a)) := by
  rw [List.zipWith_map_left, List.zipWith_map_left, List.zipWith_map_right]
  apply List.ext_getElem
  · simp
  · intro i h1 h2
    simp

/-- the run succeeds and builds the path; back-propagation from the result succeeds with one rule evaluation per
    operation; EVERY node of the path — the node `top H.size x os1` the prefix `os1` ends in, for every split
    `os = os1 ++ os2`; `os1 = []` is the leaf, `os2 = []` the result — receives the derivative of the rest of the chain
    at its own elements. -/
theorem chain_backprop_nodes (bm : BMode) (H : Heap ℝ) (x : Nat) (os : List Op)
    (hx : x < H.size) (hleaf : H.ctx x = freshCtx true) (wf : (H.val x).WF) :
    ∃ H', chain os x H = .ok (top H.size x os, H') ∧ Extends H H' ∧ H'.size = H.size + os.length ∧
      (backprop bm H' (top H.size x os)).status = .ok () ∧
      (backprop bm H' (top H.size x os)).calls = os.length ∧
      ∀ os1 os2, os = os1 ++ os2 →
        H'.val (top H.size x os1) = (H.val x).map (compF os1) ∧
        (backprop bm H' (top H.size x os)).heap.grad (top H.size x os1)
          = some ⟨(H.val x).dims, (H.val x).data.map (fun a => compF' os2 (compF os1 a))⟩ := by
  have ht : H.tracked x = true := by simp [Heap.tracked, hleaf, freshCtx]
  have hd : H.dirty x = false := by simp [Heap.dirty, hleaf, freshCtx]
  obtain ⟨H', hrun, hext, hsz, hch⟩ := chain_spec os x H hx ht hd
  have hctx' : H'.ctx x = freshCtx true := by rw [hext.ctx hx, hleaf]
  have hvx : H'.val x = H.val x := hext.val hx
  have ht' : H'.tracked x = true := by simp [Heap.tracked, hctx', freshCtx]
  have hg' : H'.grad x = none := by simp [Heap.grad, hctx', freshCtx]
  have hSx : succs H' x = [] := by unfold succs; rw [hctx']; simp [freshCtx]
  have hEx : edgesOf H' x = [] := by unfold edgesOf; rw [hctx']; simp [freshCtx]
  have hvy : H'.val (top H.size x os) = (H.val x).map (compF os) := by rw [ValChain.top os _ _ hch.vals, hvx]
  obtain ⟨hty, hgy⟩ := top_props H' os _ _ hch ht' hg'
  refine ⟨H', hrun, hext, hsz, ?_⟩
  have hord : backwardOrder H' (top H.size x os) = chainUp H.size os ++ [x] := by
    unfold backwardOrder
    rw [if_pos hty]
    have hle := len_le_top os H.size x hx
    have e : top H.size x os + 1 = os.length + ((top H.size x os - os.length) + 1) := by omega
    rw [e, visit_chain H' os _ _ _ hch ht']
    simp [visit, hSx]
  have hpairs : allPairs (edgesOf H') (chainUp H.size os ++ [x]) = chainPairs H.size x os := by
    rw [← allPairs_chain H' os _ _ hch]
    unfold allPairs
    simp [List.flatMap_append, hEx]
  rw [backprop_unfold bm H' _ hty hgy, hord, hpairs]
  simp only []
  have hvals : (markDirty H' (chainUp H.size os ++ [x])).val = H'.val := by
    funext n; exact markDirty_val _ _ _
  have hvc : ValChain (markDirty H' (chainUp H.size os ++ [x])).val H.size x os := by rw [hvals]; exact hch.vals
  have hvx2 : (markDirty H' (chainUp H.size os ++ [x])).val x = H.val x := by rw [hvals, hvx]
  have htg := chain_targets H' os _ _ hch ht' hg'
  have hnone : ∀ p ∈ chainPairs H.size x os,
      updStore (fun n => H'.grad n) (top H.size x os) (vPow (H'.val (top H.size x os)) Scalar.zero) p.2.1 = none := by
    intro p hp
    have hne : p.2.1 ≠ top H.size x os := Nat.ne_of_lt (target_lt_top os _ _ hx p hp)
    simp only [updStore, if_neg hne]
    exact (htg p hp).2
  have hseed : updStore (fun n => H'.grad n) (top H.size x os) (vPow (H'.val (top H.size x os)) Scalar.zero) (top H.size x os)
      = some ⟨((markDirty H' (chainUp H.size os ++ [x])).val x).dims,
          ((H.val x).data.map (compF os)).map (fun a => Scalar.pow a Scalar.zero)⟩ := by
    simp only [updStore, if_true]; rw [hvy, hvx2]; rfl
  obtain ⟨hs, _, hcalls⟩ := fold_chain bm (markDirty H' (chainUp H.size os ++ [x])) H'.tracked os H.size x
    (((H.val x).data.map (compF os)).map (fun a => Scalar.pow a Scalar.zero))
    { grads := updStore (fun n => H'.grad n) (top H.size x os) (vPow (H'.val (top H.size x os)) Scalar.zero) }
    hx hvc (by rw [hvx2]; exact wf) (by rw [hvx2]; simp) (fun p hp => (htg p hp).1) hnone rfl hseed
  refine ⟨hs, by rw [hcalls]; simp, ?_⟩
  intro os1 os2 hsplit
  subst hsplit
  have hm : top H.size x os1 < H'.size := by
    have := top_lt os1 H.size x hx
    rw [hsz, List.length_append]; omega
  refine ⟨?_, ?_⟩
  · rw [ValChain.top os1 H.size x (ValChain.prefix os1 os2 _ _ hch.vals), hvx]
  · have hsp := fold_chain_split bm (markDirty H' (chainUp H.size (os1 ++ os2) ++ [x])) H'.tracked os1 os2 H.size x
      (((H.val x).data.map (compF (os1 ++ os2))).map (fun a => Scalar.pow a Scalar.zero))
      { grads := updStore (fun n => H'.grad n) (top H.size x (os1 ++ os2)) (vPow (H'.val (top H.size x (os1 ++ os2))) Scalar.zero) }
      hx hvc (by rw [hvx2]; exact wf) (by rw [hvx2]; simp) (fun p hp => (htg p hp).1) hnone rfl hseed
    rw [C01.writeBack_grad _ _ _ (by rw [markDirty_size]; exact hm), hsp, hvx2, ones_zip]

theorem compF_append (os1 os2 : List Op) (a : ℝ) : compF (os1 ++ os2) a = compF os2 (compF os1 a) := by
  induction os1 generalizing a with
  | nil => rfl
  | cons o os1 ih => exact ih (o.f a)

/-- **C01, end to end, for element-wise chains of any length.** `x` is a fresh tracked leaf (`NewGradContext(true)`:
    tracked, not spent, no gradient, no back edges) of any well-formed shape in any heap; `os` any list of operations
    (also the empty one). The gradient left on `x` is, element by element, the derivative `compF' os x_i` of the
    composed function (`compF_hasDerivAt`) = ∂(Σ_j y_j)/∂x_i (`sum_hasDerivAt`). -/
theorem chain_backprop (bm : BMode) (H : Heap ℝ) (x : Nat) (os : List Op)
    (hx : x < H.size) (hleaf : H.ctx x = freshCtx true) (wf : (H.val x).WF) :
    ∃ y H', chain os x H = .ok (y, H') ∧
      H'.val y = (H.val x).map (compF os) ∧
      (backprop bm H' y).status = .ok () ∧
      (backprop bm H' y).heap.grad x = some ⟨(H.val x).dims, (H.val x).data.map (compF' os)⟩ := by
  obtain ⟨H', hrun, _, _, hs, _, hall⟩ := chain_backprop_nodes bm H x os hx hleaf wf
  obtain ⟨_, hg⟩ := hall [] os rfl
  obtain ⟨hv, _⟩ := hall os [] (List.append_nil _).symm
  exact ⟨_, H', hrun, hv, hs, hg⟩

/-- one rule evaluation per operation: linear in the length of the chain -/
theorem chain_backprop_calls (bm : BMode) (H : Heap ℝ) (x : Nat) (os : List Op)
    (hx : x < H.size) (hleaf : H.ctx x = freshCtx true) (wf : (H.val x).WF) :
    ∃ y H', chain os x H = .ok (y, H') ∧ (backprop bm H' y).calls = os.length := by
  obtain ⟨H', hrun, _, _, _, hc, _⟩ := chain_backprop_nodes bm H x os hx hleaf wf
  exact ⟨_, H', hrun, hc⟩

/-- **every intermediate node gets its own partial product**: for every split `os1 ++ os2` of the chain, the gradient
    left on the node `m` that the prefix `os1` produces is the derivative of the rest `os2` of the chain at `m`'s own
    elements (`os2 = []`: the result itself gets all ones) -/
theorem chain_backprop_intermediate (bm : BMode) (H : Heap ℝ) (x : Nat) (os1 os2 : List Op)
    (hx : x < H.size) (hleaf : H.ctx x = freshCtx true) (wf : (H.val x).WF) :
    ∃ m H1 y H', chain os1 x H = .ok (m, H1) ∧ chain (os1 ++ os2) x H = .ok (y, H') ∧
      H'.val m = (H.val x).map (compF os1) ∧ H'.val y = (H'.val m).map (compF os2) ∧
      (backprop bm H' y).status = .ok () ∧
      (backprop bm H' y).heap.grad m = some ⟨(H'.val m).dims, (H'.val m).data.map (compF' os2)⟩ := by
  have ht : H.tracked x = true := by simp [Heap.tracked, hleaf, freshCtx]
  have hd : H.dirty x = false := by simp [Heap.dirty, hleaf, freshCtx]
  obtain ⟨H1, hrun1, _, _, _⟩ := chain_spec os1 x H hx ht hd
  obtain ⟨H', hrun, _, _, hs, _, hall⟩ := chain_backprop_nodes bm H x (os1 ++ os2) hx hleaf wf
  obtain ⟨hvm, hgm⟩ := hall os1 os2 rfl
  obtain ⟨hvy, _⟩ := hall (os1 ++ os2) [] (List.append_nil _).symm
  refine ⟨_, H1, _, H', hrun1, hrun, hvm, ?_, hs, ?_⟩
  · rw [hvy, hvm]
    simp [Tensor.map, List.map_map, Function.comp_def, compF_append]
  · rw [hgm, hvm]
    simp [Tensor.map, List.map_map, Function.comp_def]

/-- **C01 as stated**: the gradient left on the leaf is, at every position `i`, the derivative with respect to `x_i` of the
    SUM OF THE RESULT'S ELEMENTS (the result of the chain on input `x'` being `compF os` of every element of `x'`, by the
    value clause of `chain_backprop`, for every input). -/
theorem chain_backprop_total_derivative (bm : BMode) (H : Heap ℝ) (x : Nat) (os : List Op)
    (hx : x < H.size) (hleaf : H.ctx x = freshCtx true) (wf : (H.val x).WF) :
    ∃ y H' g, chain os x H = .ok (y, H') ∧ H'.val y = (H.val x).map (compF os) ∧
      (backprop bm H' y).status = .ok () ∧ (backprop bm H' y).heap.grad x = some g ∧
      g.dims = (H.val x).dims ∧ g.data.length = (H.val x).data.length ∧
      ∀ i : Fin (H.val x).data.length,
        HasDerivAt (fun t => ∑ k, compF os (Function.update (fun j : Fin (H.val x).data.length => (H.val x).data[j]) i t k))
          (g.data.getD i 0) ((H.val x).data[i]) := by
  obtain ⟨y, H', hrun, hv, hs, hg⟩ := chain_backprop bm H x os hx hleaf wf
  refine ⟨y, H', _, hrun, hv, hs, hg, rfl, by simp, ?_⟩
  intro i
  have h := sum_hasDerivAt os (fun j : Fin (H.val x).data.length => (H.val x).data[j]) i
  have e : (List.map (compF' os) (H.val x).data).getD i 0 = compF' os ((H.val x).data[i]) := by
    simp [List.getD]
  rw [e]
  exact h

/-- the same from scratch: create the leaf (`NewGradContext(true)`), run the chain, back-propagate — on any heap -/
theorem leaf_chain_backprop (bm : BMode) (H : Heap ℝ) (v : Tensor ℝ) (wf : v.WF) (os : List Op) :
    ∃ y H', (hLeaf v true >>= chain os) H = .ok (y, H') ∧
      H'.val y = v.map (compF os) ∧
      (backprop bm H' y).status = .ok () ∧
      (backprop bm H' y).heap.grad H.size = some ⟨v.dims, v.data.map (compF' os)⟩ := by
  let H0 : Heap ℝ := H.push ⟨v, freshCtx true⟩
  have hleaf : hLeaf v true H = .ok (H.size, H0) := rfl
  have hv0 : H0.val H.size = v := push_val_new _ _
  obtain ⟨y, H', hrun, hv, hs, hg⟩ := chain_backprop bm H0 H.size os (by simp [H0]) (by simp [H0, Heap.ctx])
    (by rw [hv0]; exact wf)
  rw [hv0] at hv hg
  exact ⟨y, H', by rw [bind_run hleaf]; exact hrun, hv, hs, hg⟩

/-- `y = exp(sin x)`: the gradient is `exp(sin x_i) · cos x_i` -/
example (bm : BMode) (v : Tensor ℝ) (wf : v.WF) :
    ∃ y H', (hLeaf v true >>= chain [.sin, .exp]) #[] = .ok (y, H') ∧
      (backprop bm H' y).status = .ok () ∧
      (backprop bm H' y).heap.grad 0 = some ⟨v.dims, v.data.map (fun a => Real.exp (Real.sin a) * Real.cos a)⟩ := by
  obtain ⟨y, H', h1, _, h3, h4⟩ := leaf_chain_backprop bm #[] v wf [.sin, .exp]
  refine ⟨y, H', h1, h3, ?_⟩
  have e : compF' [.sin, .exp] = fun a => Real.exp (Real.sin a) * Real.cos a := by
    funext a; simp [compF', Op.f, Op.f']
  rw [← e]; exact h4

/-- `y = cos(tanh(3·x))`: three operations -/
example (a : ℝ) : compF [.scale 3, .tanh, .cos] a = Real.cos (Real.tanh (3 * a)) ∧
    compF' [.scale 3, .tanh, .cos] a
      = -1 * Real.sin (Real.tanh (3 * a)) * (Real.cosh (3 * a)) ^ (-2 : ℝ) * 3 := by
  constructor
  · simp [compF, Op.f]
  · simp [compF', Op.f, Op.f']

/-- a concrete well-formed leaf: the hypotheses are satisfiable -/
example : (⟨[2], [0, 1]⟩ : Tensor ℝ).WF := by
  refine ⟨by simp [prod], ?_⟩
  intro d hd; simp at hd; omega

end C01y
end Qeep
