import QeepProps.C01x
/-!
# C01 — what `BackPropagate` leaves on a tensor is the sum of what its consumers deliver

`final_pairing`: after a successful walk, for EVERY tensor `n` of ANY heap with the DAG shape (every reachable heap),
the stored gradient paired with an arbitrary tangent is the seed (previous gradient, plus all ones at the root) plus the
sum, over the visited tensors `u` and their back edges into `n`, of the edge's backward rule applied to the FINAL
gradient of `u` — each edge exactly once, in whatever order the walk processed them. With the element-wise pairing and
unit tangents this determines every element of the stored gradient (`C01w.ext_of_dotp`, `C01w.grad_eq`).

This is the form in which the per-graph results of C13 / C15 / C16 (the "local backward pass" theorems, which evaluate
the rules along the back edges of a component's graph) become statements about `Tensor.Gradient()` after
`tensor.BackPropagate`: the consumers of a component's input inside the walk are the component's own nodes, whatever the
input was computed from (its ancestors have smaller identities and no edge into it).
-/
set_option linter.unusedSectionVars false

namespace Qeep
namespace C01z
open C01 C01x C20

variable {α : Type} [Scalar α]

/-- the contribution of the back edge `e` of `u` to the gradient of `n`, paired with `t` -/
noncomputable def edgeTerm {T : Type} (ip : Tensor α → T → ℝ) (pull : Rule α → Tensor α → Out (Tensor α)) (tracked : Nat → Bool)
    (G : Nat → Option (Tensor α)) (n : Nat) (t : T) (u : Nat) (e : Nat × Rule α) : ℝ :=
  if tracked e.1 = true ∧ e.1 = n then
    match G u with
    | some gy => (match pull e.2 gy with | .ok g => ip g t | _ => 0)
    | none => 0
  else 0

theorem contrib_sum {T : Type} (ip : Tensor α → T → ℝ) (pull : Rule α → Tensor α → Out (Tensor α)) (tracked : Nat → Bool)
    (G : Nat → Option (Tensor α)) (n : Nat) (t : T) (ps : List (Pair (Rule α))) :
    ((contrib pull tracked G ps n).map (fun g => ip g t)).sum
      = (ps.map (fun p => edgeTerm ip pull tracked G n t p.1 p.2)).sum := by
  rw [Qeep.contrib_sum pull tracked ip G (fun _ => t) n ps]
  refine sum_congr_map _ _ _ fun p _ => ?_
  unfold edgeTerm term
  by_cases h2 : p.2.1 = n
  · subst h2
    by_cases h1 : tracked p.2.1 = true
    · simp only [h1, and_self, if_true]
      cases G p.1 with
      | none => rfl
      | some gy => simp only []; cases hq : pull p.2.2 gy <;> simp
    · simp [h1]
  · simp [h2]

/-- **What a walk leaves on a tensor**: its seed plus, for each visited tensor and each of its back edges into `n`, once
    each, the rule applied to the final gradient of that tensor (`edgeTerm`) -/
theorem final_pairing {T : Type} (bm : BMode) (H : Heap α) (root : Nat) (hdag : HeapDag H)
    (htr : H.tracked root = true) (hok : (backprop bm H root).status = .ok ())
    (ip : Tensor α → T → ℝ) (n : Nat) (hn : n < H.size) (Good : Tensor α → Prop)
    (hadd : ∀ a b s, Good a → Good b → vArith .add a b = .ok s → Good s ∧ ∀ t, ip s t = ip a t + ip b t)
    (hold : ∀ g, H.grad n = some g → Good g)
    (hones : n = root → Good (vPow (H.val root) Scalar.zero))
    (hrule : ∀ u ∈ backwardOrder H root, ∀ e ∈ (H.ctx u).edges, H.tracked e.target = true → e.target = n →
        ∀ gy g, (backprop bm H root).heap.grad u = some gy →
          evalRule bm (markDirty H (backwardOrder H root)) gy e.rule = .ok g → Good g)
    (t : T) :
    ∃ seedG, accumG (vArith .add) (fun n => H.grad n) root (vPow (H.val root) Scalar.zero) = .ok seedG ∧
      (∀ g, (backprop bm H root).heap.grad n = some g → Good g) ∧
      ipo ip ((backprop bm H root).heap.grad n) t = ipo ip (seedG n) t +
        ((backwardOrder H root).map (fun u => ((edgesOf H u).map (fun e =>
          edgeTerm ip (fun r gy => evalRule bm (markDirty H (backwardOrder H root)) gy r) H.tracked
            (fun m => (backprop bm H root).heap.grad m) n t u e)).sum)).sum := by
  obtain ⟨seedG, final, hseed, hfin, hsums, hdef, _⟩ := backprop_adjoint bm H root hdag htr hok
  have hlt := order_lt_size H root hdag htr
  have hseedGood : ∀ x, seedG n = some x → Good x := fun x hx =>
    accumG_pres _ hseed (fun m x => m = n → Good x) (fun m x hx hm => hold x (hm ▸ hx)) (fun h => hones h.symm)
      (fun a s ha h hr => (hadd a _ s (ha hr) (hones hr.symm) h).1) n x hx rfl
  have hgood : ∀ g ∈ contrib (fun r gy => evalRule bm (markDirty H (backwardOrder H root)) gy r) H.tracked final (bpPairs H root) n,
      Good g := by
    intro g hg
    obtain ⟨p, hp, ht, hn', gy, hG, hp2⟩ := (mem_contrib _ _).mp hg
    obtain ⟨hu, e, he, hpe⟩ := mem_bpPairs.mp hp
    rw [← hpe] at ht hn' hp2
    exact hrule p.1 hu e he ht hn' gy g (by rw [hfin p.1 (hlt p.1 hu)]; exact hG) hp2
  obtain ⟨h0, h1⟩ := sums_ip (vArith .add) ip Good hadd (hsums n) hseedGood hgood t
  refine ⟨seedG, hseed, fun g hg => h0 g (hfin n hn ▸ hg), ?_⟩
  rw [hfin n hn, h1]
  congr 1
  rw [contrib_sum]
  unfold bpPairs allPairs
  rw [sum_flatMap_map (backwardOrder H root) (edgesOf H)
    (fun u e => edgeTerm ip (fun r gy => evalRule bm (markDirty H (backwardOrder H root)) gy r) H.tracked final n t u e)]
  apply sum_congr_map
  intro u hu
  apply sum_congr_map
  intro e _
  unfold edgeTerm
  simp only []
  rw [hfin u (hlt u hu)]

theorem order_subset (H : Heap α) (root : Nat) (P : Nat → Prop) (hroot : P root)
    (hcl : ∀ u, P u → ∀ v ∈ succs H u, P v) : ∀ n ∈ backwardOrder H root, P n :=
  order_induct H root P hroot hcl

theorem order_le_root (H : Heap α) (root : Nat) (hdag : HeapDag H) : ∀ n ∈ backwardOrder H root, n ≤ root :=
  order_subset H root (fun n => n ≤ root) (Nat.le_refl _)
    (fun u hu v hv => Nat.le_trans (Nat.le_of_lt (dag_succs H hdag u v hv)) hu)

end C01z
end Qeep
