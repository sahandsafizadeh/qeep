import QeepProofs.Calculus
import QeepProofs.Real
import QeepProofs.ValueOps
import QeepProofs.RuleEqs
/-!
# C02 — each differentiable operation's backward rule is its vector-Jacobian product (element-wise family)

Proved over `ℝ` for the element-wise operations Scale, Pow, Exp, Log, Sin, Cos, Tan, Sinh, Cosh, Tanh and for
Add / Sub / Mul / Div on operands of equal shape, for every shape:

1. *value of the rule*: evaluating the Model's rule (`evalRule`, the body of the Go `gradFn`) on an upstream gradient
   `gy` of the operand's shape succeeds and returns, at every position, `gy_i · f'(x_i)` with the scalar factor `f'` of
   `derivative_table`;
2. *the factor is the derivative*: `HasDerivAt f (f' x) x` from Mathlib on the differentiability domain
   (`QeepProofs/Calculus.lean`), including Pow at base 0 with exponent 0 (the repaired rule: factor 0);
3. *lifting* (`vjp_of_rule`): hence the rule result at position `i` is the partial derivative with respect to `x_i`
   of the `gy`-weighted sum of the outputs — the vector-Jacobian product.

The indexing / shape / reduction rules (Reshape family, Transpose, Slice, Patch, Concat, SumAlong, AvgAlong) are in
`C02x`, the MatMul / Dot / MaxAlong / MinAlong rules and the rank-1 VarAlong / StdAlong rules in `C02y`. Correspondence
only: the ElMax / ElMin rule (`Rule.elext`) and VarAlong / StdAlong beyond rank 1.
-/

namespace Qeep
namespace C02
open RealScalar

theorem mul_map_rule (gy x : Tensor ℝ) (T : ℝ → ℝ) (wg : gy.WF) (wx : x.WF) (hd : gy.dims = x.dims) :
    vArith .mul gy (x.map T) = .ok ⟨gy.dims, List.zipWith (fun g a => g * T a) gy.data x.data⟩ := by
  rw [vArith_same .mul gy (x.map T) wg (map_wf T x wx) (by simpa [Tensor.map] using hd)]
  simp only [Tensor.map, Arith.fn, List.zipWith_map_right]
  rfl

section rules
variable (bm : BMode) (H : Heap ℝ) (gy : Tensor ℝ) (x : Nat)
variable (wg : gy.WF) (wx : (H.val x).WF) (hd : gy.dims = (H.val x).dims)
include wg wx hd

/-- the element-wise rules have the body `gy.Mul(F)` with `F` the operand mapped through a factor `T`; what remains for
    each rule is to name its `T` -/
theorem rule_of_factor (r : Rule ℝ) (T : ℝ → ℝ) (h : evalRule bm H gy r = vArith .mul gy ((H.val x).map T)) :
    evalRule bm H gy r = .ok ⟨gy.dims, List.zipWith (fun g a => g * T a) gy.data (H.val x).data⟩ :=
  h.trans (mul_map_rule gy (H.val x) T wg wx hd)

omit wg wx hd in
theorem map_map (t : Tensor ℝ) (f g : ℝ → ℝ) : (t.map f).map g = t.map (fun a => g (f a)) := by
  simp only [Tensor.map, List.map_map]; rfl

theorem rule_sin : evalRule bm H gy (.sinX x) = .ok ⟨gy.dims, List.zipWith (fun g a => g * Real.cos a) gy.data (H.val x).data⟩ :=
  rule_of_factor bm H gy x wg wx hd _ Real.cos rfl

theorem rule_cos : evalRule bm H gy (.cosX x) = .ok ⟨gy.dims, List.zipWith (fun g a => g * (-1 * Real.sin a)) gy.data (H.val x).data⟩ :=
  rule_of_factor bm H gy x wg wx hd _ _ (by
    rw [evalRule_cosX, vScale, vUnary, map_map, neg_eq, one_eq]; rfl)

theorem rule_sinh : evalRule bm H gy (.sinhX x) = .ok ⟨gy.dims, List.zipWith (fun g a => g * Real.cosh a) gy.data (H.val x).data⟩ :=
  rule_of_factor bm H gy x wg wx hd _ Real.cosh rfl

theorem rule_cosh : evalRule bm H gy (.coshX x) = .ok ⟨gy.dims, List.zipWith (fun g a => g * Real.sinh a) gy.data (H.val x).data⟩ :=
  rule_of_factor bm H gy x wg wx hd _ Real.sinh rfl

theorem rule_tan : evalRule bm H gy (.tanX x) = .ok ⟨gy.dims, List.zipWith (fun g a => g * (Real.cos a) ^ (-2 : ℝ)) gy.data (H.val x).data⟩ :=
  rule_of_factor bm H gy x wg wx hd _ _ (by
    rw [evalRule_tanX, vPow, vUnary, map_map, neg_eq, two_eq]; rfl)

theorem rule_tanh : evalRule bm H gy (.tanhX x) = .ok ⟨gy.dims, List.zipWith (fun g a => g * (Real.cosh a) ^ (-2 : ℝ)) gy.data (H.val x).data⟩ :=
  rule_of_factor bm H gy x wg wx hd _ _ (by
    rw [evalRule_tanhX, vPow, vUnary, map_map, neg_eq, two_eq]; rfl)

/-- Exp: the rule multiplies by the forward result `y = exp x` -/
theorem rule_exp (y : Nat) (hy : H.val y = (H.val x).map Real.exp) :
    evalRule bm H gy (.expX y) = .ok ⟨gy.dims, List.zipWith (fun g a => g * Real.exp a) gy.data (H.val x).data⟩ :=
  rule_of_factor bm H gy x wg wx hd _ Real.exp (by rw [evalRule_expX, hy])

/-- Log: `gy / x` -/
theorem rule_log : evalRule bm H gy (.logX x) = .ok ⟨gy.dims, List.zipWith (fun g a => g * (1 / a)) gy.data (H.val x).data⟩ := by
  rw [evalRule_logX, vArith_same .div gy (H.val x) wg wx hd]
  simp only [Arith.fn, div_fn]
  congr 2
  have : (fun (a b : ℝ) => a / b) = fun g a => g * (1 / a) := by funext g a; simp [div_eq_mul_inv]
  rw [this]

/-- Pow: `gy · a·x^(a−1)`, and exactly zero for exponent 0 (also at base 0) -/
theorem rule_pow (a : ℝ) :
    evalRule bm H gy (.powX x a) = .ok ⟨gy.dims, List.zipWith (fun g v => g * (if a = 0 then 0 else a * v ^ (a - 1))) gy.data (H.val x).data⟩ := by
  by_cases ha : a = 0
  · subst ha
    have hz : isZero (0 : ℝ) = true := by simp [isZero]
    simp only [evalRule_powX, hz, if_true, vScale, Tensor.map]
    congr 1
    rw [← hd]
    congr 1
    have hl : gy.data.length = (H.val x).data.length := by rw [wg.1, wx.1, hd]
    apply List.ext_getElem
    · simp [hl]
    · intro i h1 h2; simp
  · have hz : isZero a = false := by
      simp only [isZero, le_eq, zero_eq, Bool.and_eq_false_iff, decide_eq_false_iff_not]
      rcases lt_or_gt_of_ne ha with h | h
      · right; linarith
      · left; linarith
    have := mul_map_rule gy (H.val x) (fun v => a * v ^ (a - 1)) wg wx hd
    simpa [evalRule_powX, hz, ha, vScale, vPow, Tensor.map, List.map_map, Function.comp_def] using this

end rules

theorem rule_scale (bm : BMode) (H : Heap ℝ) (gy : Tensor ℝ) (a : ℝ) :
    evalRule bm H gy (.scaleX a) = .ok ⟨gy.dims, gy.data.map (fun g => a * g)⟩ :=
  rfl

/-- Add (both operands) and Sub (first): the upstream gradient itself; Sub (second): its negation -/
theorem rule_add_sub (bm : BMode) (H : Heap ℝ) (gy : Tensor ℝ) :
    evalRule bm H gy .idG = .ok gy ∧ evalRule bm H gy .negG = .ok ⟨gy.dims, gy.data.map (fun g => -1 * g)⟩ := by
  refine ⟨rfl, ?_⟩
  rw [evalRule_negG, vScale, neg_eq, one_eq]; rfl

/-- Mul: `gy · other`; Div: `gy / b` towards the dividend and `gy · (−a / b²)` towards the divisor -/
theorem rule_mul_div (bm : BMode) (H : Heap ℝ) (gy : Tensor ℝ) (a b : Nat) (wg : gy.WF) (wa : (H.val a).WF) (wb : (H.val b).WF)
    (ha : gy.dims = (H.val a).dims) (hb : gy.dims = (H.val b).dims) :
    evalRule bm H gy (.mulG b) = .ok ⟨gy.dims, List.zipWith (fun g v => g * v) gy.data (H.val b).data⟩ ∧
    evalRule bm H gy (.divA b) = .ok ⟨gy.dims, List.zipWith (fun g v => g / v) gy.data (H.val b).data⟩ ∧
    evalRule bm H gy (.divB a b) = .ok ⟨gy.dims,
      List.zipWith (fun g p => g * p) gy.data (List.zipWith (fun u v => (-1 * u) / v ^ (2 : ℝ)) (H.val a).data (H.val b).data)⟩ := by
  refine ⟨?_, ?_, ?_⟩
  · rw [evalRule_mulG, vArith_same .mul gy _ wg wb hb]; rfl
  · rw [evalRule_divA, vArith_same .div gy _ wg wb hb]; rfl
  · rw [evalRule_divB]
    have w1 : (vScale (H.val a) (Scalar.neg Scalar.one)).WF := map_wf _ _ wa
    have w2 : (vPow (H.val b) Scalar.two).WF := map_wf _ _ wb
    have hd12 : (vScale (H.val a) (Scalar.neg Scalar.one)).dims = (vPow (H.val b) Scalar.two).dims := by
      simp [vScale, vPow, Tensor.map, ← ha, ← hb]
    rw [vArith_same .div _ _ w1 w2 hd12, Out.bind_of_ok]
    have w3 : (⟨(vScale (H.val a) (Scalar.neg Scalar.one)).dims,
        List.zipWith Arith.div.fn (vScale (H.val a) (Scalar.neg Scalar.one)).data (vPow (H.val b) Scalar.two).data⟩ : Tensor ℝ).WF :=
      zip_wf _ _ _ w1 w2 hd12
    rw [vArith_same .mul gy _ wg w3 (by simp [vScale, Tensor.map, ha])]
    simp [vScale, vPow, Tensor.map, Arith.fn, List.zipWith_map_left, List.zipWith_map_right]

/-- **Lifting to the vector-Jacobian product.** If a rule delivers `gy_i · f'(x_i)` at every position and `f'` is the
    derivative of `f` at every `x_i`, then the delivered value at `i` is the partial derivative, with respect to
    `x_i`, of the `gy`-weighted sum of the operation's outputs. -/
theorem vjp_of_rule {n : ℕ} (f f' : ℝ → ℝ) (x g : Fin n → ℝ) (hf : ∀ i, HasDerivAt f (f' (x i)) (x i)) (i : Fin n) :
    HasDerivAt (fun t => ∑ k, g k * f (Function.update x i t k)) (g i * f' (x i)) (x i) :=
  hasDerivAt_weighted_map f f' x g i (hf i)

/-- the table: each rule's factor is the derivative of the forward function on its differentiability domain -/
theorem derivative_table (x : ℝ) :
    HasDerivAt Real.exp (Real.exp x) x ∧ (x ≠ 0 → HasDerivAt Real.log (1 / x) x) ∧
    HasDerivAt Real.sin (Real.cos x) x ∧ HasDerivAt Real.cos (-1 * Real.sin x) x ∧
    (Real.cos x ≠ 0 → HasDerivAt Real.tan ((Real.cos x) ^ (-2 : ℝ)) x) ∧
    HasDerivAt Real.sinh (Real.cosh x) x ∧ HasDerivAt Real.cosh (Real.sinh x) x ∧
    HasDerivAt Real.tanh ((Real.cosh x) ^ (-2 : ℝ)) x ∧
    (∀ a : ℝ, (x ≠ 0 ∨ 1 ≤ a) → HasDerivAt (fun y => y ^ a) (a * x ^ (a - 1)) x) ∧
    HasDerivAt (fun y : ℝ => y ^ (0 : ℝ)) 0 x :=
  ⟨d_exp x, d_log x, d_sin x, d_cos x, d_tan x, d_sinh x, d_cosh x, d_tanh x, fun a h => d_pow x a h, d_pow_zero x⟩

end C02
end Qeep
