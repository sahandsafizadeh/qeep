import QeepProps.C02
import QeepProps.C04x
import QeepProps.C05
import QeepProofs.BcastCopies
import QeepProofs.RuleEqs
/-!
# C02 (structural family) — the backward rules of the linear structural operations are the adjoint maps

Property C02: "each operation's backward rule is the vector-Jacobian product of its forward function". The forward
functions of Reshape / UnSqueeze / Squeeze / Flatten, Transpose, Slice, Patch, Concat, SumAlong and AvgAlong are
linear maps `f` on the row-major data (permutation, selection, embedding, summation), so their VJP is the adjoint
map `fᵀ`. Each `rule_*` theorem is about one Go `gradFn` closure of `tensor/internal/gradtrack/gradients.go`
(`Qeep.evalRule`, one `Rule` constructor per closure) and states, for every rank and all positive dimension sizes,
what that closure returns element by element; `*_vjp` ties it to the forward call; `adjoint_*` is
`⟨f dx, gy⟩ = ⟨dx, rule gy⟩` over ℝ, the sums taken over valid indices (`idxSum`) and moved along the index map of
the operation. The index lemmas about Slice / Patch / Concat windows are those of `QeepProps.C04x`.

Multi-indices are big-endian (tensor order) lists; `Qeep.Valid` is position-wise, so it serves both byte orders.

Not proved here: adjointness (sum form) for Patch / Concat / AvgAlong — their element statements are the
select / embed pairs, the sum form would follow the pattern of `adjoint_slice`.
-/

set_option linter.unusedSectionVars false
set_option linter.unusedVariables false

namespace Qeep
namespace C02x

variable {α : Type}

theorem valid_of_reverse {ds st : List Nat} (h : Valid ds.reverse st.reverse) : Valid ds st := by
  have := valid_reverse h
  simpa using this

theorem at?_valid (t : Tensor α) {i : List Nat} (hv : Valid t.dims i) :
    t.at? i = t.data[val t.dims.reverse i.reverse]? :=
  t.at?_of_valid hv

theorem tensor_ext (a b : Tensor α) (ha : a.WF) (hb : b.WF) (hd : a.dims = b.dims)
    (h : ∀ u, Valid a.dims.reverse u → a.at? u.reverse = b.at? u.reverse) : a = b :=
  C04x.tensor_ext a b ha hb hd fun idx hv => by
    have := h idx.reverse (valid_reverse hv)
    rwa [List.reverse_reverse] at this

theorem valid_of_ok {β : Type} {c : Bool} {o : Out β} {y : β} (hf : c = false → o = .err) (h : o = .ok y) : c = true := by
  cases c
  · rw [hf rfl] at h; cases h
  · rfl

section reshape
variable [Scalar α]

/-- **`gradtrack.Reshape` / `UnSqueeze` / `Squeeze` / `Flatten`: `gradFn = y.Gradient().Reshape(x.Shape())`.**
    The forward maps keep the row-major data and only relabel the dims (`C06.reshape_data`, `unsqueeze_data`,
    `squeeze_data`, `flatten_data`), i.e. on the data they are the identity permutation. The closure returns the
    upstream gradient's data, unchanged and in the same order, under the operand's dims: the inverse relabelling,
    which for a permutation is the adjoint. Holds for every upstream gradient with the element count of `x`. -/
theorem rule_reshape (bm : BMode) (H : Heap α) (gy : Tensor α) (x : Nat) (wg : gy.WF) (wx : (H.val x).WF)
    (hp : prod gy.dims = prod (H.val x).dims) :
    evalRule bm H gy (.reshapeX x) = .ok ⟨(H.val x).dims, gy.data⟩ := by
  have h := (C06.vReshape_total gy wg ((H.val x).dims.map Int.ofNat)).1
    ⟨validInputDims_ofNat _ wx.2, by rw [natDims_ofNat]; exact hp.symm⟩
  rwa [natDims_ofNat] at h

/-- the four forward operations that attach `Rule.reshapeX`, as functions of the operand value -/
inductive ReshapeOp
  | reshape (shape : List Int) | unsqueeze (dim : Int) | squeeze (dim : Int) | flatten (dim : Int)

def ReshapeOp.fwd (o : ReshapeOp) (t : Tensor α) : Out (Tensor α) :=
  match o with
  | .reshape s => vReshape t s
  | .unsqueeze d => vUnSqueeze t d
  | .squeeze d => vSqueeze t d
  | .flatten d => vFlatten t d

theorem reshape_fwd (o : ReshapeOp) (t y : Tensor α) (wt : t.WF) (h : o.fwd t = .ok y) :
    y.data = t.data ∧ prod y.dims = prod t.dims := by
  cases o with
  | reshape s =>
    change vReshape t s = .ok y at h
    by_cases hv : validInputDims s = true ∧ prod (natDims s) = prod t.dims
    · rw [(C06.vReshape_total t wt s).1 hv] at h
      injection h with h; subst h; exact ⟨rfl, hv.2⟩
    · rw [(C06.vReshape_total t wt s).2 hv] at h; cases h
  | unsqueeze d =>
    change vUnSqueeze t d = .ok y at h
    rw [(C09.vUnSqueeze_total t wt d).1 (valid_of_ok (C09.vUnSqueeze_total t wt d).2 h)] at h
    injection h with h; subst h; exact ⟨rfl, C06.prod_unsqueezeDims _ _⟩
  | squeeze d =>
    change vSqueeze t d = .ok y at h
    have hv := valid_of_ok (C09.vSqueeze_total t wt d).2 h
    rw [(C09.vSqueeze_total t wt d).1 hv] at h
    simp only [validSqueeze, Bool.and_eq_true, beq_iff_eq] at hv
    injection h with h; subst h; exact ⟨rfl, C06.prod_squeezeDims _ _ hv.2⟩
  | flatten d =>
    change vFlatten t d = .ok y at h
    rw [(C09.vFlatten_total t wt d).1 (valid_of_ok (C09.vFlatten_total t wt d).2 h)] at h
    injection h with h; subst h; exact ⟨rfl, C06.prod_flattenDims _ _⟩

/-- **Reshape family, forward and backward together**: whichever of Reshape / UnSqueeze / Squeeze / Flatten produced
    `y` from `x`, the closure applied to an upstream gradient of `y`'s shape returns that gradient's data under `x`'s
    dims; in particular the closure applied to `y` itself returns `x` (rule ∘ forward = id: the rule is the inverse
    permutation = the adjoint of the forward relabelling). -/
theorem rule_reshape_family (bm : BMode) (H : Heap α) (o : ReshapeOp) (x : Nat) (y gy : Tensor α)
    (wx : (H.val x).WF) (hf : o.fwd (H.val x) = .ok y) (wg : gy.WF) (hd : gy.dims = y.dims) :
    evalRule bm H gy (.reshapeX x) = .ok ⟨(H.val x).dims, gy.data⟩ ∧
    (y.WF → evalRule bm H y (.reshapeX x) = .ok (H.val x)) := by
  obtain ⟨e1, e2⟩ := reshape_fwd o (H.val x) y wx hf
  refine ⟨rule_reshape bm H gy x wg wx (by rw [hd, e2]), ?_⟩
  intro wy
  rw [rule_reshape bm H y x wy wx e2, e1]

end reshape

def swapLast2 (i : List Nat) : List Nat := (swap2 i.reverse).reverse

theorem swapLast2_swapLast2 (i : List Nat) : swapLast2 (swapLast2 i) = i := by
  simp [swapLast2, swap2_swap2]

theorem transposeDims_eq (ds : List Nat) : transposeDims ds = swapLast2 ds := Qeep.transposeDims_eq ds

theorem valid_swapLast2 {ds i : List Nat} (h : Valid ds i) : Valid (swapLast2 ds) (swapLast2 i) :=
  valid_reverse (valid_swap2 (valid_reverse h))

section transpose
variable [Scalar α]

/-- **`gradtrack.Transpose`: `gradFn = y.Gradient().Transpose()`.** Forward: `y[p…, i, j] = x[p…, j, i]`
    (`C04.transpose_get`), a permutation of the elements. The closure never fails on a well-formed upstream gradient
    of rank ≥ 2, returns a well-formed tensor with the last two dims swapped back, and its element at every valid
    index `i` is the upstream element at `i` with the last two coordinates swapped: the same coordinate swap read in the
    other direction, i.e. the inverse permutation, which is the adjoint of the forward permutation. -/
theorem rule_transpose (bm : BMode) (H : Heap α) (gy : Tensor α) (wg : gy.WF) (hr : 2 ≤ gy.dims.length) :
    ∃ r, evalRule bm H gy .transposeX = .ok r ∧ r.dims = swapLast2 gy.dims ∧ r.WF ∧
      ∀ i, Valid r.dims i → r.at? i = gy.at? (swapLast2 i) := by
  obtain ⟨r, e, -, -⟩ := (C04.vTranspose_total gy wg).1 hr
  obtain ⟨-, hd, wr, hget⟩ := C04x.vTranspose_get gy r wg e
  refine ⟨r, e, hd.trans (transposeDims_eq _), wr, fun i hi => ?_⟩
  have := hget i.reverse (by rw [← hd]; exact valid_reverse hi)
  rwa [List.reverse_reverse] at this

/-- **Transpose is an involution** (value level): transposing twice gives the tensor back, for every well-formed tensor
    of rank ≥ 2. Hence the forward map is a permutation that is its own inverse, and the closure `gy ↦ gy.Transpose()`
    is exactly that inverse (= adjoint): `rule (forward x) = x`. -/
theorem transpose_involution (t : Tensor α) (hwf : t.WF) (hr : 2 ≤ t.dims.length) :
    ∃ t', vTranspose t = .ok t' ∧ vTranspose t' = .ok t := by
  obtain ⟨t', e, -, -⟩ := (C04.vTranspose_total t hwf).1 hr
  exact ⟨t', e, C04x.transpose_involution t t' hwf e⟩

theorem rule_transpose_inverse (bm : BMode) (H : Heap α) (x : Tensor α) (wx : x.WF) (hr : 2 ≤ x.dims.length) :
    ∃ y, vTranspose x = .ok y ∧ evalRule bm H y .transposeX = .ok x :=
  transpose_involution x wx hr

end transpose

theorem validBroadcastLE_append : ∀ (a b : List Nat) (s d : Nat), a.length = b.length →
    validBroadcastLE (a ++ [s]) (b ++ [d]) = (validBroadcastLE a b && (s == d || s == 1))
  | [], [], _, _, _ => by simp [validBroadcastLE]
  | x :: a, y :: b, s, d, h => by
    have ih := validBroadcastLE_append a b s d (by simpa using h)
    simp only [List.cons_append, validBroadcastLE, ih, Bool.and_assoc]
  | [], _ :: _, _, _, h => by simp at h
  | _ :: _, [], _, _, h => by simp at h

theorem validBroadcastLE_reverse : ∀ (a b : List Nat), a.length = b.length →
    validBroadcastLE a.reverse b.reverse = validBroadcastLE a b
  | [], [], _ => rfl
  | x :: a, y :: b, h => by
    have h' : a.length = b.length := by simpa using h
    simp only [List.reverse_cons]
    rw [validBroadcastLE_append _ _ _ _ (by simpa using h'), validBroadcastLE_reverse a b h']
    simp only [validBroadcastLE, Bool.and_comm]
  | [], _ :: _, h => by simp at h
  | _ :: _, [], h => by simp at h

theorem squeezeDims_length (dim : Nat) (xd : List Nat) (h : dim < xd.length) :
    (squeezeDims dim xd).length = xd.length - 1 := by
  unfold squeezeDims
  rw [List.length_append, List.length_take, List.length_drop]
  omega

theorem validBroadcastLE_set_one : ∀ (dim : Nat) (xd : List Nat), validBroadcastLE (xd.set dim 1) xd = true
  | _, [] => by simp [validBroadcastLE]
  | 0, d :: ds => by simp [validBroadcastLE, validBroadcastLE_self]
  | dim + 1, d :: ds => by simp [validBroadcastLE, validBroadcastLE_set_one dim ds]

theorem projLE_set_one : ∀ (dim : Nat) {xd i : List Nat}, Valid xd i →
    projLE (xd.set dim 1) xd i = i.set dim 0
  | _, _, _, .nil => by simp [projLE]
  | 0, _, _, .cons (d := d) (s := s) (ds := ds) (ss := ss) hs hv => by
    simp only [List.set_cons_zero, projLE, projLE_self ds ss hv.length_eq]
    split
    · rename_i h1; congr 1; omega
    · rfl
  | dim + 1, _, _, .cons (d := d) (s := s) (ds := ds) (ss := ss) hs hv => by
    simp only [List.set_cons_succ, projLE, if_true, projLE_set_one dim hv]

theorem valid_take : ∀ (k : Nat) {ds i : List Nat}, Valid ds i → Valid (ds.take k) (i.take k)
  | 0, _, _, _ => .nil
  | _ + 1, _, _, .nil => .nil
  | k + 1, _, _, .cons h hv => .cons h (valid_take k hv)

theorem valid_drop : ∀ (k : Nat) {ds i : List Nat}, Valid ds i → Valid (ds.drop k) (i.drop k)
  | 0, _, _, hv => hv
  | _ + 1, _, _, .nil => .nil
  | k + 1, _, _, .cons _ hv => valid_drop k hv

section along
variable [Scalar α]

/-- `reducerBroadcasted(gy, x, dim)`: UnSqueeze at `dim`, then Broadcast to `x.Shape()` — replication along `dim`.
    UnSqueeze puts `gy[p ++ q]` at `p ++ 0 :: q` (`unsqueeze_el`); Broadcast from dims with size 1 at `dim` reads the
    source at the target index with coordinate `dim` set to 0 (`vBroadcastN_el`, `projLE_set_one`). -/
theorem reducerBroadcasted_get (gy : Tensor α) (xd : List Nat) (dim : Nat) (hpos : ∀ d ∈ xd, 0 < d)
    (hdim : dim < xd.length) (wg : gy.WF) (hd : gy.dims = squeezeDims dim xd) :
    ∃ r, reducerBroadcasted gy xd dim = .ok r ∧ r.dims = xd ∧ r.WF ∧
      ∀ i, Valid xd i → r.at? i = gy.at? (i.eraseIdx dim) := by
  have hPl : (xd.take dim).length = dim := List.length_take_of_le (Nat.le_of_lt hdim)
  obtain ⟨u, eu, wu, hud, hu⟩ := unsqueeze_el gy wg (xd.take dim) (xd.drop (dim + 1)) hd
  rw [hPl] at eu
  have hud' : u.dims = xd.set dim 1 := by rw [hud, List.set_eq_take_append_cons_drop, if_pos hdim]
  have hv : validBroadcast u.dims xd = true := by
    rw [hud']; unfold validBroadcast
    rw [validBroadcastLE_reverse _ _ (by simp)]
    exact validBroadcastLE_set_one dim xd
  obtain ⟨r, er, hrd, wr, hr⟩ := vBroadcastN_el u wu xd hpos hv
  refine ⟨r, ?_, hrd, wr, fun i hi => ?_⟩
  · unfold reducerBroadcasted
    simp only [bind, Out.bind, eu]
    exact er
  · have hil : dim < i.length := by rw [hi.length_eq]; exact hdim
    have hp := valid_take dim hi
    have hq := valid_drop (dim + 1) hi
    have hproj : projBE u.dims xd i = i.take dim ++ 0 :: i.drop (dim + 1) := by
      unfold projBE
      rw [hud', List.length_set, Nat.sub_self, List.drop_zero, List.drop_zero, projLE_set_one dim hi,
        List.set_eq_take_append_cons_drop, if_pos hil]
    rw [hr i hi, hproj, at?_some_el u wu (by rw [hud]; exact valid_app hp (.cons Nat.one_pos hq)), hu _ _ hp hq,
      List.eraseIdx_eq_take_drop_succ,
      at?_some_el gy wg (by rw [hd]; exact valid_app hp hq)]

/-- **`gradtrack.SumAlong`: `gradFn = reducerBroadcasted(y.Gradient(), x, dim)`.** Forward: `y[j] = Σ_k x[j with k
    inserted at dim]` (`C05.along_get` with `Tensor.sum`), the summation map along `dim`. The closure succeeds on every
    well-formed upstream gradient of `y`'s shape, returns a well-formed tensor of `x`'s shape, and its element at every
    valid index `i` of `x` is the upstream element at `i` with coordinate `dim` removed — the same for all values of that
    coordinate: replication along `dim`, which is the adjoint of summation along `dim`
    (`Σ_j (Σ_k x[j,k]) gy[j] = Σ_{j,k} x[j,k] gy[j]`). -/
theorem rule_sumAlong (bm : BMode) (H : Heap α) (gy : Tensor α) (x dim : Nat) (wx : (H.val x).WF)
    (hdim : dim < (H.val x).dims.length) (wg : gy.WF) (hd : gy.dims = squeezeDims dim (H.val x).dims) :
    ∃ r, evalRule bm H gy (.sumAlongX x dim) = .ok r ∧ r.dims = (H.val x).dims ∧ r.WF ∧
      ∀ i, Valid (H.val x).dims i → r.at? i = gy.at? (i.eraseIdx dim) :=
  reducerBroadcasted_get gy (H.val x).dims dim wx.2 hdim wg hd

/-- **`gradtrack.AvgAlong` / `MeanAlong`: `gradFn = reducerBroadcasted(y.Gradient(), x, dim).Scale(1 / n)`**, `n` the
    size of `x` along `dim`. Forward: `y[j] = (Σ_k x[j,k]) / n`, i.e. `(1/n) ·` summation along `dim`. The closure returns
    `(1/n) · gy[i with coordinate dim removed]` at every valid index `i` of `x`: `(1/n) ·` replication along `dim`, the
    adjoint of the forward map. -/
theorem rule_avgAlong (bm : BMode) (H : Heap α) (gy : Tensor α) (x dim : Nat) (wx : (H.val x).WF)
    (hdim : dim < (H.val x).dims.length) (wg : gy.WF) (hd : gy.dims = squeezeDims dim (H.val x).dims) :
    ∃ r, evalRule bm H gy (.avgAlongX x dim) = .ok r ∧ r.dims = (H.val x).dims ∧ r.WF ∧
      ∀ i, Valid (H.val x).dims i →
        r.at? i = (gy.at? (i.eraseIdx dim)).map
          (fun g => Scalar.mul (Scalar.div Scalar.one (Scalar.ofNat ((H.val x).dims.getD dim 0))) g) := by
  obtain ⟨r, e, hdims, wf, hget⟩ := reducerBroadcasted_get gy (H.val x).dims dim wx.2 hdim wg hd
  refine ⟨vScale r (Scalar.div Scalar.one (Scalar.ofNat ((H.val x).dims.getD dim 0))), ?_, hdims, map_wf _ _ wf, ?_⟩
  · rw [evalRule_avgAlongX, e]; rfl
  · intro i hi
    rw [← hget i hi]
    exact at?_map _ r i

end along

def inWin : List (Nat × Nat) → List Nat → Bool
  | (f, t) :: w, j :: js => decide (f ≤ j ∧ j < t) && inWin w js
  | _, _ => true

theorem completeIndex_length : ∀ (idx : List (Nat × Nat)) (ds : List Nat), (completeIndex idx ds).length = ds.length
  | _, [] => by simp [completeIndex]
  | [], d :: ds => by simp [completeIndex, completeIndex_length [] ds]
  | (f, t) :: rest, d :: ds => by simp [completeIndex, completeIndex_length rest ds]

theorem completeIndex_sliceDims : ∀ (idx : List (Nat × Nat)) (ds : List Nat),
    completeIndex idx (sliceDims (completeIndex idx ds)) = completeIndex idx ds
  | _, [] => by simp [completeIndex, sliceDims]
  | [], d :: ds => by
    have ih := completeIndex_sliceDims [] ds
    simp only [sliceDims] at ih
    simp [completeIndex, sliceDims, ih]
  | (f, t) :: rest, d :: ds => by
    have ih := completeIndex_sliceDims rest ds
    simp only [sliceDims] at ih
    simp only [completeIndex, sliceDims, List.map_cons]
    split
    · simp [ih]
    · rename_i h; simp [ih]

def Ordered (W : List (Nat × Nat)) : Prop := ∀ p ∈ W, p.1 ≤ p.2

theorem ordered_complete : ∀ {idx ds}, C06.RangesOK idx ds → Ordered (completeIndex idx ds)
  | _, [], _ => by simp [completeIndex, Ordered]
  | _, d :: ds, .nil _ => by
    intro p hp
    simp only [completeIndex, List.mem_cons] at hp
    rcases hp with rfl | hp
    · exact Nat.zero_le _
    · exact ordered_complete (.nil ds) p hp
  | _, _, .cons (f := f) (t := t) (d := d) h hr => by
    intro p hp
    simp only [completeIndex, List.mem_cons] at hp
    rcases hp with rfl | hp
    · split
      · exact Nat.zero_le _
      · rcases h with h | h
        · rename_i hne; exact absurd h hne
        · exact Nat.le_of_lt h.1
    · exact ordered_complete hr p hp

theorem insideP_inWin : ∀ (W : List (Nat × Nat)) (i : List Nat), Ordered W →
    insideP W (sliceDims W) i = inWin W i
  | [], _, _ => by simp [insideP, inWin]
  | (f, t) :: W, [], _ => by simp [insideP, inWin]
  | (f, t) :: W, j :: js, ho => by
    have hft : f ≤ t := ho (f, t) (by simp)
    have ih := insideP_inWin W js (fun p hp => ho p (by simp [hp]))
    simp only [sliceDims] at ih
    simp only [sliceDims, List.map_cons, insideP, inWin, ih]
    have : f + (t - f) = t := by omega
    rw [this]

theorem validPatch_of_validSlice : ∀ (index : List IRange) (ds : List Nat), validSliceIndex index ds = true →
    validPatchIndex index (sliceDims (completeIndex (natRanges index) ds)) ds = true
  | [], [], _ => rfl
  | [], d :: ds, _ =>
    validPatchIndex_nil_cons.2 ⟨Nat.sub_le d 0, validPatch_of_validSlice [] ds (validSliceIndex_nil ds)⟩
  | _ :: _, [], h => by simp [validSliceIndex] at h
  | (a, b) :: rest, d :: ds, h => by
    obtain ⟨h1, h2⟩ := (validSliceIndex_cons_iff _ _ _ _).1 h
    refine validPatchIndex_cons.2 ⟨?_, h1, ?_, validPatch_of_validSlice rest ds h2⟩
    all_goals
      dsimp only
      rcases validRange_iff.1 h1 with ⟨rfl, rfl⟩ | h0
      · simp
      · rw [if_neg (by omega)]; omega

section slice
variable [Scalar α]

/-- **`gradtrack.Slice`: `gradFn = toZeros(x).Patch(index, y.Gradient())`.** Forward (`C06.slice_get`):
    `y[j] = x[j + From]` for every `j` of the block — selection of the window `W = completeIndex index x.dims`.
    The closure succeeds on every well-formed upstream gradient of `y`'s shape, returns a well-formed tensor of `x`'s
    shape, and its element at a valid index `i` of `x` is `gy[i - From]` when `i` lies in the window and the element of
    `toZeros(x) = x.Scale(0)` (i.e. `0 · x[i]`) outside: embedding of the block into zeros, which is the adjoint of
    selecting the block. `rule_slice_zero` states the outside value as `0`. -/
theorem rule_slice (bm : BMode) (H : Heap α) (gy : Tensor α) (x : Nat) (index : List IRange) (wx : (H.val x).WF)
    (hv : validSliceIndex index (H.val x).dims = true) (wg : gy.WF)
    (hd : gy.dims = sliceDims (completeIndex (natRanges index) (H.val x).dims)) :
    ∃ r, evalRule bm H gy (.sliceX x index) = .ok r ∧ r.dims = (H.val x).dims ∧ r.WF ∧
      ∀ i, Valid (H.val x).dims i →
        r.at? i = if inWin (completeIndex (natRanges index) (H.val x).dims) i
          then gy.at? (unshiftP (completeIndex (natRanges index) (H.val x).dims) i)
          else ((H.val x).at? i).map (fun a => Scalar.mul Scalar.zero a) := by
  have hrok := C09.rangesOK_of_valid index (H.val x).dims hv
  have wz : (vScale (H.val x) Scalar.zero).WF := map_wf _ _ wx
  have hvp : validPatchIndex index gy.dims (vScale (H.val x) Scalar.zero).dims = true := by
    rw [hd]; exact validPatch_of_validSlice index (H.val x).dims hv
  obtain ⟨data, e⟩ := (C09.vPatch_total _ gy wz wg index).1 hvp
  obtain ⟨-, -, wr, hget⟩ := C04x.vPatch_get _ gy _ wz wg index e
  refine ⟨_, e, rfl, wr, fun i hi => ?_⟩
  have hci : completeIndex (natRanges index) gy.dims = completeIndex (natRanges index) (H.val x).dims := by
    rw [hd]; exact completeIndex_sliceDims _ _
  have hin : insideP (completeIndex (natRanges index) (H.val x).dims) gy.dims i
      = inWin (completeIndex (natRanges index) (H.val x).dims) i := by
    rw [hd]; exact insideP_inWin _ _ (ordered_complete hrok)
  have hz : (vScale (H.val x) Scalar.zero).at? i = ((H.val x).at? i).map (fun a => Scalar.mul Scalar.zero a) :=
    at?_map _ _ i
  rw [hget i hi, hci, hin, hz]

/-- `rule_slice` on a scalar domain where `0 · a` is a constant `z` (`z = 0` over ℝ, ℚ, ℤ; not IEEE floats with
    infinities): `z` outside the window -/
theorem rule_slice_zero {z : α} (hz : ∀ a : α, Scalar.mul Scalar.zero a = z)
    (bm : BMode) (H : Heap α) (gy : Tensor α) (x : Nat) (index : List IRange) (wx : (H.val x).WF)
    (hv : validSliceIndex index (H.val x).dims = true) (wg : gy.WF)
    (hd : gy.dims = sliceDims (completeIndex (natRanges index) (H.val x).dims)) :
    ∃ r, evalRule bm H gy (.sliceX x index) = .ok r ∧ r.dims = (H.val x).dims ∧ r.WF ∧
      ∀ i, Valid (H.val x).dims i →
        r.at? i = if inWin (completeIndex (natRanges index) (H.val x).dims) i
          then gy.at? (unshiftP (completeIndex (natRanges index) (H.val x).dims) i)
          else some z := by
  obtain ⟨r, e, hdims, wf, hget⟩ := rule_slice bm H gy x index wx hv wg hd
  refine ⟨r, e, hdims, wf, fun i hi => ?_⟩
  obtain ⟨a, ha⟩ := C09.at?_some_of_valid (H.val x) wx _ hi
  rw [hget i hi, ha, Option.map_some, hz]

end slice

def addAt : Nat → Nat → List Nat → List Nat
  | _, _, [] => []
  | 0, b, j :: js => (j + b) :: js
  | k + 1, b, j :: js => j :: addAt k b js

theorem addAt_eq : ∀ (k b : Nat) (js : List Nat), addAt k b js = C04x.addAt k b js
  | _, _, [] => by simp [addAt, C04x.addAt]
  | 0, _, _ :: _ => rfl
  | k + 1, b, j :: js => by simp [addAt, C04x.addAt, addAt_eq k b js]

section concat
variable [Scalar α]

/-- **`gradtrack.Concat`: `gradFn_k = y.Gradient().Slice(index_k)`**, `index_k = concatIndex rank dim base_k len_k`
    with `base_k` the sum of the sizes along `dim` of the operands before `x_k` and `len_k` the size of `x_k`
    (`Qeep.concatEdges`). Forward (`C06.concat_get`): the result holds `x_k[j]` at index `j` with `base_k` added to
    coordinate `dim` — each operand is embedded as one block. The closure succeeds on every well-formed upstream
    gradient whose size along `dim` covers the block, returns the dims of `gy` with `dim` replaced by `len_k` (the shape
    of `x_k`), and its element at every valid local index `j` is `gy[j with base_k added at dim]`: selection of the block,
    the adjoint of embedding it. -/
theorem rule_concat (bm : BMode) (H : Heap α) (gy : Tensor α) (dim base len : Nat) (wg : gy.WF)
    (hl : 0 < len) (hdim : dim < gy.dims.length) (hb : base + len ≤ gy.dims.getD dim 0) :
    ∃ r, evalRule bm H gy (.concatI (concatIndex gy.dims.length dim base len)) = .ok r ∧
      r.dims = gy.dims.set dim len ∧ r.WF ∧
      ∀ j, Valid (gy.dims.set dim len) j → r.at? j = gy.at? (addAt dim base j) := by
  obtain ⟨data, e, hlen, hget⟩ := C04x.slice_catWin gy wg dim base len hl hdim hb
  refine ⟨⟨gy.dims.set dim len, data⟩, e, rfl, ⟨hlen, fun d hd => ?_⟩, fun j hj => by rw [hget j hj, addAt_eq]⟩
  rcases List.mem_or_eq_of_mem_set hd with h | h
  · exact wg.2 d h
  · omega

end concat

theorem valid_unshiftP : ∀ {idx sds dds js}, FitsP idx sds dds → Valid dds js → insideP idx sds js = true →
    Valid sds (unshiftP idx js)
  | _, _, _, _, .nil, .nil, _ => .nil
  | _, _, _, _, .cons (f := f) (sd := sd) hfit hrest, .cons (s := j) hj hv, hin => by
    simp only [insideP, Bool.and_eq_true, decide_eq_true_eq] at hin
    simp only [unshiftP]
    exact .cons (by omega) (valid_unshiftP hrest hv hin.2)

section patch
variable [Scalar α]

/-- **`gradtrack.Patch`, target operand `x`: `gradFn = y.Gradient().Patch(index, toZeros(p))`.** Forward
    (`C06.patch_get`): `y[i] = p[i - From]` inside the written block and `y[i] = x[i]` outside, so as a function of `x`
    the forward map keeps the positions outside the block and forgets those inside (a coordinate projection, which is
    self-adjoint). The closure succeeds on every well-formed upstream gradient of `x`'s shape, returns that shape, and its
    element at a valid index `i` is the element of `toZeros(p) = p.Scale(0)` inside the block and `gy[i]` outside: the
    same projection applied to `gy`. `rule_patchX_zero` states the inside value as `0`. -/
theorem rule_patchX (bm : BMode) (H : Heap α) (gy : Tensor α) (p : Nat) (index : List IRange) (wp : (H.val p).WF)
    (wg : gy.WF) (hv : validPatchIndex index (H.val p).dims gy.dims = true) :
    ∃ r, evalRule bm H gy (.patchX p index) = .ok r ∧ r.dims = gy.dims ∧ r.WF ∧
      ∀ i, Valid gy.dims i →
        r.at? i = if insideP (completeIndex (natRanges index) (H.val p).dims) (H.val p).dims i
          then ((H.val p).at? (unshiftP (completeIndex (natRanges index) (H.val p).dims) i)).map
            (fun a => Scalar.mul Scalar.zero a)
          else gy.at? i := by
  have wz : (vScale (H.val p) Scalar.zero).WF := map_wf _ _ wp
  obtain ⟨data, e⟩ := (C09.vPatch_total gy _ wg wz index).1 hv
  obtain ⟨-, -, wr, hget⟩ := C04x.vPatch_get gy _ _ wg wz index e
  refine ⟨_, e, rfl, wr, fun i hi => ?_⟩
  have hz : ∀ j, (vScale (H.val p) Scalar.zero).at? j = ((H.val p).at? j).map (fun a => Scalar.mul Scalar.zero a) :=
    fun j => at?_map _ _ j
  rw [hget i hi, hz]
  rfl

theorem rule_patchX_zero {z : α} (hz : ∀ a : α, Scalar.mul Scalar.zero a = z)
    (bm : BMode) (H : Heap α) (gy : Tensor α) (p : Nat) (index : List IRange) (wp : (H.val p).WF)
    (wg : gy.WF) (hv : validPatchIndex index (H.val p).dims gy.dims = true) :
    ∃ r, evalRule bm H gy (.patchX p index) = .ok r ∧ r.dims = gy.dims ∧ r.WF ∧
      ∀ i, Valid gy.dims i →
        r.at? i = if insideP (completeIndex (natRanges index) (H.val p).dims) (H.val p).dims i
          then some z else gy.at? i := by
  obtain ⟨r, e, hdims, wf, hget⟩ := rule_patchX bm H gy p index wp wg hv
  refine ⟨r, e, hdims, wf, fun i hi => ?_⟩
  rw [hget i hi]
  by_cases hin : insideP (completeIndex (natRanges index) (H.val p).dims) (H.val p).dims i = true
  · have hfit := C06.fitsP_complete (C09.patchOK_of_valid index _ _ hv)
    obtain ⟨a, ha⟩ := C09.at?_some_of_valid (H.val p) wp _ (valid_unshiftP hfit hi hin)
    rw [if_pos hin, if_pos hin, ha, Option.map_some, hz]
  · rw [if_neg hin, if_neg hin]

/-- **`gradtrack.Patch`, source operand `p`: `gradFn = y.Gradient().Slice(patchedBlock(index, p))`.** Forward
    (`C06.patch_get`): `y[i] = p[i - From]` for `i` inside the written block — as a function of `p`, embedding of `p` at
    offset `From` (offset 0 where the range is omitted or `{0,0}`). The closure succeeds on every well-formed upstream
    gradient of the target's shape, returns a well-formed tensor of `p`'s shape, and its element at every valid index `j`
    of `p` is `gy[j + From]`: selection of the written block, the adjoint of the embedding. -/
theorem rule_patchP (bm : BMode) (H : Heap α) (gy : Tensor α) (p : Nat) (index : List IRange) (wp : (H.val p).WF)
    (wg : gy.WF) (hv : validPatchIndex index (H.val p).dims gy.dims = true) :
    ∃ r, evalRule bm H gy (.patchP p index) = .ok r ∧ r.dims = (H.val p).dims ∧ r.WF ∧
      ∀ j, Valid (H.val p).dims j →
        r.at? j = gy.at? (shiftIdx (completeIndex (natRanges index) (H.val p).dims) j) := by
  obtain ⟨hvs, hnat⟩ := C04x.patchedBlock_spec index (H.val p).dims gy.dims hv wp.2
  have hpok := C09.patchOK_of_valid index _ _ hv
  have hcov := C04x.covers_complete hpok
  have hlen : (H.val p).dims.length = gy.dims.length := (C06.fitsP_complete hpok).lengths
  obtain ⟨data, e, hl, hget⟩ := C06.slice_get gy wg _ (C09.rangesOK_of_valid _ _ hvs)
  rw [hnat, C04x.completeIndex_covers gy.dims hcov wp.2 hlen, C04x.sliceDims_covers hcov] at e hl hget
  refine ⟨⟨(H.val p).dims, data⟩, ?_, rfl, ⟨hl, wp.2⟩, ?_⟩
  · simp only [evalRule_patchP, vSlice]
    rw [if_pos hvs, hnat, e]; rfl
  · intro j hj
    exact hget j (C04x.inBlock_covers hcov hj)

end patch

theorem window_of_block : ∀ {W j}, InBlock W j → inWin W (shiftIdx W j) = true ∧ unshiftP W (shiftIdx W j) = j
  | _, _, .nil => ⟨rfl, rfl⟩
  | _, _, .cons (f := f) (t := t) (j := j) hj hb => by
    obtain ⟨h1, h2⟩ := window_of_block hb
    simp only [shiftIdx, inWin, unshiftP, h1, h2, Bool.and_true, decide_eq_true_eq]
    exact ⟨by omega, by congr 1; omega⟩

theorem block_of_window : ∀ {W ds i}, Fits W ds → Valid ds i → inWin W i = true →
    InBlock W (unshiftP W i) ∧ shiftIdx W (unshiftP W i) = i
  | _, _, _, .nil, .nil, _ => ⟨.nil, rfl⟩
  | _, _, _, .cons (f := f) (t := t) htd hfit, .cons (s := j) hj hv, hin => by
    simp only [inWin, Bool.and_eq_true, decide_eq_true_eq] at hin
    obtain ⟨h1, h2⟩ := block_of_window hfit hv hin.2
    simp only [unshiftP, shiftIdx, h2]
    exact ⟨.cons (by omega) h1, by congr 1; omega⟩

theorem vSlice_get (t y : Tensor α) (wt : t.WF) (index : List IRange) (h : vSlice t index = .ok y) :
    validSliceIndex index t.dims = true ∧ y.dims = sliceDims (completeIndex (natRanges index) t.dims) ∧
      y.data.length = prod y.dims ∧
      ∀ j, InBlock (completeIndex (natRanges index) t.dims) j →
        y.at? j = t.at? (shiftIdx (completeIndex (natRanges index) t.dims) j) := by
  obtain ⟨hv, e'⟩ := gate_eq_ok.1 h
  obtain ⟨data, e, hlen, hget⟩ := C06.slice_get t wt (natRanges index) (C09.rangesOK_of_valid _ _ hv)
  obtain rfl := Option.some.inj (e.symm.trans e')
  exact ⟨hv, rfl, hlen, hget⟩

section pairs
variable [Scalar α]

/-- **Slice, forward and backward together.** With `W` the complete window of the index: forward `y[j] = x[j + From]`
    on the block, backward `r[i] = gy[i - From]` on the window and `0 · x[i]` elsewhere — select / embed-into-zeros, a
    pair of mutually adjoint maps (`window_of_block`, `block_of_window`: the two index maps are mutually inverse). -/
theorem slice_vjp (bm : BMode) (H : Heap α) (x : Nat) (index : List IRange) (y gy : Tensor α) (wx : (H.val x).WF)
    (hf : vSlice (H.val x) index = .ok y) (wg : gy.WF) (hd : gy.dims = y.dims) :
    (∀ j, InBlock (completeIndex (natRanges index) (H.val x).dims) j →
        y.at? j = (H.val x).at? (shiftIdx (completeIndex (natRanges index) (H.val x).dims) j)) ∧
    ∃ r, evalRule bm H gy (.sliceX x index) = .ok r ∧ r.dims = (H.val x).dims ∧ r.WF ∧
      ∀ i, Valid (H.val x).dims i →
        r.at? i = if inWin (completeIndex (natRanges index) (H.val x).dims) i
          then gy.at? (unshiftP (completeIndex (natRanges index) (H.val x).dims) i)
          else ((H.val x).at? i).map (fun a => Scalar.mul Scalar.zero a) := by
  obtain ⟨hv, hyd, -, hget⟩ := vSlice_get _ y wx index hf
  exact ⟨hget, rule_slice bm H gy x index wx hv wg (hd.trans hyd)⟩

/-- **Patch, forward and backward together.** With `W` the complete index of the write (`From` = 0 where omitted):
    forward `y[i] = p[i - From]` inside the block, `x[i]` outside; backward towards `x`: `0 · p[·]` inside, `gy[i]`
    outside (the projection that forgets the block); backward towards `p`: `gy[j + From]` (selection of the block, adjoint
    of embedding `p` there). -/
theorem patch_vjp (bm : BMode) (H : Heap α) (x p : Nat) (index : List IRange) (y gy : Tensor α) (wx : (H.val x).WF)
    (wp : (H.val p).WF) (hf : vPatch (H.val x) index (H.val p) = .ok y) (wg : gy.WF) (hd : gy.dims = y.dims) :
    (∀ i, Valid (H.val x).dims i →
        y.at? i = if insideP (completeIndex (natRanges index) (H.val p).dims) (H.val p).dims i
          then (H.val p).at? (unshiftP (completeIndex (natRanges index) (H.val p).dims) i) else (H.val x).at? i) ∧
    (∃ r, evalRule bm H gy (.patchX p index) = .ok r ∧ r.dims = (H.val x).dims ∧ r.WF ∧
      ∀ i, Valid (H.val x).dims i →
        r.at? i = if insideP (completeIndex (natRanges index) (H.val p).dims) (H.val p).dims i
          then ((H.val p).at? (unshiftP (completeIndex (natRanges index) (H.val p).dims) i)).map
            (fun a => Scalar.mul Scalar.zero a)
          else gy.at? i) ∧
    (∃ r, evalRule bm H gy (.patchP p index) = .ok r ∧ r.dims = (H.val p).dims ∧ r.WF ∧
      ∀ j, Valid (H.val p).dims j →
        r.at? j = gy.at? (shiftIdx (completeIndex (natRanges index) (H.val p).dims) j)) := by
  obtain ⟨hv, hyd, -, hget⟩ := C04x.vPatch_get (H.val x) (H.val p) y wx wp index hf
  have hgd : gy.dims = (H.val x).dims := hd.trans hyd
  rw [← hgd] at hv
  refine ⟨hget, ?_, rule_patchP bm H gy p index wp wg hv⟩
  have := rule_patchX bm H gy p index wp wg hv
  rwa [hgd] at this

/-- **SumAlong / AvgAlong / MeanAlong tied to the forward call**: `y` the forward result of any `…Along(dim)` reduction,
    `gy` of `y`'s shape; the rule attached by `SumAlong` replicates `gy` along `dim`, the one attached by
    `AvgAlong` / `MeanAlong` replicates and scales by `1/n`. -/
theorem along_vjp (bm : BMode) (H : Heap α) (rd : Reducer) (x : Nat) (dim : Int) (y gy : Tensor α) (wx : (H.val x).WF)
    (hf : vAlong rd (H.val x) dim = .ok y) (wg : gy.WF) (hd : gy.dims = y.dims) :
    (∃ r, evalRule bm H gy (.sumAlongX x dim.toNat) = .ok r ∧ r.dims = (H.val x).dims ∧ r.WF ∧
      ∀ i, Valid (H.val x).dims i → r.at? i = gy.at? (i.eraseIdx dim.toNat)) ∧
    (∃ r, evalRule bm H gy (.avgAlongX x dim.toNat) = .ok r ∧ r.dims = (H.val x).dims ∧ r.WF ∧
      ∀ i, Valid (H.val x).dims i →
        r.at? i = (gy.at? (i.eraseIdx dim.toNat)).map
          (fun g => Scalar.mul (Scalar.div Scalar.one (Scalar.ofNat ((H.val x).dims.getD dim.toNat 0))) g)) := by
  have hv := valid_of_ok (C09.vAlong_total rd (H.val x) wx dim).2 hf
  obtain ⟨data, e⟩ := (C09.vAlong_total rd (H.val x) wx dim).1 hv
  rw [e] at hf
  injection hf with hf
  have hlt : dim.toNat < (H.val x).dims.length := (validDimLt_iff.1 hv).2
  have hgd : gy.dims = squeezeDims dim.toNat (H.val x).dims := by rw [hd, ← hf]
  exact ⟨rule_sumAlong bm H gy x dim.toNat wx hlt wg hgd, rule_avgAlong bm H gy x dim.toNat wx hlt wg hgd⟩

/-- **Transpose tied to the forward call**: `y = x.Transpose()`, `gy` of `y`'s shape: the rule returns a tensor of `x`'s
    shape with `r[i] = gy[i with the last two coordinates swapped]`, while `y[j] = x[j with the last two coordinates
    swapped]`. -/
theorem transpose_vjp (bm : BMode) (H : Heap α) (x y gy : Tensor α) (wx : x.WF) (hf : vTranspose x = .ok y)
    (wg : gy.WF) (hd : gy.dims = y.dims) :
    (∀ j, Valid y.dims j → y.at? j = x.at? (swapLast2 j)) ∧
    ∃ r, evalRule bm H gy .transposeX = .ok r ∧ r.dims = x.dims ∧ r.WF ∧
      ∀ i, Valid x.dims i → r.at? i = gy.at? (swapLast2 i) := by
  obtain ⟨hr, -, -, -⟩ := C04x.vTranspose_get x y wx hf
  -- the rule is the forward operation itself, so `rule_transpose` at `gy := x` describes `y`
  obtain ⟨y', e, hyd, -, hyget⟩ := rule_transpose bm H x wx hr
  obtain rfl : y' = y := Out.ok.inj (e.symm.trans hf)
  have hr' : 2 ≤ gy.dims.length := by
    rw [hd, hyd, ← transposeDims_eq, C04x.transposeDims_length]; exact hr
  obtain ⟨r, e', hrd, wr, hrget⟩ := rule_transpose bm H gy wg hr'
  have hrx : r.dims = x.dims := by rw [hrd, hd, hyd, swapLast2_swapLast2]
  exact ⟨hyget, r, e', hrx, wr, fun i hi => hrget i (hrx ▸ hi)⟩

end pairs

theorem valid_getD_lt : ∀ (dim : Nat) {ds j : List Nat}, Valid ds j → dim < ds.length → j.getD dim 0 < ds.getD dim 0
  | _, _, _, .nil, h => absurd h (Nat.not_lt_zero _)
  | 0, _, _, .cons hs _, _ => hs
  | dim + 1, _, _, .cons _ hv, h => valid_getD_lt dim hv (Nat.lt_of_succ_lt_succ h)

section concatEdges
variable [Scalar α]

/-- the `k`-th back edge `gradtrack.Concat` builds: target `xs[k]`, rule `Slice` with `From` = the sum of the sizes
    along `dim` of the operands before it and `To - From` = its own size -/
theorem concatEdges_get (H : Heap α) (dim : Nat) : ∀ (xs : List Nat) (b k : Nat) (hk : k < xs.length),
    (concatEdges H dim xs b)[k]? = some ⟨xs[k], .concatI (concatIndex (H.val xs[k]).dims.length dim
        (b + ((xs.take k).map (fun x => (H.val x).dims.getD dim 0)).sum) ((H.val xs[k]).dims.getD dim 0))⟩
  | [], _, _, hk => by simp at hk
  | x :: xs, b, 0, _ => by simp [concatEdges]
  | x :: xs, b, k + 1, hk => by
    have ih := concatEdges_get H dim xs (b + (H.val x).dims.getD dim 0) k (by simpa using hk)
    simp only [concatEdges, List.getElem?_cons_succ, ih, List.take_succ_cons, List.map_cons, List.sum_cons,
      List.getElem_cons_succ, Nat.add_assoc]

/-- **Concat, forward and backward together** — for every operand count ≥ 1, every rank ≥ 1, every `dim`: the result `y`
    holds operand `s` as one block, `y[j with base_s added at dim] = x_s[j]` (`base_s` = total size along `dim` of the
    operands before `x_s`), and the closure of the `s`-th edge (`concatEdges_get`) applied to an upstream gradient of `y`'s
    shape returns a well-formed tensor of `x_s`'s shape with `r[j] = gy[j with base_s added at dim]`: embed the block /
    select the block, a pair of mutually adjoint maps. -/
theorem concat_vjp (bm : BMode) (H : Heap α) (t0 : Tensor α) (ts : List (Tensor α)) (dim : Nat)
    (hdim : dim < t0.dims.length) (hwf : ∀ t ∈ t0 :: ts, t.WF)
    (hagree : ∀ t ∈ t0 :: ts, t.dims.length = t0.dims.length ∧ ∀ j, j ≠ dim → t.dims[j]? = t0.dims[j]?) :
    ∃ y, concatRaw (t0 :: ts) dim = some y ∧
      y.dims = t0.dims.set dim ((t0 :: ts).map (fun t => t.dims.getD dim 0)).sum ∧
      ∀ (s : Nat) (hs : s < (t0 :: ts).length),
        (∀ j, Valid ((t0 :: ts)[s]).dims j →
          y.at? (addAt dim ((((t0 :: ts).map (fun t => t.dims.getD dim 0)).take s).sum) j) = ((t0 :: ts)[s]).at? j) ∧
        ∀ gy : Tensor α, gy.WF → gy.dims = y.dims →
          ∃ r, evalRule bm H gy (.concatI (concatIndex ((t0 :: ts)[s]).dims.length dim
              ((((t0 :: ts).map (fun t => t.dims.getD dim 0)).take s).sum) (((t0 :: ts)[s]).dims.getD dim 0))) = .ok r ∧
            r.dims = ((t0 :: ts)[s]).dims ∧ r.WF ∧
            ∀ j, Valid ((t0 :: ts)[s]).dims j →
              r.at? j = gy.at? (addAt dim ((((t0 :: ts).map (fun t => t.dims.getD dim 0)).take s).sum) j) := by
  obtain ⟨data, e, -, -⟩ := C06.concat_get t0 ts dim hdim hwf hagree
  generalize hlens : (t0 :: ts).map (fun t => t.dims.getD dim 0) = lens at e ⊢
  refine ⟨⟨t0.dims.set dim lens.sum, data⟩, e, rfl, ?_⟩
  intro s hs
  generalize hxs : (t0 :: ts)[s] = xs
  have hk : (t0 :: ts)[s]? = some xs := by rw [List.getElem?_eq_getElem hs, hxs]
  obtain ⟨wy, hsl⟩ := C04x.slice_of_concatRaw t0 ts dim hdim hwf hagree _ e s xs hk
  rw [List.map_take, hlens] at hsl
  have hmem : xs ∈ t0 :: ts := by rw [← hxs]; exact List.getElem_mem _
  obtain ⟨hl, hag⟩ := hagree xs hmem
  have hdx : dim < xs.dims.length := by omega
  have hxd : xs.dims = t0.dims.set dim (xs.dims.getD dim 0) := by
    have h1 := eq_rdimsOf dim t0.dims xs.dims hl hdim hag
    rwa [rdimsOf_set dim t0.dims _ hdim] at h1
  have hpos : 0 < xs.dims.getD dim 0 := by
    rw [List.getD_eq_getElem?_getD, List.getElem?_eq_getElem hdx]
    exact (hwf xs hmem).2 _ (List.getElem_mem _)
  have hle : (lens.take s).sum + xs.dims.getD dim 0 ≤ lens.sum := by
    have := C04x.take_sum_le lens s
    rwa [← hlens, List.getD_eq_getElem?_getD, List.getElem?_map, hk, hlens] at this
  have hback : ∀ gy : Tensor α, gy.WF → gy.dims = t0.dims.set dim lens.sum →
      ∃ r, evalRule bm H gy (.concatI (concatIndex xs.dims.length dim (lens.take s).sum (xs.dims.getD dim 0))) = .ok r ∧
        r.dims = xs.dims ∧ r.WF ∧ ∀ j, Valid xs.dims j → r.at? j = gy.at? (addAt dim (lens.take s).sum j) := by
    intro gy wg hgd
    have hdg : dim < gy.dims.length := by rw [hgd, List.length_set]; exact hdim
    have hb : (lens.take s).sum + xs.dims.getD dim 0 ≤ gy.dims.getD dim 0 := by
      have : (t0.dims.set dim lens.sum).getD dim 0 = lens.sum := by
        rw [List.getD_eq_getElem?_getD, List.getElem?_set_self hdim]; rfl
      rw [hgd, this]; exact hle
    have h := rule_concat bm H gy dim (lens.take s).sum (xs.dims.getD dim 0) wg hpos hdg hb
    have hrx : gy.dims.set dim (xs.dims.getD dim 0) = xs.dims := by rw [hgd, List.set_set]; exact hxd.symm
    have hgl : gy.dims.length = xs.dims.length := by rw [hgd, List.length_set, hl]
    rwa [hrx, hgl] at h
  refine ⟨fun j hj => ?_, hback⟩
  -- forward: slicing `y` itself with that index gives back `x_s` (`C04x.slice_of_concatRaw`)
  obtain ⟨r, e', -, -, hrget⟩ := hback _ wy rfl
  obtain rfl : r = xs := Out.ok.inj (e'.symm.trans hsl)
  exact (hrget j hj).symm

end concatEdges

theorem real_zero_mul (a : ℝ) : Scalar.mul (Scalar.zero : ℝ) a = 0 := by
  rw [RealScalar.mul_eq, RealScalar.zero_eq, zero_mul]

theorem rule_slice_real (bm : BMode) (H : Heap ℝ) (gy : Tensor ℝ) (x : Nat) (index : List IRange) (wx : (H.val x).WF)
    (hv : validSliceIndex index (H.val x).dims = true) (wg : gy.WF)
    (hd : gy.dims = sliceDims (completeIndex (natRanges index) (H.val x).dims)) :
    ∃ r, evalRule bm H gy (.sliceX x index) = .ok r ∧ r.dims = (H.val x).dims ∧ r.WF ∧
      ∀ i, Valid (H.val x).dims i →
        r.at? i = if inWin (completeIndex (natRanges index) (H.val x).dims) i
          then gy.at? (unshiftP (completeIndex (natRanges index) (H.val x).dims) i) else some 0 :=
  rule_slice_zero real_zero_mul bm H gy x index wx hv wg hd

theorem rule_patchX_real (bm : BMode) (H : Heap ℝ) (gy : Tensor ℝ) (p : Nat) (index : List IRange) (wp : (H.val p).WF)
    (wg : gy.WF) (hv : validPatchIndex index (H.val p).dims gy.dims = true) :
    ∃ r, evalRule bm H gy (.patchX p index) = .ok r ∧ r.dims = gy.dims ∧ r.WF ∧
      ∀ i, Valid gy.dims i →
        r.at? i = if insideP (completeIndex (natRanges index) (H.val p).dims) (H.val p).dims i
          then some 0 else gy.at? i :=
  rule_patchX_zero real_zero_mul bm H gy p index wp wg hv

theorem rule_avgAlong_real (bm : BMode) (H : Heap ℝ) (gy : Tensor ℝ) (x dim : Nat) (wx : (H.val x).WF)
    (hdim : dim < (H.val x).dims.length) (wg : gy.WF) (hd : gy.dims = squeezeDims dim (H.val x).dims) :
    ∃ r, evalRule bm H gy (.avgAlongX x dim) = .ok r ∧ r.dims = (H.val x).dims ∧ r.WF ∧
      ∀ i, Valid (H.val x).dims i →
        r.at? i = (gy.at? (i.eraseIdx dim)).map (fun g => 1 / ((H.val x).dims.getD dim 0 : ℝ) * g) := by
  obtain ⟨r, e, hdims, wf, hget⟩ := rule_avgAlong bm H gy x dim wx hdim wg hd
  refine ⟨r, e, hdims, wf, fun i hi => ?_⟩
  rw [hget i hi, RealScalar.one_eq]
  rfl

noncomputable def inner (a b : Tensor ℝ) : ℝ :=
  ∑ k ∈ Finset.range (prod a.dims), (a.data[k]?).getD 0 * (b.data[k]?).getD 0

/-- big-endian multi-index of row-major position `k` -/
def idxOf (D : List Nat) (k : Nat) : List Nat := (iterN (incr D.reverse) k (zerosLike D.reverse)).reverse
/-- row-major position of a big-endian multi-index -/
def posOf (D i : List Nat) : Nat := val D.reverse i.reverse

theorem valid_idxOf {D : List Nat} (h : ∀ d ∈ D, 0 < d) (k : Nat) : Valid D (idxOf D k) := by
  have := valid_reverse (valid_iter (pos_reverse h) k)
  simpa [idxOf] using this

theorem posOf_lt {D i : List Nat} (hv : Valid D i) : posOf D i < prod D := by
  have := val_lt (valid_reverse hv)
  rwa [prod_reverse] at this

theorem posOf_idxOf {D : List Nat} (h : ∀ d ∈ D, 0 < d) {k : Nat} (hk : k < prod D) : posOf D (idxOf D k) = k := by
  unfold posOf idxOf
  rw [List.reverse_reverse, val_iter (pos_reverse h) k, prod_reverse, Nat.mod_eq_of_lt hk]

theorem idxOf_posOf {D i : List Nat} (h : ∀ d ∈ D, 0 < d) (hv : Valid D i) : idxOf D (posOf D i) = i := by
  unfold posOf idxOf
  rw [iter_val (pos_reverse h) (valid_reverse hv), List.reverse_reverse]

theorem posOf_inj {D i j : List Nat} (hi : Valid D i) (hj : Valid D j) (h : posOf D i = posOf D j) : i = j := by
  have := val_inj (valid_reverse hi) (valid_reverse hj) h
  simpa using congrArg List.reverse this

theorem at?_idxOf (t : Tensor α) (hwf : t.WF) {k : Nat} (hk : k < prod t.dims) : t.at? (idxOf t.dims k) = t.data[k]? := by
  rw [t.at?_of_valid (valid_idxOf hwf.2 k)]
  have := posOf_idxOf hwf.2 hk
  unfold posOf at this
  rw [this]

theorem inBlock_of_valid : ∀ {W j}, Valid (sliceDims W) j → InBlock W j
  | [], _, h => by cases h; exact .nil
  | (f, t) :: W, _, h => by
    simp only [sliceDims, List.map_cons] at h
    cases h with
    | cons hj hv => exact .cons hj (inBlock_of_valid hv)

theorem valid_of_inBlock : ∀ {W j}, InBlock W j → Valid (sliceDims W) j
  | _, _, .nil => .nil
  | _, _, .cons hj hb => by
    simp only [sliceDims, List.map_cons]
    exact .cons hj (valid_of_inBlock hb)

theorem valid_shiftIdx : ∀ {W ds j}, Fits W ds → InBlock W j → Valid ds (shiftIdx W j)
  | _, _, _, .nil, .nil => .nil
  | _, _, _, .cons htd hfit, .cons hj hb => by
    simp only [shiftIdx]
    exact .cons (by omega) (valid_shiftIdx hfit hb)

theorem foldl_add_range (f : ℕ → ℝ) : ∀ n : ℕ,
    (List.range n).foldl (fun s p => Scalar.add s (f p)) (Scalar.zero : ℝ) = ∑ p ∈ Finset.range n, f p
  | 0 => by simp
  | n + 1 => by
    rw [List.range_succ, List.foldl_append, foldl_add_range f n, Finset.sum_range_succ]
    simp only [List.foldl_cons, List.foldl_nil, RealScalar.add_eq]

theorem el_eq_getD (t : Tensor ℝ) (u : List Nat) : t.el u = (t.at? u).getD 0 := by
  unfold Tensor.el; rw [RealScalar.zero_eq]

theorem sumOver_eq_sum (n : Nat) (f : ℕ → ℝ) : sumOver n f = ∑ k ∈ Finset.range n, f k := by
  unfold sumOver
  rw [List.foldl_map]
  exact foldl_add_range f n

/-- `Σ f i` over the valid indices `i` of `D`, enumerated by row-major position. The rules are specified index by index
    and `inner` by position; `inner_eq_idxSum` passes to indices, and the three lemmas after it move such a sum along
    the index maps of the operations (a bijection, an embedding, the removal of one coordinate). -/
noncomputable def idxSum (D : List Nat) (f : List Nat → ℝ) : ℝ := ∑ k ∈ Finset.range (prod D), f (idxOf D k)

theorem idxSum_congr {D : List Nat} (hD : ∀ d ∈ D, 0 < d) {f g : List Nat → ℝ} (h : ∀ i, Valid D i → f i = g i) :
    idxSum D f = idxSum D g :=
  Finset.sum_congr rfl fun k _ => h _ (valid_idxOf hD k)

theorem inner_eq_idxSum (a b : Tensor ℝ) (wa : a.WF) (wb : b.WF) (hd : b.dims = a.dims) :
    inner a b = idxSum a.dims fun i => (a.at? i).getD 0 * (b.at? i).getD 0 := by
  unfold inner idxSum
  refine Finset.sum_congr rfl fun k hk => ?_
  have hk' := Finset.mem_range.mp hk
  beta_reduce
  rw [at?_idxOf a wa hk', ← hd, at?_idxOf b wb (by rw [hd]; exact hk')]

theorem idxSum_embed {D D' : List Nat} (hD : ∀ d ∈ D, 0 < d) (hD' : ∀ d ∈ D', 0 < d) (φ ψ : List Nat → List Nat)
    (hφ : ∀ i, Valid D i → Valid D' (φ i)) (hl : ∀ i, Valid D i → ψ (φ i) = i) (f : List Nat → ℝ)
    (hout : ∀ j, Valid D' j → (∀ i, Valid D i → φ i ≠ j) → f j = 0) :
    idxSum D (fun i => f (φ i)) = idxSum D' f := by
  unfold idxSum
  refine Finset.sum_of_injOn (fun k => posOf D' (φ (idxOf D k))) ?_ ?_ ?_ ?_
  · intro k hk k' hk' h
    have h1 := congrArg ψ (posOf_inj (hφ _ (valid_idxOf hD k)) (hφ _ (valid_idxOf hD k')) h)
    rw [hl _ (valid_idxOf hD k), hl _ (valid_idxOf hD k')] at h1
    have h2 := congrArg (posOf D) h1
    rwa [posOf_idxOf hD (Finset.mem_range.mp hk), posOf_idxOf hD (Finset.mem_range.mp hk')] at h2
  · intro k _
    exact Finset.mem_range.mpr (posOf_lt (hφ _ (valid_idxOf hD k)))
  · intro j hj hnot
    refine hout _ (valid_idxOf hD' j) fun i hi hne => hnot ⟨posOf D i, Finset.mem_range.mpr (posOf_lt hi), ?_⟩
    show posOf D' (φ (idxOf D (posOf D i))) = j
    rw [idxOf_posOf hD hi, hne, posOf_idxOf hD' (Finset.mem_range.mp hj)]
  · intro k _
    rw [idxOf_posOf hD' (hφ _ (valid_idxOf hD k))]

theorem idxSum_bij {D D' : List Nat} (hD : ∀ d ∈ D, 0 < d) (hD' : ∀ d ∈ D', 0 < d) (φ ψ : List Nat → List Nat)
    (hφ : ∀ i, Valid D i → Valid D' (φ i)) (hψ : ∀ j, Valid D' j → Valid D (ψ j))
    (hl : ∀ i, Valid D i → ψ (φ i) = i) (hr : ∀ j, Valid D' j → φ (ψ j) = j) (f : List Nat → ℝ) :
    idxSum D (fun i => f (φ i)) = idxSum D' f :=
  idxSum_embed hD hD' φ ψ hφ hl f fun j hj hne => absurd (hr j hj) (hne _ (hψ j hj))

theorem sum_range_mul (f : ℕ → ℝ) (b : ℕ) : ∀ a : ℕ,
    ∑ x ∈ Finset.range (a * b), f x = ∑ i ∈ Finset.range a, ∑ j ∈ Finset.range b, f (i * b + j)
  | 0 => by simp
  | a + 1 => by
    rw [Nat.succ_mul, Finset.sum_range_add, sum_range_mul f b a, Finset.sum_range_succ]

theorem posOf_append {A B a b : List Nat} (ha : Valid A a) (hb : Valid B b) :
    posOf (A ++ B) (a ++ b) = posOf A a * prod B + posOf B b := by
  unfold posOf
  rw [List.reverse_append, List.reverse_append, val_app _ _ (by simp [hb.length_eq]), prod_reverse]
  ring

theorem idxSum_append {A B : List Nat} (hA : ∀ d ∈ A, 0 < d) (hB : ∀ d ∈ B, 0 < d) (f : List Nat → ℝ) :
    idxSum (A ++ B) f = idxSum A fun a => idxSum B fun b => f (a ++ b) := by
  have hAB : ∀ d ∈ A ++ B, 0 < d := fun d hd => (List.mem_append.mp hd).elim (hA d) (hB d)
  unfold idxSum
  rw [prod_append, sum_range_mul]
  refine Finset.sum_congr rfl fun qa ha => Finset.sum_congr rfl fun qb hb => ?_
  have h := posOf_append (valid_idxOf hA qa) (valid_idxOf hB qb)
  rw [posOf_idxOf hA (Finset.mem_range.mp ha), posOf_idxOf hB (Finset.mem_range.mp hb)] at h
  rw [← h, idxOf_posOf hAB (valid_app (valid_idxOf hA qa) (valid_idxOf hB qb))]

theorem idxSum_single (n : Nat) (hn : 0 < n) (f : List Nat → ℝ) : idxSum [n] f = ∑ p ∈ Finset.range n, f [p] := by
  have hD : ∀ d ∈ [n], 0 < d := fun d hd => by rw [List.mem_singleton.mp hd]; exact hn
  unfold idxSum
  rw [show prod [n] = n by simp [prod]]
  refine Finset.sum_congr rfl fun p hp => ?_
  have hv : Valid [n] [p] := .cons (Finset.mem_range.mp hp) .nil
  rw [← idxOf_posOf hD hv, show posOf [n] [p] = p by simp [posOf, val]]

/-- **Reshape family is adjoint to its rule** (over ℝ): for a direction `dx` of `x`'s shape and an upstream gradient `gy`
    of `y`'s shape, `⟨forward dx, gy⟩ = ⟨dx, rule gy⟩` — the defining property of the vector-Jacobian product of a
    linear map. (Both sides are `Σ_k dx_k · gy_k`: forward and rule keep the row-major order.) -/
theorem adjoint_reshape (bm : BMode) (H : Heap ℝ) (o : ReshapeOp) (x : Nat) (dx y gy r : Tensor ℝ)
    (wd : dx.WF) (hdx : dx.dims = (H.val x).dims) (wx : (H.val x).WF) (hf : o.fwd dx = .ok y) (wg : gy.WF)
    (hd : gy.dims = y.dims) (hr : evalRule bm H gy (.reshapeX x) = .ok r) :
    inner y gy = inner dx r := by
  obtain ⟨e1, e2⟩ := reshape_fwd o dx y wd hf
  rw [rule_reshape bm H gy x wg wx (by rw [hd, e2, hdx])] at hr
  injection hr with hr
  subst hr
  simp only [inner, e1, e2]

/-- **Transpose is adjoint to its rule** (over ℝ): for a direction `dx` and an upstream gradient `gy` of the transposed
    shape, `Σ_k (dx.Transpose())_k · gy_k = Σ_j dx_j · (gy.Transpose())_j`, i.e. `⟨f dx, gy⟩ = ⟨dx, rule gy⟩`: the closure
    `gy ↦ gy.Transpose()` of `gradtrack.Transpose` is the transpose (adjoint) of the linear forward map, hence its
    vector-Jacobian product. Every rank ≥ 2, all sizes. -/
theorem adjoint_transpose (bm : BMode) (H : Heap ℝ) (dx gy y r : Tensor ℝ) (wd : dx.WF) (hrk : 2 ≤ dx.dims.length)
    (wg : gy.WF) (hd : gy.dims = transposeDims dx.dims) (hf : vTranspose dx = .ok y)
    (hr : evalRule bm H gy .transposeX = .ok r) : inner y gy = inner dx r := by
  obtain ⟨-, hyd, wy, -⟩ := C04x.vTranspose_get dx y wd hf
  have hgy : gy.dims = y.dims := hd.trans hyd.symm
  obtain ⟨hyget, r', e', hrd, wr, hrget⟩ := transpose_vjp bm H dx y gy wd hf wg hgy
  obtain rfl : r' = r := Out.ok.inj (e'.symm.trans hr)
  have hyd' : y.dims = swapLast2 dx.dims := hyd.trans (transposeDims_eq _)
  have hsw : ∀ i, Valid dx.dims i → Valid y.dims (swapLast2 i) := fun i hi => by
    rw [hyd']; exact valid_swapLast2 hi
  rw [inner_eq_idxSum y gy wy wg hgy, inner_eq_idxSum dx r' wd wr hrd]
  symm
  -- both sums run over the same products, indexed by `i` on one side and by `swapLast2 i` on the other
  refine (idxSum_congr wd.2 fun i hi => ?_).trans (idxSum_bij wd.2 wy.2 swapLast2 swapLast2 hsw ?_
    (fun i _ => swapLast2_swapLast2 i) (fun j _ => swapLast2_swapLast2 j) _)
  · show _ = (y.at? (swapLast2 i)).getD 0 * (gy.at? (swapLast2 i)).getD 0
    rw [hrget i hi, hyget _ (hsw i hi), swapLast2_swapLast2]
  · intro j hj
    have := valid_swapLast2 hj
    rwa [hyd', swapLast2_swapLast2] at this

/-- **Slice is adjoint to its rule** (over ℝ): for a direction `dx` of `x`'s shape and an upstream gradient `gy` of the
    block's shape, `⟨dx.Slice(index), gy⟩ = ⟨dx, toZeros(x).Patch(index, gy)⟩`, i.e. `⟨f dx, gy⟩ = ⟨dx, rule gy⟩`: the
    closure of `gradtrack.Slice` is the transpose of the linear forward map, hence its vector-Jacobian product. Every
    rank, every accepted index (explicit, omitted and `{0,0}` ranges). -/
theorem adjoint_slice (bm : BMode) (H : Heap ℝ) (x : Nat) (index : List IRange) (dx y gy r : Tensor ℝ)
    (wd : dx.WF) (hdx : dx.dims = (H.val x).dims) (wx : (H.val x).WF) (hf : vSlice dx index = .ok y) (wg : gy.WF)
    (hd : gy.dims = y.dims) (hr : evalRule bm H gy (.sliceX x index) = .ok r) : inner y gy = inner dx r := by
  obtain ⟨hv, hyd, hyl, hyget⟩ := vSlice_get dx y wd index hf
  have hfit := C06.fits_complete (C09.rangesOK_of_valid index dx.dims hv)
  rw [hdx] at hv
  generalize hW : completeIndex (natRanges index) dx.dims = W at hfit hyd hyget
  have hgd : gy.dims = sliceDims W := hd.trans hyd
  have hposB : ∀ d ∈ sliceDims W, 0 < d := hgd ▸ wg.2
  have wy : y.WF := ⟨hyl, by rw [hyd]; exact hposB⟩
  obtain ⟨r', e', hrd, wr, hrget⟩ := rule_slice_real bm H gy x index wx hv wg (by rw [← hdx, hW]; exact hgd)
  obtain rfl : r' = r := Out.ok.inj (e'.symm.trans hr)
  rw [← hdx, hW] at hrget
  rw [← hdx] at hrd
  rw [inner_eq_idxSum y gy wy wg hd, inner_eq_idxSum dx r' wd wr hrd, hyd]
  -- `shiftIdx W` embeds the block's indices into those of `dx`; off the window the rule's result is 0
  refine (idxSum_congr hposB fun j hj => ?_).trans (idxSum_embed hposB wd.2 (shiftIdx W) (unshiftP W)
    (fun j hj => valid_shiftIdx hfit (inBlock_of_valid hj)) (fun j hj => (window_of_block (inBlock_of_valid hj)).2) _ ?_)
  · have hb := inBlock_of_valid hj
    show _ = (dx.at? (shiftIdx W j)).getD 0 * (r'.at? (shiftIdx W j)).getD 0
    rw [hyget j hb, hrget _ (valid_shiftIdx hfit hb), (window_of_block hb).1, if_pos rfl, (window_of_block hb).2]
  · intro i hi hne
    show (dx.at? i).getD 0 * (r'.at? i).getD 0 = 0
    rw [hrget i hi]
    by_cases hin : inWin W i = true
    · obtain ⟨hb, hs⟩ := block_of_window hfit hi hin
      exact absurd hs (hne _ (valid_of_inBlock hb))
    · rw [if_neg hin, Option.getD_some, mul_zero]

theorem eraseIdx_insLE : ∀ (dim k : Nat) (u : List Nat), dim ≤ u.length → (insLE dim k u).eraseIdx dim = u
  | 0, _, _, _ => rfl
  | _ + 1, _, [], h => absurd h (Nat.not_succ_le_zero _)
  | dim + 1, k, x :: u, h => congrArg (x :: ·) (eraseIdx_insLE dim k u (Nat.le_of_succ_le_succ h))

theorem getD_insLE : ∀ (dim k : Nat) (u : List Nat), dim ≤ u.length → (insLE dim k u).getD dim 0 = k
  | 0, _, _, _ => rfl
  | _ + 1, _, [], h => absurd h (Nat.not_succ_le_zero _)
  | dim + 1, k, _ :: u, h => getD_insLE dim k u (Nat.le_of_succ_le_succ h)

theorem insLE_eraseIdx : ∀ (dim : Nat) (i : List Nat), dim < i.length → insLE dim (i.getD dim 0) (i.eraseIdx dim) = i
  | _, [], h => absurd h (Nat.not_lt_zero _)
  | 0, _ :: _, _ => rfl
  | dim + 1, x :: i, h => congrArg (x :: ·) (insLE_eraseIdx dim i (Nat.lt_of_succ_lt_succ h))

theorem squeezeDims_succ (dim d : Nat) (ds : List Nat) : squeezeDims (dim + 1) (d :: ds) = d :: squeezeDims dim ds :=
  rfl

theorem valid_insLE_be : ∀ (dim k : Nat) {A u : List Nat}, dim < A.length → Valid (squeezeDims dim A) u →
    k < A.getD dim 0 → Valid A (insLE dim k u)
  | _, _, [], _, h, _, _ => absurd h (Nat.not_lt_zero _)
  | 0, _, _ :: _, _, _, hv, hk => .cons hk hv
  | dim + 1, k, d :: ds, u, h, hv, hk => by
    rw [squeezeDims_succ] at hv
    cases hv with
    | cons hx hv' => exact .cons hx (valid_insLE_be dim k (Nat.lt_of_succ_lt_succ h) hv' hk)

theorem valid_eraseIdx : ∀ (dim : Nat) {A i : List Nat}, dim < A.length → Valid A i →
    Valid (squeezeDims dim A) (i.eraseIdx dim)
  | _, _, _, h, .nil => absurd h (Nat.not_lt_zero _)
  | 0, _, _, _, .cons _ hv => hv
  | dim + 1, _, _, h, .cons hs hv => by
    rw [squeezeDims_succ, List.eraseIdx_cons_succ]
    exact .cons hs (valid_eraseIdx dim (Nat.lt_of_succ_lt_succ h) hv)

theorem mem_squeezeDims {dim d : Nat} {D : List Nat} (h : d ∈ squeezeDims dim D) : d ∈ D := by
  rcases List.mem_append.mp h with h | h
  · exact List.mem_of_mem_take h
  · exact List.mem_of_mem_drop h

theorem idxSum_insert {D : List Nat} (hD : ∀ d ∈ D, 0 < d) (dim : Nat) (hdim : dim < D.length) (f : List Nat → ℝ) :
    idxSum D f = idxSum (squeezeDims dim D) fun u => ∑ k ∈ Finset.range (D.getD dim 0), f (insLE dim k u) := by
  have hB : ∀ d ∈ squeezeDims dim D, 0 < d := fun d hd => hD d (mem_squeezeDims hd)
  have hle : ∀ j, dim ≤ (idxOf (squeezeDims dim D) j).length := fun j => by
    rw [(valid_idxOf hB j).length_eq, squeezeDims_length dim D hdim]; omega
  have hins : ∀ j k, k < D.getD dim 0 → Valid D (insLE dim k (idxOf (squeezeDims dim D) j)) :=
    fun j k hk => valid_insLE_be dim k hdim (valid_idxOf hB j) hk
  have hera : ∀ i, Valid (squeezeDims dim D) ((idxOf D i).eraseIdx dim) :=
    fun i => valid_eraseIdx dim hdim (valid_idxOf hD i)
  unfold idxSum
  rw [← Finset.sum_product' (Finset.range (prod (squeezeDims dim D))) (Finset.range (D.getD dim 0))
    (fun j k => f (insLE dim k (idxOf (squeezeDims dim D) j)))]
  symm
  apply Finset.sum_nbij' (fun p : ℕ × ℕ => posOf D (insLE dim p.2 (idxOf (squeezeDims dim D) p.1)))
    (fun i => (posOf (squeezeDims dim D) ((idxOf D i).eraseIdx dim), (idxOf D i).getD dim 0))
  · intro p hp
    simp only [Finset.mem_product, Finset.mem_range] at hp ⊢
    exact posOf_lt (hins p.1 p.2 hp.2)
  · intro i _
    simp only [Finset.mem_product, Finset.mem_range]
    exact ⟨posOf_lt (hera i), valid_getD_lt dim (valid_idxOf hD i) hdim⟩
  · intro p hp
    simp only [Finset.mem_product, Finset.mem_range] at hp
    refine Prod.ext ?_ ?_
    · show posOf _ ((idxOf D (posOf D (insLE dim p.2 (idxOf (squeezeDims dim D) p.1)))).eraseIdx dim) = p.1
      rw [idxOf_posOf hD (hins p.1 p.2 hp.2), eraseIdx_insLE _ _ _ (hle p.1), posOf_idxOf hB hp.1]
    · show (idxOf D (posOf D (insLE dim p.2 (idxOf (squeezeDims dim D) p.1)))).getD dim 0 = p.2
      rw [idxOf_posOf hD (hins p.1 p.2 hp.2), getD_insLE _ _ _ (hle p.1)]
  · intro i hi
    show posOf D (insLE dim ((idxOf D i).getD dim 0)
      (idxOf (squeezeDims dim D) (posOf (squeezeDims dim D) ((idxOf D i).eraseIdx dim)))) = i
    rw [idxOf_posOf hB (hera i), insLE_eraseIdx _ _ (by rw [(valid_idxOf hD i).length_eq]; exact hdim),
      posOf_idxOf hD (Finset.mem_range.mp hi)]
  · intro p hp
    simp only [Finset.mem_product, Finset.mem_range] at hp
    rw [idxOf_posOf hD (hins p.1 p.2 hp.2)]

/-- **SumAlong is adjoint to its rule** (over ℝ): for a direction `dx` of `x`'s shape and an upstream gradient `gy` of the
    reduced shape, `⟨dx.SumAlong(dim), gy⟩ = ⟨dx, reducerBroadcasted(gy, x, dim)⟩`, i.e. `⟨f dx, gy⟩ = ⟨dx, rule gy⟩`:
    replication along `dim` is the transpose of summation along `dim`, so the closure of `gradtrack.SumAlong` is the
    vector-Jacobian product of the forward map. Every rank ≥ 1, every `dim`, all sizes. -/
theorem adjoint_sumAlong (bm : BMode) (H : Heap ℝ) (x : Nat) (dim : Int) (dx y gy r : Tensor ℝ)
    (wd : dx.WF) (hdx : dx.dims = (H.val x).dims) (wx : (H.val x).WF) (hf : vAlong .sum dx dim = .ok y) (wg : gy.WF)
    (hd : gy.dims = y.dims) (hr : evalRule bm H gy (.sumAlongX x dim.toNat) = .ok r) : inner y gy = inner dx r := by
  have hv := valid_of_ok (C09.vAlong_total .sum dx wd dim).2 hf
  have hlt : dim.toNat < dx.dims.length ∧ ((dim.toNat : Nat) : Int) = dim :=
    ⟨(validDimLt_iff.1 hv).2, Int.toNat_of_nonneg (validDimLt_iff.1 hv).1⟩
  obtain ⟨y', ey, wy, hyd, hyel⟩ := sumAlong_el dx wd dim.toNat hlt.1
  rw [hlt.2, hf] at ey
  obtain rfl : y = y' := Out.ok.inj ey
  have hgd : gy.dims = squeezeDims dim.toNat dx.dims := hd.trans hyd
  have hB : ∀ d ∈ squeezeDims dim.toNat dx.dims, 0 < d := hgd ▸ wg.2
  obtain ⟨r', e', hrd, wr, hrget⟩ := rule_sumAlong bm H gy x dim.toNat wx (hdx ▸ hlt.1) wg (hdx ▸ hgd)
  obtain rfl : r' = r := Out.ok.inj (e'.symm.trans hr)
  rw [← hdx] at hrd hrget
  rw [inner_eq_idxSum y gy wy wg hd, inner_eq_idxSum dx r' wd wr hrd, hyd, idxSum_insert wd.2 dim.toNat hlt.1]
  refine idxSum_congr hB fun u hu => ?_
  have hul : dim.toNat ≤ u.length := by rw [hu.length_eq, squeezeDims_length _ _ hlt.1]; omega
  -- forward: `y[u] = Σ_k dx[u with k at dim]`; backward: `r[u with k at dim] = gy[u]` for every `k`
  have hy : (y.at? u).getD 0 = ∑ k ∈ Finset.range (dx.dims.getD dim.toNat 0), (dx.at? (insLE dim.toNat k u)).getD 0 := by
    have h := hyel u hu
    rw [sumOver_eq_sum, el_eq_getD] at h
    refine h.trans (Finset.sum_congr rfl fun k _ => ?_)
    rw [insLE_eq dim.toNat k u hul, el_eq_getD]; rfl
  rw [hy, Finset.sum_mul]
  refine Finset.sum_congr rfl fun k hk => ?_
  rw [hrget _ (valid_insLE_be dim.toNat k hlt.1 hu (Finset.mem_range.mp hk)), eraseIdx_insLE _ _ _ hul]

/-! ## Non-vacuity (kernel-checked on the `Scalar Int` instance)

A heap with a [3,3] tensor (node 0) and a [2,2] tensor (node 1); every rule above evaluated on a concrete upstream
gradient, with the result the theorems predict. -/

def exHeap : Heap Int := #[⟨⟨[3, 3], [1, 2, 3, 4, 5, 6, 7, 8, 9]⟩, {}⟩, ⟨⟨[2, 2], [1, 2, 3, 4]⟩, {}⟩]

example : evalRule .sum exHeap ⟨[9], [1, 2, 3, 4, 5, 6, 7, 8, 9]⟩ (.reshapeX 0) = .ok ⟨[3, 3], [1, 2, 3, 4, 5, 6, 7, 8, 9]⟩ := by
  decide +kernel
example : evalRule .sum exHeap ⟨[2, 3], [1, 2, 3, 4, 5, 6]⟩ .transposeX = .ok ⟨[3, 2], [1, 4, 2, 5, 3, 6]⟩ := by decide +kernel
example : evalRule .sum exHeap ⟨[3], [10, 20, 30]⟩ (.sumAlongX 0 1) = .ok ⟨[3, 3], [10, 10, 10, 20, 20, 20, 30, 30, 30]⟩ ∧
    evalRule .sum exHeap ⟨[3], [10, 20, 30]⟩ (.sumAlongX 0 0) = .ok ⟨[3, 3], [10, 20, 30, 10, 20, 30, 10, 20, 30]⟩ := by decide +kernel
/-- Slice rows 1..3 (partial index) / columns 1..3 (`{0,0}` first): the block embedded into zeros -/
example : evalRule .sum exHeap ⟨[2, 3], [10, 20, 30, 40, 50, 60]⟩ (.sliceX 0 [(1, 3)])
      = .ok ⟨[3, 3], [0, 0, 0, 10, 20, 30, 40, 50, 60]⟩ ∧
    evalRule .sum exHeap ⟨[3, 2], [10, 20, 30, 40, 50, 60]⟩ (.sliceX 0 [(0, 0), (1, 3)])
      = .ok ⟨[3, 3], [0, 10, 20, 0, 30, 40, 0, 50, 60]⟩ := by decide +kernel
/-- Patch of node 1 at rows 1..3 (columns: omitted, offset 0): towards the target the block is zeroed, towards the
    source the block is selected -/
example : evalRule .sum exHeap ⟨[3, 3], [1, 2, 3, 4, 5, 6, 7, 8, 9]⟩ (.patchX 1 [(1, 3)])
      = .ok ⟨[3, 3], [1, 2, 3, 0, 0, 6, 0, 0, 9]⟩ ∧
    evalRule .sum exHeap ⟨[3, 3], [1, 2, 3, 4, 5, 6, 7, 8, 9]⟩ (.patchP 1 [(1, 3)]) = .ok ⟨[2, 2], [4, 5, 7, 8]⟩ ∧
    evalRule .sum exHeap ⟨[3, 3], [1, 2, 3, 4, 5, 6, 7, 8, 9]⟩ (.patchP 1 [(0, 0), (1, 3)]) = .ok ⟨[2, 2], [2, 3, 5, 6]⟩ := by
  decide +kernel
example : evalRule .sum exHeap ⟨[3, 3], [1, 2, 3, 4, 5, 6, 7, 8, 9]⟩ (.concatI (concatIndex 2 1 1 2))
    = .ok ⟨[3, 2], [2, 3, 5, 6, 8, 9]⟩ := by decide +kernel

end C02x
end Qeep
