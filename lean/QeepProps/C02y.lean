import QeepProps.C02x
import QeepProps.C04x
import QeepProps.C05x
import QeepProofs.Calculus
import QeepProofs.Real
/-!
# C02 (contraction and reduction family) — MatMul, Dot, MaxAlong / MinAlong, VarAlong / StdAlong

Property C02: "each operation's backward rule is the vector-Jacobian product (VJP) of its forward function".
`QeepProps.C02` has the element-wise rules (as derivatives), `QeepProps.C02x` the linear structural rules (as adjoints).
This file has the remaining non-element-wise closures of `tensor/internal/gradtrack/gradients.go`; each theorem is about
`Qeep.evalRule bm H gy rule`, the body of one Go `gradFn` closure. Index conventions as in `C04x`: big-endian multi-indices,
`el t idx` = the element at `idx` (zero outside), `inner a b = Σ_k a_k·b_k` over row-major positions (`C02x.inner`).

MatMul and Dot are stated for operands with ANY common batch shape `bd` (the general case: `hMatMul` attaches the rules to
the operands after `broadcastForMatMul`): the closure's value element by element, and adjointness
`inner (f d) G = inner d (rule G)` over ℝ. MaxAlong / MinAlong: the element formula for every rank and `dim`; for a vector,
which positions receive `g` (EVERY tied extremum receives the full `g`), and with a unique extremum (margin `> 1e-240`) the
rule against the derivative. VarAlong / StdAlong: rank-1 operand along dim 0 (the fibre is the whole vector), rule value and
derivative.

Finding (an artefact of the ℝ instance, not a code defect): on the Model's ℝ instance `negInf = posInf = 0`, so the forward
Max of an all-negative vector is `0` and the rule then returns zeros (`maxAlong_real_counterexample`). The `*_real_partial`
theorems say what holds on the instance itself; `maxAlong_vjp_deriv` / `minAlong_vjp_deriv` state the rule for `y` holding
the true extremum.

Every rule theorem has a kernel-checked (`decide`) witness on the `Scalar Int` instance next to it.
Not proved here: VarAlong / StdAlong for rank > 1 or `dim ≠ 0` (the rule text is the same per fibre).
-/

namespace Qeep
namespace C02y
open RealScalar
open C04x (el at?_el vMatMul_get vTranspose_get_be vTranspose_ok foldl_congr')
open C02x (inner idxOf posOf valid_idxOf posOf_lt posOf_idxOf idxOf_posOf foldl_add_range idxSum inner_eq_idxSum
  idxSum_append idxSum_single)

variable {α : Type}

section matmul
variable [Scalar α]

/-- **`gradtrack.MatMul`, first operand: `gradFn = y.Gradient().MatMul(b.Transpose())`.** For `B : bd ++ [n,k]` and an
    upstream gradient `G : bd ++ [m,k]` (any common batch shape, all sizes): the closure succeeds, is `G·Bᵀ`, has the first
    operand's dims `bd ++ [m,n]`, and `(G·Bᵀ)[b…,i,p] = Σ_j G[b…,i,j]·B[b…,p,j]`. -/
theorem rule_matmulA (bm : BMode) (H : Heap α) (G : Tensor α) (b : Nat) (bd : List Nat) (m n k : Nat)
    (wG : G.WF) (wB : (H.val b).WF) (hdG : G.dims = bd ++ [m, k]) (hdB : (H.val b).dims = bd ++ [n, k]) :
    ∃ Bt r, vTranspose (H.val b) = .ok Bt ∧ vMatMul G Bt = .ok r ∧
      evalRule bm H G (.matmulA b) = .ok r ∧ r.dims = bd ++ [m, n] ∧ r.WF ∧
      ∀ pre i p, Valid bd pre → i < m → p < n →
        r.at? (pre ++ [i, p]) = some ((List.range k).foldl
          (fun s j => Scalar.add s (Scalar.mul (el G (pre ++ [i, j])) (el (H.val b) (pre ++ [p, j])))) Scalar.zero) := by
  obtain ⟨Bt, eBt⟩ := vTranspose_ok (H.val b) wB bd n k hdB
  obtain ⟨hdBt, wBt, hBt⟩ := vTranspose_get_be (H.val b) Bt wB bd n k hdB eBt
  obtain ⟨r, er, hdr, wr, hr⟩ := vMatMul_get G Bt wG wBt bd m k n hdG hdBt
  refine ⟨Bt, r, eBt, er, ?_, hdr, wr, ?_⟩
  · rw [evalRule_matmulA, eBt]; exact er
  · intro pre i p hv hi hp
    rw [hr pre i p hv hi hp]
    congr 1
    apply foldl_congr'
    intro j hj s
    have hj' : j < k := List.mem_range.mp hj
    have e1 : el Bt (pre ++ [j, p]) = el (H.val b) (pre ++ [p, j]) := by unfold el; rw [hBt pre j p hv hj' hp]
    rw [e1]

/-- **`gradtrack.MatMul`, second operand: `gradFn = a.Transpose().MatMul(y.Gradient())`.** For `A : bd ++ [m,n]` and
    `G : bd ++ [m,k]`: the closure succeeds, is `Aᵀ·G`, has the second operand's dims `bd ++ [n,k]`, and
    `(Aᵀ·G)[b…,p,j] = Σ_i A[b…,i,p]·G[b…,i,j]`. -/
theorem rule_matmulB (bm : BMode) (H : Heap α) (G : Tensor α) (a : Nat) (bd : List Nat) (m n k : Nat)
    (wG : G.WF) (wA : (H.val a).WF) (hdG : G.dims = bd ++ [m, k]) (hdA : (H.val a).dims = bd ++ [m, n]) :
    ∃ At r, vTranspose (H.val a) = .ok At ∧ vMatMul At G = .ok r ∧
      evalRule bm H G (.matmulB a) = .ok r ∧ r.dims = bd ++ [n, k] ∧ r.WF ∧
      ∀ pre p j, Valid bd pre → p < n → j < k →
        r.at? (pre ++ [p, j]) = some ((List.range m).foldl
          (fun s i => Scalar.add s (Scalar.mul (el (H.val a) (pre ++ [i, p])) (el G (pre ++ [i, j])))) Scalar.zero) := by
  obtain ⟨At, eAt⟩ := vTranspose_ok (H.val a) wA bd m n hdA
  obtain ⟨hdAt, wAt, hAt⟩ := vTranspose_get_be (H.val a) At wA bd m n hdA eAt
  obtain ⟨r, er, hdr, wr, hr⟩ := vMatMul_get At G wAt wG bd n m k hdAt hdG
  refine ⟨At, r, eAt, er, ?_, hdr, wr, ?_⟩
  · rw [evalRule_matmulB, eAt]; exact er
  · intro pre p j hv hp hj
    rw [hr pre p j hv hp hj]
    congr 1
    apply foldl_congr'
    intro i hi s
    have hi' : i < m := List.mem_range.mp hi
    have e1 : el At (pre ++ [p, i]) = el (H.val a) (pre ++ [i, p]) := by unfold el; rw [hAt pre p i hv hp hi']
    rw [e1]

end matmul

theorem idxSum_pair (m k : Nat) (hm : 0 < m) (hk : 0 < k) (f : List Nat → ℝ) :
    idxSum [m, k] f = ∑ i ∈ Finset.range m, ∑ j ∈ Finset.range k, f [i, j] := by
  have h1 : ∀ d ∈ [m], 0 < d := fun d hd => by rw [List.mem_singleton.mp hd]; exact hm
  have h2 : ∀ d ∈ [k], 0 < d := fun d hd => by rw [List.mem_singleton.mp hd]; exact hk
  rw [show [m, k] = [m] ++ [k] from rfl, idxSum_append h1 h2, idxSum_single m hm]
  exact Finset.sum_congr rfl fun i _ => idxSum_single k hk _

theorem inner_batch2 (a b : Tensor ℝ) (bd : List Nat) (m k : Nat) (wa : a.WF) (wb : b.WF) (hda : a.dims = bd ++ [m, k])
    (hdb : b.dims = bd ++ [m, k]) :
    inner a b = ∑ q ∈ Finset.range (prod bd), ∑ i ∈ Finset.range m, ∑ j ∈ Finset.range k,
      (a.at? (idxOf bd q ++ [i, j])).getD 0 * (b.at? (idxOf bd q ++ [i, j])).getD 0 := by
  have hpos := wa.2
  rw [hda] at hpos
  have hbd : ∀ d ∈ bd, 0 < d := fun d hd => hpos d (by simp [hd])
  have hmk : ∀ d ∈ [m, k], 0 < d := fun d hd => hpos d (List.mem_append_right _ hd)
  rw [inner_eq_idxSum a b wa wb (hdb.trans hda.symm), hda]
  exact (idxSum_append hbd hmk _).trans
    (Finset.sum_congr rfl fun q _ => idxSum_pair m k (hmk m (by simp)) (hmk k (by simp)) _)

theorem el_real (t : Tensor ℝ) (idx : List Nat) : el t idx = (t.at? idx).getD 0 := by
  unfold el; rw [zero_eq]

theorem vMatMul_get_real (a b : Tensor ℝ) (ha : a.WF) (hb : b.WF) (bd : List Nat) (m n k : Nat)
    (hda : a.dims = bd ++ [m, n]) (hdb : b.dims = bd ++ [n, k]) :
    ∃ c, vMatMul a b = .ok c ∧ c.dims = bd ++ [m, k] ∧ c.WF ∧
      ∀ pre i j, Valid bd pre → i < m → j < k →
        c.at? (pre ++ [i, j]) = some (∑ p ∈ Finset.range n, el a (pre ++ [i, p]) * el b (pre ++ [p, j])) := by
  obtain ⟨c, e, hdc, wc, hget⟩ := vMatMul_get a b ha hb bd m n k hda hdb
  refine ⟨c, e, hdc, wc, ?_⟩
  intro pre i j hv hi hj
  rw [hget pre i j hv hi hj]
  congr 1
  exact foldl_add_range (fun p => el a (pre ++ [i, p]) * el b (pre ++ [p, j])) n

/-- `Σ_ij (Σ_p a_ip b_pj) g_ij`, the pairing of a product with `g`, regrouped around `a` and around `b`: the two
    transposition identities behind the MatMul rules -/
theorem sum_mul_sum_left (m n k : ℕ) (a b g : ℕ → ℕ → ℝ) :
    ∑ i ∈ Finset.range m, ∑ j ∈ Finset.range k, (∑ p ∈ Finset.range n, a i p * b p j) * g i j
      = ∑ i ∈ Finset.range m, ∑ p ∈ Finset.range n, a i p * ∑ j ∈ Finset.range k, g i j * b p j := by
  refine Finset.sum_congr rfl fun i _ => ?_
  simp_rw [Finset.sum_mul, Finset.mul_sum]
  rw [Finset.sum_comm]
  exact Finset.sum_congr rfl fun p _ => Finset.sum_congr rfl fun j _ => by ring

theorem sum_mul_sum_right (m n k : ℕ) (a b g : ℕ → ℕ → ℝ) :
    ∑ i ∈ Finset.range m, ∑ j ∈ Finset.range k, (∑ p ∈ Finset.range n, a i p * b p j) * g i j
      = ∑ p ∈ Finset.range n, ∑ j ∈ Finset.range k, b p j * ∑ i ∈ Finset.range m, a i p * g i j := by
  simp_rw [Finset.sum_mul, Finset.mul_sum]
  rw [Finset.sum_comm]
  refine (Finset.sum_congr rfl fun j _ => Finset.sum_comm).trans ?_
  rw [Finset.sum_comm]
  exact Finset.sum_congr rfl fun p _ => Finset.sum_congr rfl fun j _ => Finset.sum_congr rfl fun i _ => by ring

/-- **MatMul, first operand: the rule is the adjoint of `dA ↦ dA·B`** (over ℝ, every common batch shape, all sizes):
    `⟨dA·B, G⟩ = ⟨dA, G·Bᵀ⟩`. -/
theorem adjoint_matmulA (bm : BMode) (H : Heap ℝ) (b : Nat) (dA G Y r : Tensor ℝ) (bd : List Nat) (m n k : Nat)
    (wd : dA.WF) (hdd : dA.dims = bd ++ [m, n]) (wB : (H.val b).WF) (hdB : (H.val b).dims = bd ++ [n, k])
    (wG : G.WF) (hdG : G.dims = bd ++ [m, k])
    (hf : vMatMul dA (H.val b) = .ok Y) (hr : evalRule bm H G (.matmulA b) = .ok r) :
    inner Y G = inner dA r := by
  have hbd : ∀ d ∈ bd, 0 < d := fun d hd => wd.2 d (by rw [hdd]; simp [hd])
  obtain ⟨Y', eY, hdY, wY, hY⟩ := vMatMul_get_real dA (H.val b) wd wB bd m n k hdd hdB
  obtain rfl := Out.ok.inj (hf.symm.trans eY)
  obtain ⟨_, r', _, _, er, hdr, wr, hR⟩ := rule_matmulA bm H G b bd m n k wG wB hdG hdB
  obtain rfl := Out.ok.inj (hr.symm.trans er)
  rw [inner_batch2 Y G bd m k wY wG hdY hdG, inner_batch2 dA r bd m n wd wr hdd hdr]
  refine Finset.sum_congr rfl fun q _ => ?_
  have hv := valid_idxOf hbd q
  refine (Finset.sum_congr rfl fun i hi => Finset.sum_congr rfl fun j hj => ?_).trans
    ((sum_mul_sum_left m n k (fun i p => el dA (idxOf bd q ++ [i, p])) (fun p j => el (H.val b) (idxOf bd q ++ [p, j]))
      (fun i j => el G (idxOf bd q ++ [i, j]))).trans
    (Finset.sum_congr rfl fun i hi => Finset.sum_congr rfl fun p hp => ?_))
  · rw [hY _ i j hv (Finset.mem_range.mp hi) (Finset.mem_range.mp hj), Option.getD_some, el_real G]
  · rw [hR _ i p hv (Finset.mem_range.mp hi) (Finset.mem_range.mp hp), Option.getD_some, el_real dA]
    exact congrArg _ (foldl_add_range (fun j => el G (idxOf bd q ++ [i, j]) * el (H.val b) (idxOf bd q ++ [p, j])) k).symm

/-- **MatMul, second operand: the rule is the adjoint of `dB ↦ A·dB`** (over ℝ, every common batch shape, all sizes):
    `⟨A·dB, G⟩ = ⟨dB, Aᵀ·G⟩`. -/
theorem adjoint_matmulB (bm : BMode) (H : Heap ℝ) (a : Nat) (dB G Y r : Tensor ℝ) (bd : List Nat) (m n k : Nat)
    (wd : dB.WF) (hdd : dB.dims = bd ++ [n, k]) (wA : (H.val a).WF) (hdA : (H.val a).dims = bd ++ [m, n])
    (wG : G.WF) (hdG : G.dims = bd ++ [m, k])
    (hf : vMatMul (H.val a) dB = .ok Y) (hr : evalRule bm H G (.matmulB a) = .ok r) :
    inner Y G = inner dB r := by
  have hbd : ∀ d ∈ bd, 0 < d := fun d hd => wd.2 d (by rw [hdd]; simp [hd])
  obtain ⟨Y', eY, hdY, wY, hY⟩ := vMatMul_get_real (H.val a) dB wA wd bd m n k hdA hdd
  obtain rfl := Out.ok.inj (hf.symm.trans eY)
  obtain ⟨_, r', _, _, er, hdr, wr, hR⟩ := rule_matmulB bm H G a bd m n k wG wA hdG hdA
  obtain rfl := Out.ok.inj (hr.symm.trans er)
  rw [inner_batch2 Y G bd m k wY wG hdY hdG, inner_batch2 dB r bd n k wd wr hdd hdr]
  refine Finset.sum_congr rfl fun q _ => ?_
  have hv := valid_idxOf hbd q
  refine (Finset.sum_congr rfl fun i hi => Finset.sum_congr rfl fun j hj => ?_).trans
    ((sum_mul_sum_right m n k (fun i p => el (H.val a) (idxOf bd q ++ [i, p])) (fun p j => el dB (idxOf bd q ++ [p, j]))
      (fun i j => el G (idxOf bd q ++ [i, j]))).trans
    (Finset.sum_congr rfl fun p hp => Finset.sum_congr rfl fun j hj => ?_))
  · rw [hY _ i j hv (Finset.mem_range.mp hi) (Finset.mem_range.mp hj), Option.getD_some, el_real G]
  · rw [hR _ p j hv (Finset.mem_range.mp hp) (Finset.mem_range.mp hj), Option.getD_some, el_real dB]
    exact congrArg _ (foldl_add_range (fun i => el (H.val a) (idxOf bd q ++ [i, p]) * el G (idxOf bd q ++ [i, j])) m).symm

/-- the plain-matrix case (`bd = []`) in double-sum form: for `m × n`, `n × k` matrices and an `m × k` upstream gradient
    the pairing `inner` is `Σ_i Σ_j`, and both adjoint identities hold -/
theorem adjoint_matmul_rank2 (bm : BMode) (H : Heap ℝ) (a b : Nat) (dA dB G YA YB rA rB : Tensor ℝ) (m n k : Nat)
    (wA : (H.val a).WF) (hdA : (H.val a).dims = [m, n]) (wB : (H.val b).WF) (hdB : (H.val b).dims = [n, k])
    (wdA : dA.WF) (hddA : dA.dims = [m, n]) (wdB : dB.WF) (hddB : dB.dims = [n, k])
    (wG : G.WF) (hdG : G.dims = [m, k])
    (hfA : vMatMul dA (H.val b) = .ok YA) (hrA : evalRule bm H G (.matmulA b) = .ok rA)
    (hfB : vMatMul (H.val a) dB = .ok YB) (hrB : evalRule bm H G (.matmulB a) = .ok rB) :
    inner YA G = inner dA rA ∧ inner YB G = inner dB rB :=
  ⟨adjoint_matmulA bm H b dA G YA rA [] m n k wdA hddA wB hdB wG hdG hfA hrA,
   adjoint_matmulB bm H a dB G YB rB [] m n k wdB hddB wA hdA wG hdG hfB hrB⟩

section dot
variable [Scalar α]

theorem arith_el (o : Arith) (a b r : Tensor α) (ha : a.WF) (hb : b.WF) (h : vArith o a b = .ok r)
    (hla : a.dims.length ≤ r.dims.length) (hlb : b.dims.length ≤ r.dims.length) {j : List Nat} (hj : Valid r.dims j) :
    r.at? j = some (o.fn (el a (projBE a.dims r.dims j)) (el b (projBE b.dims r.dims j))) := by
  obtain ⟨x, y, hx, hy, hr⟩ := C03x.arith_get o a b r ha hb h j.reverse (valid_reverse hj)
  rw [projLE_reverse_eq_projBE hla hj.length_eq] at hx
  rw [projLE_reverse_eq_projBE hlb hj.length_eq] at hy
  rw [List.reverse_reverse] at hr
  unfold el
  rw [hr, hx, hy]; rfl

theorem projBE_last_one (bd pre : List Nat) (n p : Nat) (hl : pre.length = bd.length) (hp : p < n) :
    projBE (bd ++ [1]) (bd ++ [n]) (pre ++ [p]) = pre ++ [0] := by
  unfold projBE
  have h0 : (bd ++ [n]).length - (bd ++ [1]).length = 0 := by simp
  rw [h0, List.drop_zero, List.drop_zero, projLE_snoc _ _ _ _ _ _ rfl hl.symm, projLE_self _ _ hl]
  congr 2
  split <;> omega

theorem projBE_self (ds u : List Nat) (hl : u.length = ds.length) : projBE ds ds u = u := by
  unfold projBE
  rw [Nat.sub_self, List.drop_zero, List.drop_zero, projLE_self _ _ hl]

theorem targetBroadcastDims_last_one (bd : List Nat) (n : Nat) (hn : 0 < n) :
    targetBroadcastDims (bd ++ [1]) (bd ++ [n]) = bd ++ [n] := by
  have : ¬ 1 > n := by omega
  simp [targetBroadcastDims, targetBroadcastLE, targetBroadcastLE_self, this]

/-- **`gradtrack.Dot`: `gradFn = y.Gradient().UnSqueeze(rank).Mul(other)`.** -/
theorem rule_dot (bm : BMode) (H : Heap α) (gy : Tensor α) (o : Nat) (bd : List Nat) (n : Nat)
    (wg : gy.WF) (wo : (H.val o).WF) (hdg : gy.dims = bd) (hdo : (H.val o).dims = bd ++ [n]) :
    ∃ r, evalRule bm H gy (.dotG o) = .ok r ∧ r.dims = bd ++ [n] ∧ r.WF ∧
      ∀ pre p, Valid bd pre → p < n →
        r.at? (pre ++ [p]) = some (Scalar.mul (el gy pre) (el (H.val o) (pre ++ [p]))) := by
  have hn : 0 < n := wo.2 n (by rw [hdo]; simp)
  -- UnSqueeze at the rank: dims `bd ++ [1]`, `u[pre ++ [0]] = gy[pre]`
  obtain ⟨u, eu, wu, hud, hu⟩ := unsqueeze_el gy wg bd [] (by rw [hdg, List.append_nil])
  rw [← hdg] at eu
  have hcompat : C03x.compat u.dims (H.val o).dims = true := by
    rw [hud, hdo]
    simp [C03x.compat, C03x.compatLE, C03x.compatLE_self]
  obtain ⟨r, er⟩ := (C03x.arith_total .mul u (H.val o) wu wo).1 hcompat
  obtain ⟨hrd, wr⟩ := C03x.arith_result_dims .mul _ _ r wu wo er
  have hrd' : r.dims = bd ++ [n] := by rw [hrd, hud, hdo]; exact targetBroadcastDims_last_one bd n hn
  refine ⟨r, ?_, hrd', wr, fun pre p hv hp => ?_⟩
  · rw [evalRule_dotG, eu]; exact er
  · have hj : Valid r.dims (pre ++ [p]) := by rw [hrd']; exact valid_app hv (.cons hp .nil)
    rw [arith_el .mul u (H.val o) r wu wo er (by rw [hrd', hud]; simp) (by rw [hrd', hdo]) hj, hrd', hud, hdo,
      projBE_last_one bd pre n p hv.length_eq hp, projBE_self _ _ (by simp [hv.length_eq])]
    have := hu pre [] hv .nil
    rw [List.append_nil] at this
    rw [show el u (pre ++ [0]) = el gy pre from this]
    rfl

theorem vDot_get (a b : Tensor α) (ha : a.WF) (hb : b.WF) (bd : List Nat) (n : Nat)
    (hda : a.dims = bd ++ [n]) (hdb : b.dims = bd ++ [n]) :
    ∃ c, vDot a b = .ok c ∧ c.dims = bd ∧ c.WF ∧
      ∀ pre, Valid bd pre →
        c.at? pre = some ((List.range n).foldl
          (fun s p => Scalar.add s (Scalar.mul (el a (pre ++ [p])) (el b (pre ++ [p])))) Scalar.zero) := by
  have hbd : ∀ d ∈ bd, 0 < d := fun d hd => ha.2 d (by rw [hda]; simp [hd])
  have hn : 0 < n := ha.2 n (by rw [hda]; simp)
  obtain ⟨da, xa⟩ := a
  obtain ⟨db, xb⟩ := b
  simp only at hda hdb
  subst hda
  subst hdb
  obtain ⟨data, e, hlen, hget⟩ := C04.dot_get bd n xa xb hbd hn ha.1 hb.1
    (fun pre p => el (⟨bd ++ [n], xa⟩ : Tensor α) (pre ++ [p]))
    (fun pre p => el (⟨bd ++ [n], xb⟩ : Tensor α) (pre ++ [p]))
    (fun pre p hv hp => at?_el _ ha (valid_app hv (.cons hp .nil)))
    (fun pre p hv hp => at?_el _ hb (valid_app hv (.cons hp .nil)))
  refine ⟨⟨bd, data⟩, ?_, rfl, ⟨hlen, hbd⟩, hget⟩
  have hvd : validDot (bd ++ [n]) (bd ++ [n]) = true := by simp [validDot]
  unfold vDot
  rw [if_pos hvd]
  simp only [vBroadcastPair, bind, Out.bind, targetBroadcastDims_self]
  rw [vBroadcastN_self ⟨bd ++ [n], xa⟩ ha]
  simp only []
  rw [vBroadcastN_self ⟨bd ++ [n], xb⟩ hb]
  simp only [pure, e, Out.ofOpt]

end dot

theorem rule_dot_real (bm : BMode) (H : Heap ℝ) (gy : Tensor ℝ) (o : Nat) (bd : List Nat) (n : Nat)
    (wg : gy.WF) (wo : (H.val o).WF) (hdg : gy.dims = bd) (hdo : (H.val o).dims = bd ++ [n]) :
    ∃ r, evalRule bm H gy (.dotG o) = .ok r ∧ r.dims = bd ++ [n] ∧ r.WF ∧
      ∀ pre p, Valid bd pre → p < n → r.at? (pre ++ [p]) = some (el gy pre * el (H.val o) (pre ++ [p])) :=
  rule_dot bm H gy o bd n wg wo hdg hdo

theorem vDot_get_real (a b : Tensor ℝ) (ha : a.WF) (hb : b.WF) (bd : List Nat) (n : Nat)
    (hda : a.dims = bd ++ [n]) (hdb : b.dims = bd ++ [n]) :
    ∃ c, vDot a b = .ok c ∧ c.dims = bd ∧ c.WF ∧
      ∀ pre, Valid bd pre → c.at? pre = some (∑ p ∈ Finset.range n, el a (pre ++ [p]) * el b (pre ++ [p])) := by
  obtain ⟨c, e, hdc, wc, hget⟩ := vDot_get a b ha hb bd n hda hdb
  refine ⟨c, e, hdc, wc, ?_⟩
  intro pre hv
  rw [hget pre hv]
  congr 1
  exact foldl_add_range (fun p => el a (pre ++ [p]) * el b (pre ++ [p])) n

theorem inner_batch1 (a b : Tensor ℝ) (bd : List Nat) (n : Nat) (wa : a.WF) (wb : b.WF) (hda : a.dims = bd ++ [n])
    (hdb : b.dims = bd ++ [n]) :
    inner a b = ∑ q ∈ Finset.range (prod bd), ∑ p ∈ Finset.range n,
      (a.at? (idxOf bd q ++ [p])).getD 0 * (b.at? (idxOf bd q ++ [p])).getD 0 := by
  have hpos := wa.2
  rw [hda] at hpos
  have hbd : ∀ d ∈ bd, 0 < d := fun d hd => hpos d (by simp [hd])
  have hn : ∀ d ∈ [n], 0 < d := fun d hd => hpos d (List.mem_append_right _ hd)
  rw [inner_eq_idxSum a b wa wb (hdb.trans hda.symm), hda]
  exact (idxSum_append hbd hn _).trans (Finset.sum_congr rfl fun q _ => idxSum_single n (hn n (by simp)) _)

/-- **Dot: the rule is the adjoint of `da ↦ Dot(da, other)`** (over ℝ, every leading shape, all sizes):
    `⟨Dot(da, other), g⟩ = ⟨da, g.UnSqueeze(rank) · other⟩`. -/
theorem adjoint_dot (bm : BMode) (H : Heap ℝ) (o : Nat) (da g y r : Tensor ℝ) (bd : List Nat) (n : Nat)
    (wd : da.WF) (hdd : da.dims = bd ++ [n]) (wo : (H.val o).WF) (hdo : (H.val o).dims = bd ++ [n])
    (wg : g.WF) (hdg : g.dims = bd)
    (hf : vDot da (H.val o) = .ok y) (hr : evalRule bm H g (.dotG o) = .ok r) :
    inner y g = inner da r := by
  have hbd : ∀ d ∈ bd, 0 < d := fun d hd => wd.2 d (by rw [hdd]; simp [hd])
  obtain ⟨y', ey, hdy, wy, hY⟩ := vDot_get_real da (H.val o) wd wo bd n hdd hdo
  obtain rfl := Out.ok.inj (hf.symm.trans ey)
  obtain ⟨r', er, hdr, wr, hR⟩ := rule_dot_real bm H g o bd n wg wo hdg hdo
  obtain rfl := Out.ok.inj (hr.symm.trans er)
  rw [inner_eq_idxSum y g wy wg (hdg.trans hdy.symm), hdy, inner_batch1 da r bd n wd wr hdd hdr]
  show ∑ q ∈ Finset.range (prod bd), _ = _
  apply Finset.sum_congr rfl
  intro q _
  have hv := valid_idxOf hbd q
  beta_reduce
  rw [hY _ hv, Option.getD_some, Finset.sum_mul]
  apply Finset.sum_congr rfl
  intro p hp
  rw [hR _ p hv (Finset.mem_range.mp hp), Option.getD_some, ← el_real da, ← el_real g]
  ring

/-- node 0: a 2×3 matrix `A`; node 1: a 3×2 matrix `B`; node 2: a vector of length 3 -/
def exHeap : Heap Int :=
  #[⟨⟨[2, 3], [1, 2, 3, 4, 5, 6]⟩, {}⟩, ⟨⟨[3, 2], [7, 8, 9, 10, 11, 12]⟩, {}⟩, ⟨⟨[3], [4, 5, 6]⟩, {}⟩]

/-- MatMul rules on `G = [[1,2],[3,4]]`: `G·Bᵀ` (2×3) and `Aᵀ·G` (3×2) -/
example : evalRule .sum exHeap ⟨[2, 2], [1, 2, 3, 4]⟩ (.matmulA 1) = .ok ⟨[2, 3], [23, 29, 35, 53, 67, 81]⟩ ∧
    evalRule .sum exHeap ⟨[2, 2], [1, 2, 3, 4]⟩ (.matmulB 0) = .ok ⟨[3, 2], [13, 18, 17, 24, 21, 30]⟩ := by decide +kernel

/-- Dot rule: scalar-shaped upstream `2` against the vector (node 2); upstream `[10, 100]` against the rows of node 0 -/
example : evalRule .sum exHeap ⟨[], [2]⟩ (.dotG 2) = .ok ⟨[3], [8, 10, 12]⟩ ∧
    evalRule .sum exHeap ⟨[2], [10, 100]⟩ (.dotG 0) = .ok ⟨[2, 3], [10, 20, 30, 400, 500, 600]⟩ := by decide +kernel

theorem at?_zip (f : α → α → α) (a b : Tensor α) (hd : a.dims = b.dims) {i : List Nat} (hv : Valid a.dims i) {x y : α}
    (hx : a.at? i = some x) (hy : b.at? i = some y) :
    (⟨a.dims, List.zipWith f a.data b.data⟩ : Tensor α).at? i = some (f x y) := by
  rw [a.at?_of_valid hv] at hx
  rw [b.at?_of_valid (by rw [← hd]; exact hv), ← hd] at hy
  rw [Tensor.at?_of_valid (⟨a.dims, List.zipWith f a.data b.data⟩ : Tensor α) hv]
  simp [List.getElem?_zipWith, hx, hy]

section ext
variable [Scalar α]

/-- **`gradtrack.MaxAlong` / `MinAlong`: `gradFn = reducerBroadcasted(gy, x, dim).Mul(x.Eq(reducerBroadcasted(y, x, dim)))`** —
    what the Model computes, for every rank, every `dim`, all sizes and any scalar domain. -/
theorem rule_extAlong (bm : BMode) (H : Heap α) (gy : Tensor α) (x y dim : Nat) (wx : (H.val x).WF)
    (hdim : dim < (H.val x).dims.length) (wg : gy.WF) (hdg : gy.dims = squeezeDims dim (H.val x).dims)
    (wy : (H.val y).WF) (hdy : (H.val y).dims = squeezeDims dim (H.val x).dims) :
    ∃ r, evalRule bm H gy (.extAlongX x y dim) = .ok r ∧ r.dims = (H.val x).dims ∧ r.WF ∧
      ∀ i, Valid (H.val x).dims i →
        r.at? i = some (Scalar.mul (el gy (i.eraseIdx dim))
          (Scalar.ofBool (Scalar.near (el (H.val x) i) (el (H.val y) (i.eraseIdx dim))))) := by
  obtain ⟨gyb, e1, d1, w1, g1⟩ := C02x.reducerBroadcasted_get gy (H.val x).dims dim wx.2 hdim wg hdg
  obtain ⟨yb, e2, d2, w2, g2⟩ := C02x.reducerBroadcasted_get (H.val y) (H.val x).dims dim wx.2 hdim wy hdy
  have wgx := zip_wf Cmp.eq.fn (H.val x) yb wx w2 d2.symm
  have e3 := vCmp_same .eq (H.val x) yb wx w2 d2.symm
  have e4 := vArith_same .mul gyb ⟨(H.val x).dims, List.zipWith Cmp.eq.fn (H.val x).data yb.data⟩ w1 wgx d1
  refine ⟨⟨gyb.dims, List.zipWith Arith.mul.fn gyb.data (List.zipWith Cmp.eq.fn (H.val x).data yb.data)⟩, ?_, d1,
    zip_wf Arith.mul.fn gyb _ w1 wgx d1, ?_⟩
  · simp only [evalRule_extAlongX, Out.bind, e1, e2, e3]; exact e4
  · intro i hi
    have hve := C02x.valid_eraseIdx dim hdim hi
    have hxi := at?_el (H.val x) wx hi
    have hyb : yb.at? i = some (el (H.val y) (i.eraseIdx dim)) := by
      rw [g2 i hi]; exact at?_el (H.val y) wy (by rw [hdy]; exact hve)
    have hgb : gyb.at? i = some (el gy (i.eraseIdx dim)) := by
      rw [g1 i hi]; exact at?_el gy wg (by rw [hdg]; exact hve)
    have hgx := at?_zip Cmp.eq.fn (H.val x) yb d2.symm hi hxi hyb
    have hi' : Valid gyb.dims i := by rw [d1]; exact hi
    exact at?_zip Arith.mul.fn gyb ⟨(H.val x).dims, List.zipWith Cmp.eq.fn (H.val x).data yb.data⟩ d1 hi' hgb hgx

end ext

theorem at?_rank0 (d : List α) : (⟨[], d⟩ : Tensor α).at? [] = d[0]? := by
  simp [Tensor.at?, offset]

theorem el_rank1 [Scalar α] (t : Tensor α) (n p : Nat) (hd : t.dims = [n]) (hp : p < n) (hl : p < t.data.length) :
    el t [p] = t.data[p] := by
  obtain ⟨td, tdata⟩ := t
  simp only at hd
  subst hd
  unfold el
  rw [at?_singleton n tdata p hp, List.getElem?_eq_getElem hl]
  rfl

theorem rank1_ext (r : Tensor α) (n : Nat) (l : List α) (wr : r.WF) (hd : r.dims = [n]) (hl : l.length = n)
    (h : ∀ p, p < n → r.at? [p] = l[p]?) : r = ⟨[n], l⟩ := by
  obtain ⟨rd, rdata⟩ := r
  simp only at hd
  subst hd
  congr 1
  have hlen : rdata.length = n := by have := wr.1; simpa [prod] using this
  apply List.ext_getElem?
  intro p
  by_cases hp : p < n
  · rw [← h p hp, at?_singleton n rdata p hp]
  · rw [List.getElem?_eq_none (by omega), List.getElem?_eq_none (by omega)]

theorem rank1_eq_map (r : Tensor α) (n : Nat) (xs : List α) (F : α → α) (wr : r.WF) (hd : r.dims = [n])
    (hl : xs.length = n) (h : ∀ p (hp : p < n), r.at? [p] = some (F (xs[p]'(by omega)))) : r = ⟨[n], xs.map F⟩ :=
  rank1_ext r n (xs.map F) wr hd (by rw [List.length_map, hl]) fun p hp => by
    rw [h p hp, List.getElem?_map, List.getElem?_eq_getElem (by omega)]; rfl

theorem rank0_ext (c : Tensor α) (wc : c.WF) (hd : c.dims = []) {v : α} (h : c.at? [] = some v) : c = ⟨[], [v]⟩ := by
  obtain ⟨cd, cdata⟩ := c
  simp only at hd
  subst hd
  have hlen : cdata.length = 1 := wc.1
  rw [at?_rank0] at h
  match cdata, hlen, h with
  | [w], _, hw => cases hw; rfl

section ext1
variable [Scalar α]

/-- **MaxAlong / MinAlong rule, rank-1 operand along dim 0** (the fibre is the whole vector): with `g` the upstream
    gradient (scalar-shaped) and `m` the value stored in the forward result `y`, the closure returns the vector
    `[g · Eq(x_p, m)]_p`, `Eq(a, b) = 1` if `|a − b| ≤ 1e-240` (`Scalar.near`) else `0`. -/
theorem rule_extAlong_rank1 (bm : BMode) (H : Heap α) (x y n : Nat) (g m : α) (wx : (H.val x).WF)
    (hdx : (H.val x).dims = [n]) (hy : H.val y = ⟨[], [m]⟩) :
    evalRule bm H ⟨[], [g]⟩ (.extAlongX x y 0)
      = .ok ⟨[n], (H.val x).data.map (fun v => Scalar.mul g (Scalar.ofBool (Scalar.near v m)))⟩ := by
  have wg : (⟨[], [g]⟩ : Tensor α).WF := ⟨rfl, by simp⟩
  have wy : (H.val y).WF := by rw [hy]; exact ⟨rfl, by simp⟩
  have hsq : squeezeDims 0 (H.val x).dims = [] := by rw [hdx]; rfl
  obtain ⟨r, e, hdr, wr, hget⟩ := rule_extAlong bm H ⟨[], [g]⟩ x y 0 wx (by rw [hdx]; simp) wg hsq.symm wy
    (by rw [hy, hsq])
  rw [e]
  congr 1
  have hl : (H.val x).data.length = n := by have := wx.1; rw [hdx] at this; simpa [prod] using this
  apply rank1_eq_map r n (H.val x).data _ wr (by rw [hdr, hdx]) hl
  intro p hp
  have hv : Valid (H.val x).dims [p] := by rw [hdx]; exact .cons hp .nil
  rw [hget [p] hv]
  have e1 : el (⟨[], [g]⟩ : Tensor α) ([p].eraseIdx 0) = g := rfl
  have e2 : el (H.val y) ([p].eraseIdx 0) = m := by rw [hy]; rfl
  have e3 : el (H.val x) [p] = (H.val x).data[p]'(by omega) := el_rank1 _ n p hdx hp (by omega)
  rw [e1, e2, e3]

theorem along_rank1_fwd (rd : Reducer) (t : Tensor α) (n : Nat) (wt : t.WF) (hd : t.dims = [n]) :
    vAlong rd t 0 = .ok ⟨[], [rd.fn ⟨[n], t.data⟩]⟩ := by
  obtain ⟨td, tdata⟩ := t
  simp only at hd
  subst hd
  have hl : tdata.length = n := by have := wt.1; simpa [prod] using this
  obtain ⟨data', e, hlen, hspec⟩ := reduceDim_spec (⟨[n], tdata⟩ : Tensor α) wt 0 (by simp) rd.fn
  have hsq : squeezeDims 0 [n] = [] := rfl
  simp only [hsq] at e hlen hspec
  have hlen' : data'.length = 1 := hlen
  obtain ⟨fib, hfl, hfib, hval⟩ := hspec 0 (by simp [prod])
  have hS : (insLE ([n].length - 1 - 0) 0 (iterN (incr (delLE ([n].length - 1 - 0) [n].reverse)) 0
      (zerosLike (delLE ([n].length - 1 - 0) [n].reverse)))).reverse = [0] := rfl
  simp only [hS] at hfib hval
  have hfl' : fib.length = n := hfl
  have hfd : fib = tdata := by
    apply List.ext_getElem?
    intro i
    by_cases hi : i < n
    · have := (hfib i hi).1
      rw [this]
      exact at?_singleton n tdata i hi
    · rw [List.getElem?_eq_none (by omega), List.getElem?_eq_none (by omega)]
  have hwd : sliceDims (windowOf 0 [n] [0]) = [n] := by simp [windowOf, unitWin, sliceDims]
  rw [hwd, hfd] at hval
  have hd' : data' = [rd.fn ⟨[n], tdata⟩] := by
    match data', hlen', hval with
    | [v], _, hv => simp at hv; rw [hv]
  have hv : validDimLt 0 [n] = true := by simp [validDimLt]
  simp only [vAlong, vReduceDim, hv, if_true, Int.toNat_zero, e, Out.ofOpt, hd']

end ext1

/-- the library's equality threshold `float64EqualityThreshold = 1e-240` over ℝ -/
noncomputable def θ : ℝ := 1 / (10 : ℝ) ^ 240

theorem θ_pos : 0 < θ := by unfold θ; positivity

theorem rule_extAlong_rank1_real (bm : BMode) (H : Heap ℝ) (x y n : Nat) (g m : ℝ) (wx : (H.val x).WF)
    (hdx : (H.val x).dims = [n]) (hy : H.val y = ⟨[], [m]⟩) :
    evalRule bm H ⟨[], [g]⟩ (.extAlongX x y 0)
      = .ok ⟨[n], (H.val x).data.map (fun v => g * (if |v - m| ≤ θ then 1 else 0))⟩ := by
  rw [rule_extAlong_rank1 bm H x y n g m wx hdx hy]
  congr 2
  apply List.map_congr_left
  intro v _
  rw [C03x.near_real, mul_eq]
  congr 1
  unfold θ
  simp [Scalar.ofBool]

theorem extAlong_select (bm : BMode) (H : Heap ℝ) (x y n : Nat) (g m : ℝ) (wx : (H.val x).WF)
    (hdx : (H.val x).dims = [n]) (hy : H.val y = ⟨[], [m]⟩) (P : ℝ → Prop) [DecidablePred P]
    (hP : ∀ v ∈ (H.val x).data, |v - m| ≤ θ ↔ P v) :
    evalRule bm H ⟨[], [g]⟩ (.extAlongX x y 0) = .ok ⟨[n], (H.val x).data.map (fun v => if P v then g else 0)⟩ := by
  rw [rule_extAlong_rank1_real bm H x y n g m wx hdx hy]
  congr 2
  apply List.map_congr_left
  intro v hv
  by_cases h : P v
  · rw [if_pos h, if_pos ((hP v hv).2 h), mul_one]
  · rw [if_neg h, if_neg (mt (hP v hv).1 h), mul_zero]

/-- **MaxAlong, subgradient selection** (rank-1 along dim 0, over ℝ): if the value `m` stored in the forward result is an
    upper bound of the elements (as the maximum is), the closure returns `g` at every position with `x_p ≥ m − 1e-240`
    — in particular at EVERY position where `x_p = m` (all tied maxima receive the full `g`, the contributions are not
    split) — and `0` at every position with `x_p < m − 1e-240`. -/
theorem extAlong_max_select (bm : BMode) (H : Heap ℝ) (x y n : Nat) (g m : ℝ) (wx : (H.val x).WF)
    (hdx : (H.val x).dims = [n]) (hy : H.val y = ⟨[], [m]⟩) (hub : ∀ v ∈ (H.val x).data, v ≤ m) :
    evalRule bm H ⟨[], [g]⟩ (.extAlongX x y 0)
        = .ok ⟨[n], (H.val x).data.map (fun v => if m - θ ≤ v then g else 0)⟩ ∧
      (∀ v : ℝ, v = m → (if m - θ ≤ v then g else 0) = g) ∧
      (∀ v : ℝ, v < m - θ → (if m - θ ≤ v then g else 0) = 0) := by
  refine ⟨?_, ?_, ?_⟩
  · exact extAlong_select bm H x y n g m wx hdx hy _ fun v hv => by
      rw [abs_sub_comm, abs_of_nonneg (sub_nonneg.2 (hub v hv))]; exact sub_le_comm
  · intro v hv
    rw [if_pos (by rw [hv]; linarith [θ_pos])]
  · intro v hv
    rw [if_neg (by linarith)]

/-- **MinAlong, subgradient selection**: symmetric — `g` where `x_p ≤ m + 1e-240` (every tied minimum), `0` above -/
theorem extAlong_min_select (bm : BMode) (H : Heap ℝ) (x y n : Nat) (g m : ℝ) (wx : (H.val x).WF)
    (hdx : (H.val x).dims = [n]) (hy : H.val y = ⟨[], [m]⟩) (hlb : ∀ v ∈ (H.val x).data, m ≤ v) :
    evalRule bm H ⟨[], [g]⟩ (.extAlongX x y 0)
        = .ok ⟨[n], (H.val x).data.map (fun v => if v ≤ m + θ then g else 0)⟩ ∧
      (∀ v : ℝ, v = m → (if v ≤ m + θ then g else 0) = g) ∧
      (∀ v : ℝ, m + θ < v → (if v ≤ m + θ then g else 0) = 0) := by
  refine ⟨?_, ?_, ?_⟩
  · exact extAlong_select bm H x y n g m wx hdx hy _ fun v hv => by
      rw [abs_of_nonneg (sub_nonneg.2 (hlb v hv))]; exact sub_le_iff_le_add'
  · intro v hv
    rw [if_pos (by rw [hv]; linarith [θ_pos])]
  · intro v hv
    rw [if_neg (by linarith)]

/-- **MaxAlong(0) of a vector, forward and backward together, on the Model's ℝ instance**: the forward call stores
    `M = Tensor.max x` (a left fold from the instance's `negInf`, which is `0` over ℝ — see `C05x.max_real_partial`:
    `M` bounds every element, and IS the maximum of the data as soon as one element is `≥ 0`); the closure then
    returns `g` exactly at the positions with `x_p ≥ M − 1e-240` and `0` elsewhere. -/
theorem maxAlong_vjp_real_partial (bm : BMode) (H : Heap ℝ) (x y n : Nat) (g : ℝ) (wx : (H.val x).WF)
    (hdx : (H.val x).dims = [n]) (hy : vAlong .max (H.val x) 0 = .ok (H.val y)) :
    H.val y = ⟨[], [(H.val x).max]⟩ ∧
    evalRule bm H ⟨[], [g]⟩ (.extAlongX x y 0)
        = .ok ⟨[n], (H.val x).data.map (fun v => if (H.val x).max - θ ≤ v then g else 0)⟩ ∧
    (∀ v ∈ (H.val x).data, v ≤ (H.val x).max) ∧
    ((∃ v ∈ (H.val x).data, 0 ≤ v) → (H.val x).max ∈ (H.val x).data) := by
  have hyv : H.val y = ⟨[], [(H.val x).max]⟩ := by
    rw [along_rank1_fwd .max (H.val x) n wx hdx] at hy
    injection hy with hy
    rw [← hy]; rfl
  obtain ⟨_, h2, _, h4, _⟩ := C05x.max_real_partial (H.val x)
  exact ⟨hyv, (extAlong_max_select bm H x y n g _ wx hdx hyv h2).1, h2, h4⟩

/-- **MinAlong(0) of a vector, forward and backward together** (the ℝ instance's `posInf` is `0`: `C05x.min_real_partial`) -/
theorem minAlong_vjp_real_partial (bm : BMode) (H : Heap ℝ) (x y n : Nat) (g : ℝ) (wx : (H.val x).WF)
    (hdx : (H.val x).dims = [n]) (hy : vAlong .min (H.val x) 0 = .ok (H.val y)) :
    H.val y = ⟨[], [(H.val x).min]⟩ ∧
    evalRule bm H ⟨[], [g]⟩ (.extAlongX x y 0)
        = .ok ⟨[n], (H.val x).data.map (fun v => if v ≤ (H.val x).min + θ then g else 0)⟩ ∧
    (∀ v ∈ (H.val x).data, (H.val x).min ≤ v) ∧
    ((∃ v ∈ (H.val x).data, v ≤ 0) → (H.val x).min ∈ (H.val x).data) := by
  have hyv : H.val y = ⟨[], [(H.val x).min]⟩ := by
    rw [along_rank1_fwd .min (H.val x) n wx hdx] at hy
    injection hy with hy
    rw [← hy]; rfl
  obtain ⟨_, h2, _, h4, _⟩ := C05x.min_real_partial (H.val x)
  exact ⟨hyv, (extAlong_min_select bm H x y n g _ wx hdx hyv h2).1, h2, h4⟩

/-- **COUNTEREXAMPLE to "the MaxAlong rule, fed with the forward result, hands `g` to the positions of the maximum" on the
    Model's ℝ instance**: for the all-negative vector `[-1, -2]` the forward `MaxAlong(0)` returns `0` (the instance has
    `negInf := 0`, see `C05x.max_real_counterexample`), no element is within `1e-240` of `0`, and the closure returns
    `[0, 0]` instead of `[g, 0]`. An artefact of the ℝ instance, not of the Go code (whose fold identity is `math.Inf(-1)`):
    `extAlong_max_select` / `maxAlong_vjp_deriv` state the rule for `y` holding a true upper bound / the true maximum, and
    `maxAlong_vjp_real_partial` states what holds on the ℝ instance itself. -/
theorem maxAlong_real_counterexample (bm : BMode) :
    vAlong .max (⟨[2], [-1, -2]⟩ : Tensor ℝ) 0 = .ok ⟨[], [0]⟩ ∧
    evalRule bm (#[⟨⟨[2], [-1, -2]⟩, {}⟩, ⟨⟨[], [0]⟩, {}⟩] : Heap ℝ) ⟨[], [1]⟩ (.extAlongX 0 1 0) = .ok ⟨[2], [0, 0]⟩ := by
  have w : (⟨[2], [-1, -2]⟩ : Tensor ℝ).WF := ⟨rfl, by intro d hd; simp at hd; omega⟩
  constructor
  · rw [along_rank1_fwd .max _ 2 w rfl]
    simp only [Reducer.fn]
    rw [C05x.max_real_counterexample]
  · have h := rule_extAlong_rank1_real bm (#[⟨⟨[2], [-1, -2]⟩, {}⟩, ⟨⟨[], [0]⟩, {}⟩] : Heap ℝ) 0 1 2 1 0 w rfl rfl
    rw [h]
    have hθ : θ < 1 := by unfold θ; norm_num
    have e1 : ¬ |(-1 : ℝ) - 0| ≤ θ := by norm_num; linarith
    have e2 : ¬ |(-2 : ℝ) - 0| ≤ θ := by norm_num; linarith
    show Out.ok (⟨[2], [1 * (if |(-1 : ℝ) - 0| ≤ θ then 1 else 0), 1 * (if |(-2 : ℝ) - 0| ≤ θ then 1 else 0)]⟩ : Tensor ℝ) = _
    rw [if_neg e1, if_neg e2]
    norm_num

theorem wf_ofFn {n : ℕ} (hn : 0 < n) (x : Fin n → ℝ) : (⟨[n], List.ofFn x⟩ : Tensor ℝ).WF :=
  ⟨by simp [prod], by intro d hd; simp at hd; omega⟩

theorem map_ofFn_select {n : ℕ} (x : Fin n → ℝ) (P : ℝ → Prop) [DecidablePred P] (g : ℝ) (i : Fin n) (hi : P (x i))
    (ho : ∀ p, p ≠ i → ¬ P (x p)) :
    (List.ofFn x).map (fun v => if P v then g else 0) = List.ofFn (fun p => if p = i then g else 0) := by
  rw [List.map_ofFn]
  congr 1
  funext p
  simp only [Function.comp_apply]
  by_cases hp : p = i
  · rw [if_pos hp, hp, if_pos hi]
  · rw [if_neg hp, if_neg (ho p hp)]

/-- a function of a vector that returns coordinate `i` near `x` when only `x_i` moves, and stays at `x_i` when only another
    coordinate moves, has gradient `e_i` at `x` -/
theorem hasDerivAt_selector {n : ℕ} (S : (Fin n → ℝ) → ℝ) (x : Fin n → ℝ) (i : Fin n) (g : ℝ)
    (hat : ∀ᶠ t in nhds (x i), S (Function.update x i t) = t)
    (hoff : ∀ p, p ≠ i → ∀ᶠ t in nhds (x p), S (Function.update x p t) = x i) (p : Fin n) :
    HasDerivAt (fun t => g * S (Function.update x p t)) (if p = i then g else 0) (x p) := by
  by_cases hp : p = i
  · subst hp
    rw [if_pos rfl]
    have hev : (fun t => g * S (Function.update x p t)) =ᶠ[nhds (x p)] fun t => g * t := hat.mono fun t ht => by
      simp only [ht]
    have := ((hasDerivAt_id (x p)).const_mul g).congr_of_eventuallyEq hev
    rwa [mul_one] at this
  · rw [if_neg hp]
    have hev : (fun t => g * S (Function.update x p t)) =ᶠ[nhds (x p)] fun _ => g * x i :=
      (hoff p hp).mono fun t ht => by simp only [ht]
    exact (hasDerivAt_const (x p) (g * x i)).congr_of_eventuallyEq hev

/-- `S` returns any coordinate that bounds all others from above (and satisfies `A`), coordinate `i` of `x` is strictly
    the largest: the two hypotheses of `hasDerivAt_selector` -/
theorem selector_of_max {β : Type} [LinearOrder β] [TopologicalSpace β] [OrderTopology β] {n : ℕ}
    (S : (Fin n → β) → β) (A : β → Prop)
    (hS : ∀ (z : Fin n → β) j, A (z j) → (∀ k, z k ≤ z j) → S z = z j) (x : Fin n → β) (i : Fin n)
    (hA : ∀ᶠ t in nhds (x i), A t) (hlt : ∀ k, k ≠ i → x k < x i) :
    (∀ᶠ t in nhds (x i), S (Function.update x i t) = t) ∧
    ∀ p, p ≠ i → ∀ᶠ t in nhds (x p), S (Function.update x p t) = x i := by
  constructor
  · have hall : ∀ᶠ t in nhds (x i), ∀ k, k ≠ i → x k < t :=
      Filter.eventually_all.mpr fun k => by
        by_cases hk : k = i
        · exact Filter.Eventually.of_forall fun _ h => absurd hk h
        · exact (eventually_gt_nhds (hlt k hk)).mono fun _ ht _ => ht
    filter_upwards [hall, hA] with t ht hAt
    rw [hS (Function.update x i t) i (by rwa [Function.update_self]) fun k => by
      by_cases hk : k = i
      · rw [hk]
      · rw [Function.update_of_ne hk, Function.update_self]; exact (ht k hk).le, Function.update_self]
  · intro p hp
    filter_upwards [eventually_lt_nhds (hlt p hp)] with t ht
    rw [hS (Function.update x p t) i (by rw [Function.update_of_ne (Ne.symm hp)]; exact hA.self_of_nhds) fun k => by
      rw [Function.update_of_ne (Ne.symm hp)]
      by_cases hk : k = p
      · rw [hk, Function.update_self]; exact ht.le
      · rw [Function.update_of_ne hk]
        by_cases hki : k = i
        · rw [hki]
        · exact (hlt k hki).le, Function.update_of_ne (Ne.symm hp)]

theorem selector_of_min {n : ℕ} (S : (Fin n → ℝ) → ℝ) (A : ℝ → Prop)
    (hS : ∀ (z : Fin n → ℝ) j, A (z j) → (∀ k, z j ≤ z k) → S z = z j) (x : Fin n → ℝ) (i : Fin n)
    (hA : ∀ᶠ t in nhds (x i), A t) (hlt : ∀ k, k ≠ i → x i < x k) :
    (∀ᶠ t in nhds (x i), S (Function.update x i t) = t) ∧
    ∀ p, p ≠ i → ∀ᶠ t in nhds (x p), S (Function.update x p t) = x i :=
  selector_of_max (β := ℝᵒᵈ) S A hS x i hA hlt

/-- the Model's `Max` over ℝ (a left fold from the instance's `negInf = 0`) is characterised by: non-negative, an upper
    bound of the data, and equal to `0` or to an element -/
theorem max_eq_of (t : Tensor ℝ) (m : ℝ) (h0 : 0 ≤ m) (hub : ∀ v ∈ t.data, v ≤ m) (hmem : m = 0 ∨ m ∈ t.data) :
    t.max = m := by
  obtain ⟨g0, g1, g2, _, _⟩ := C05x.max_real_partial t
  apply le_antisymm
  · rcases g2 with h | h
    · rw [h]; exact h0
    · exact hub _ h
  · rcases hmem with h | h
    · rw [h]; exact g0
    · exact g1 _ h

theorem max_ofFn_eq {n : ℕ} (z : Fin n → ℝ) (j : Fin n) (h0 : 0 ≤ z j) (hub : ∀ k, z k ≤ z j) :
    (⟨[n], List.ofFn z⟩ : Tensor ℝ).max = z j :=
  max_eq_of _ _ h0 (fun v hv => by obtain ⟨k, rfl⟩ := List.mem_ofFn.mp hv; exact hub k)
    (Or.inr (List.mem_ofFn.mpr ⟨j, rfl⟩))

/-- **MaxAlong(0) of a vector with a unique maximiser, over ℝ: the rule is the gradient of the Model's `Max`, times `g`.**
    If coordinate `i` exceeds every other coordinate by more than the equality threshold `1e-240` (and is positive — the
    ℝ instance folds from `0` instead of `−∞`), the closure returns `g` at `i` and `0` elsewhere, and each entry is the partial
    derivative with respect to that coordinate of `g · Max(x)`. (With ties — two coordinates within `1e-240` of the maximum —
    `Max` is not differentiable and the closure hands the full `g` to each of them: `extAlong_max_select`.) -/
theorem maxAlong_vjp_deriv_real_partial (bm : BMode) (H : Heap ℝ) (xn yn n : Nat) (x : Fin n → ℝ) (g : ℝ) (i : Fin n)
    (hx : H.val xn = ⟨[n], List.ofFn x⟩) (hy : vAlong .max (H.val xn) 0 = .ok (H.val yn))
    (hpos : 0 < x i) (hm : ∀ k, k ≠ i → x k < x i - θ) :
    evalRule bm H ⟨[], [g]⟩ (.extAlongX xn yn 0) = .ok ⟨[n], List.ofFn (fun p => if p = i then g else 0)⟩ ∧
    ∀ p, HasDerivAt (fun t => g * (⟨[n], List.ofFn (Function.update x p t)⟩ : Tensor ℝ).max)
      (if p = i then g else 0) (x p) := by
  have hn : 0 < n := Nat.lt_of_le_of_lt (Nat.zero_le _) i.isLt
  have wx : (H.val xn).WF := by rw [hx]; exact wf_ofFn hn x
  have hlt : ∀ k, k ≠ i → x k < x i := fun k hk => by linarith [hm k hk, θ_pos]
  have hM : (H.val xn).max = x i := by
    rw [hx]
    exact max_ofFn_eq x i hpos.le fun k => by
      by_cases hk : k = i
      · rw [hk]
      · exact (hlt k hk).le
  constructor
  · rw [(maxAlong_vjp_real_partial bm H xn yn n g wx (by rw [hx]) hy).2.1, hM, hx]
    congr 2
    exact map_ofFn_select x (fun v => x i - θ ≤ v) g i (by linarith [θ_pos]) fun p hp => by linarith [hm p hp]
  · obtain ⟨hat, hoff⟩ := selector_of_max (fun z => (⟨[n], List.ofFn z⟩ : Tensor ℝ).max) (fun a => 0 ≤ a)
      max_ofFn_eq x i ((eventually_gt_nhds hpos).mono fun _ ht => ht.le) hlt
    exact hasDerivAt_selector (fun z => (⟨[n], List.ofFn z⟩ : Tensor ℝ).max) x i g hat hoff

/-! ### artefact-free form: `y` holds the true maximum `maxF x = sup_k x_k` (what `math.Inf(-1)` as fold identity gives) -/

noncomputable def maxF {n : ℕ} (hn : 0 < n) (x : Fin n → ℝ) : ℝ :=
  Finset.univ.sup' ⟨⟨0, hn⟩, Finset.mem_univ _⟩ x

theorem maxF_eq_of {n : ℕ} (hn : 0 < n) (x : Fin n → ℝ) (i : Fin n) (hub : ∀ k, x k ≤ x i) : maxF hn x = x i := by
  unfold maxF
  apply le_antisymm
  · exact Finset.sup'_le _ _ (fun k _ => hub k)
  · exact Finset.le_sup' x (Finset.mem_univ i)

/-- **MaxAlong(0) of a vector with a unique maximiser: the rule is the gradient of the maximum, times `g`** — `y` holding
    the true maximum `sup_k x_k`, no sign condition. If `x_i` exceeds every other coordinate by more than `1e-240`, the
    closure returns `g·e_i`, and its `p`-th entry is the partial derivative of `g · max(x)` with respect to `x_p`. -/
theorem maxAlong_vjp_deriv (bm : BMode) (H : Heap ℝ) (xn yn n : Nat) (hn : 0 < n) (x : Fin n → ℝ) (g : ℝ) (i : Fin n)
    (hx : H.val xn = ⟨[n], List.ofFn x⟩) (hy : H.val yn = ⟨[], [maxF hn x]⟩) (hm : ∀ k, k ≠ i → x k < x i - θ) :
    evalRule bm H ⟨[], [g]⟩ (.extAlongX xn yn 0) = .ok ⟨[n], List.ofFn (fun p => if p = i then g else 0)⟩ ∧
    ∀ p, HasDerivAt (fun t => g * maxF hn (Function.update x p t)) (if p = i then g else 0) (x p) := by
  have wx : (H.val xn).WF := by rw [hx]; exact wf_ofFn hn x
  have hlt : ∀ k, k ≠ i → x k < x i := fun k hk => by linarith [hm k hk, θ_pos]
  have hub : ∀ k, x k ≤ x i := fun k => by
    by_cases hk : k = i
    · rw [hk]
    · exact (hlt k hk).le
  constructor
  · rw [(extAlong_max_select bm H xn yn n g (x i) wx (by rw [hx]) (by rw [hy, maxF_eq_of hn x i hub]) (by
      intro v hv
      rw [hx] at hv
      obtain ⟨k, rfl⟩ := List.mem_ofFn.mp hv
      exact hub k)).1, hx]
    congr 2
    exact map_ofFn_select x (fun v => x i - θ ≤ v) g i (by linarith [θ_pos]) fun p hp => by linarith [hm p hp]
  · obtain ⟨hat, hoff⟩ := selector_of_max (maxF hn) (fun _ => True) (fun z j _ h => maxF_eq_of hn z j h) x i
      (Filter.Eventually.of_forall fun _ => trivial) hlt
    exact hasDerivAt_selector _ x i g hat hoff

theorem min_eq_of (t : Tensor ℝ) (m : ℝ) (h0 : m ≤ 0) (hlb : ∀ v ∈ t.data, m ≤ v) (hmem : m = 0 ∨ m ∈ t.data) :
    t.min = m := by
  obtain ⟨g0, g1, g2, _, _⟩ := C05x.min_real_partial t
  apply le_antisymm
  · rcases hmem with h | h
    · rw [h]; exact g0
    · exact g1 _ h
  · rcases g2 with h | h
    · rw [h]; exact h0
    · exact hlb _ h

theorem min_ofFn_eq {n : ℕ} (z : Fin n → ℝ) (j : Fin n) (h0 : z j ≤ 0) (hlb : ∀ k, z j ≤ z k) :
    (⟨[n], List.ofFn z⟩ : Tensor ℝ).min = z j :=
  min_eq_of _ _ h0 (fun v hv => by obtain ⟨k, rfl⟩ := List.mem_ofFn.mp hv; exact hlb k)
    (Or.inr (List.mem_ofFn.mpr ⟨j, rfl⟩))

/-- **MinAlong(0) of a vector with a unique minimiser, over ℝ: the rule is the gradient of the Model's `Min`, times `g`**
    (coordinate `i` negative — the ℝ instance folds from `0` instead of `+∞` — and below every other by more than `1e-240`) -/
theorem minAlong_vjp_deriv_real_partial (bm : BMode) (H : Heap ℝ) (xn yn n : Nat) (x : Fin n → ℝ) (g : ℝ) (i : Fin n)
    (hx : H.val xn = ⟨[n], List.ofFn x⟩) (hy : vAlong .min (H.val xn) 0 = .ok (H.val yn))
    (hneg : x i < 0) (hm : ∀ k, k ≠ i → x i + θ < x k) :
    evalRule bm H ⟨[], [g]⟩ (.extAlongX xn yn 0) = .ok ⟨[n], List.ofFn (fun p => if p = i then g else 0)⟩ ∧
    ∀ p, HasDerivAt (fun t => g * (⟨[n], List.ofFn (Function.update x p t)⟩ : Tensor ℝ).min)
      (if p = i then g else 0) (x p) := by
  have hn : 0 < n := Nat.lt_of_le_of_lt (Nat.zero_le _) i.isLt
  have wx : (H.val xn).WF := by rw [hx]; exact wf_ofFn hn x
  have hlt : ∀ k, k ≠ i → x i < x k := fun k hk => by linarith [hm k hk, θ_pos]
  have hM : (H.val xn).min = x i := by
    rw [hx]
    exact min_ofFn_eq x i hneg.le fun k => by
      by_cases hk : k = i
      · rw [hk]
      · exact (hlt k hk).le
  constructor
  · rw [(minAlong_vjp_real_partial bm H xn yn n g wx (by rw [hx]) hy).2.1, hM, hx]
    congr 2
    exact map_ofFn_select x (fun v => v ≤ x i + θ) g i (by linarith [θ_pos]) fun p hp => by linarith [hm p hp]
  · obtain ⟨hat, hoff⟩ := selector_of_min (fun z => (⟨[n], List.ofFn z⟩ : Tensor ℝ).min) (fun a => a ≤ 0)
      min_ofFn_eq x i ((eventually_lt_nhds hneg).mono fun _ ht => ht.le) hlt
    exact hasDerivAt_selector (fun z => (⟨[n], List.ofFn z⟩ : Tensor ℝ).min) x i g hat hoff

noncomputable def minF {n : ℕ} (hn : 0 < n) (x : Fin n → ℝ) : ℝ :=
  Finset.univ.inf' ⟨⟨0, hn⟩, Finset.mem_univ _⟩ x

theorem minF_eq_of {n : ℕ} (hn : 0 < n) (x : Fin n → ℝ) (i : Fin n) (hlb : ∀ k, x i ≤ x k) : minF hn x = x i := by
  unfold minF
  apply le_antisymm
  · exact Finset.inf'_le x (Finset.mem_univ i)
  · exact Finset.le_inf' _ _ (fun k _ => hlb k)

/-- **MinAlong(0) of a vector with a unique minimiser: the rule is the gradient of the minimum, times `g`** — `y` holding
    the true minimum `inf_k x_k`, no sign condition -/
theorem minAlong_vjp_deriv (bm : BMode) (H : Heap ℝ) (xn yn n : Nat) (hn : 0 < n) (x : Fin n → ℝ) (g : ℝ) (i : Fin n)
    (hx : H.val xn = ⟨[n], List.ofFn x⟩) (hy : H.val yn = ⟨[], [minF hn x]⟩) (hm : ∀ k, k ≠ i → x i + θ < x k) :
    evalRule bm H ⟨[], [g]⟩ (.extAlongX xn yn 0) = .ok ⟨[n], List.ofFn (fun p => if p = i then g else 0)⟩ ∧
    ∀ p, HasDerivAt (fun t => g * minF hn (Function.update x p t)) (if p = i then g else 0) (x p) := by
  have wx : (H.val xn).WF := by rw [hx]; exact wf_ofFn hn x
  have hlt : ∀ k, k ≠ i → x i < x k := fun k hk => by linarith [hm k hk, θ_pos]
  have hlb : ∀ k, x i ≤ x k := fun k => by
    by_cases hk : k = i
    · rw [hk]
    · exact (hlt k hk).le
  constructor
  · rw [(extAlong_min_select bm H xn yn n g (x i) wx (by rw [hx]) (by rw [hy, minF_eq_of hn x i hlb]) (by
      intro v hv
      rw [hx] at hv
      obtain ⟨k, rfl⟩ := List.mem_ofFn.mp hv
      exact hlb k)).1, hx]
    congr 2
    exact map_ofFn_select x (fun v => v ≤ x i + θ) g i (by linarith [θ_pos]) fun p hp => by linarith [hm p hp]
  · obtain ⟨hat, hoff⟩ := selector_of_min (minF hn) (fun _ => True) (fun z j _ h => minF_eq_of hn z j h) x i
      (Filter.Eventually.of_forall fun _ => trivial) hlt
    exact hasDerivAt_selector _ x i g hat hoff

/-- non-vacuity (kernel-checked on `Int`, where the threshold is 0): node 0 = `[3, 7, 7, 1, 1]`, node 1 = its Max `7`,
    node 2 = its Min `1`; upstream gradient `5`: both tied maxima receive `5`, both tied minima receive `5` -/
def exHeap4 : Heap Int := #[⟨⟨[5], [3, 7, 7, 1, 1]⟩, {}⟩, ⟨⟨[], [7]⟩, {}⟩, ⟨⟨[], [1]⟩, {}⟩]

example : vAlong .max (exHeap4.val 0) 0 = .ok (exHeap4.val 1) ∧ vAlong .min (exHeap4.val 0) 0 = .ok (exHeap4.val 2) ∧
    evalRule .sum exHeap4 ⟨[], [5]⟩ (.extAlongX 0 1 0) = .ok ⟨[5], [0, 5, 5, 0, 0]⟩ ∧
    evalRule .sum exHeap4 ⟨[], [5]⟩ (.extAlongX 0 2 0) = .ok ⟨[5], [0, 0, 0, 5, 5]⟩ := by decide +kernel

/-- the general-rank theorem `rule_extAlong` on a matrix: MaxAlong(1) of `[[1,2,3],[4,5,6]]` = `[3, 6]`, upstream `[10, 20]` -/
example : evalRule .sum (#[⟨⟨[2, 3], [1, 2, 3, 4, 5, 6]⟩, {}⟩, ⟨⟨[2], [3, 6]⟩, {}⟩] : Heap Int) ⟨[2], [10, 20]⟩ (.extAlongX 0 1 1)
    = .ok ⟨[2, 3], [0, 0, 10, 0, 0, 20]⟩ := by decide +kernel

theorem zipWith_replicate {β : Type} (f : β → β → β) (g : β) : ∀ (l : List β),
    List.zipWith f (List.replicate l.length g) l = l.map (f g)
  | [] => rfl
  | a :: l => by simp [List.replicate_succ, zipWith_replicate f g l]

theorem wf_vec {n : Nat} (hn : 0 < n) (l : List α) (hl : l.length = n) : (⟨[n], l⟩ : Tensor α).WF :=
  ⟨by simp [prod, hl], by intro d hd; simp at hd; omega⟩

theorem wf_scalar (c : α) : (⟨[], [c]⟩ : Tensor α).WF := ⟨rfl, by simp⟩
theorem wf_one (c : α) : (⟨[1], [c]⟩ : Tensor α).WF := wf_vec Nat.one_pos _ rfl

theorem vUnSqueeze_scalar (c : α) : vUnSqueeze (⟨[], [c]⟩ : Tensor α) ((0 : Nat) : Int) = .ok ⟨[1], [c]⟩ :=
  (C09.vUnSqueeze_total _ (wf_scalar c) _).1 (by simp [validUnSqueeze])

section var
variable [Scalar α]

theorem reducerBroadcasted_rank1 (g : α) (n : Nat) (hn : 0 < n) :
    reducerBroadcasted ⟨[], [g]⟩ [n] 0 = .ok ⟨[n], List.replicate n g⟩ := by
  obtain ⟨r, e, hd, wr, hget⟩ := C02x.reducerBroadcasted_get (⟨[], [g]⟩ : Tensor α) [n] 0
    (by intro d hd; simp at hd; omega) (by simp) (wf_scalar g) rfl
  rw [e]
  congr 1
  apply rank1_ext r n _ wr hd (by simp)
  intro p hp
  rw [hget [p] (.cons hp .nil)]
  simp [at?_rank0, hp]

theorem arith_vec_one (o : Arith) (t : Tensor α) (n : Nat) (c : α) (wt : t.WF) (hd : t.dims = [n]) :
    vArith o t ⟨[1], [c]⟩ = .ok ⟨[n], t.data.map (fun v => o.fn v c)⟩ := by
  have hn : 0 < n := wt.2 n (by rw [hd]; simp)
  have hl : t.data.length = n := by have := wt.1; rw [hd] at this; simpa [prod] using this
  have hcompat : C03x.compat t.dims [1] = true := by rw [hd]; simp [C03x.compat, C03x.compatLE]
  obtain ⟨r, er⟩ := (C03x.arith_total o t ⟨[1], [c]⟩ wt (wf_one c)).1 hcompat
  obtain ⟨hrd, wr⟩ := C03x.arith_result_dims o _ _ r wt (wf_one c) er
  have htd : targetBroadcastDims [n] [1] = [n] := by
    have : (if n > 1 then n else 1) = n := by split <;> omega
    simp [targetBroadcastDims, targetBroadcastLE, this]
  have hrd' : r.dims = [n] := by rw [hrd, hd]; exact htd
  rw [er]
  congr 1
  apply rank1_eq_map r n t.data _ wr hrd' hl
  intro p hp
  have hj : Valid r.dims [p] := by rw [hrd']; exact .cons hp .nil
  have e2 : el (⟨[1], [c]⟩ : Tensor α) [0] = c := by simp [el, at?_singleton]
  rw [arith_el o t _ r wt (wf_one c) er (by rw [hrd', hd]) (by rw [hrd']; simp) hj, hrd', hd, projBE_self [n] [p] rfl,
    show projBE [1] [n] [p] = [0] from projBE_last_one [] [] n p rfl hp, e2, el_rank1 t n p hd hp (by omega)]

/-- the centred vector `x − mean(x)` as both rules compute it: `MeanAlong(0)`, `UnSqueeze(0)`, `Sub` -/
theorem centred_rank1 (t : Tensor α) (n : Nat) (wt : t.WF) (hd : t.dims = [n]) (K : Tensor α → Out (Tensor α)) :
    ((vAlong .mean t ((0 : Nat) : Int)).bind fun u => (vUnSqueeze u ((0 : Nat) : Int)).bind fun u =>
        (vArith .sub t u).bind K)
      = K ⟨[n], t.data.map (fun v => Scalar.sub v t.mean)⟩ := by
  have hself : (⟨[n], t.data⟩ : Tensor α) = t := by rw [← hd]
  rw [show ((0 : Nat) : Int) = 0 from rfl, along_rank1_fwd .mean t n wt hd]
  simp only [Out.bind_of_ok, Reducer.fn, hself]
  rw [show (0 : Int) = ((0 : Nat) : Int) from rfl, vUnSqueeze_scalar]
  simp only [Out.bind_of_ok]
  rw [arith_vec_one .sub t n _ wt hd]
  rfl

theorem mul_replicate (g : α) (t : Tensor α) (n : Nat) (wt : t.WF) (hd : t.dims = [n]) :
    vArith .mul ⟨[n], List.replicate n g⟩ t = .ok ⟨[n], t.data.map (fun v => Scalar.mul g v)⟩ := by
  have hn : 0 < n := wt.2 n (by rw [hd]; simp)
  have hl : t.data.length = n := by have := wt.1; rw [hd] at this; simpa [prod] using this
  rw [vArith_same .mul ⟨[n], List.replicate n g⟩ t (wf_vec hn _ (by simp)) wt hd.symm]
  congr 2
  rw [← hl]
  exact zipWith_replicate _ g t.data

/-- **`gradtrack.VarAlong`, rank-1 operand along dim 0** (the fibre is the whole vector; generic scalar domain): for `n = 1`
    zeros (`x.Scale(0)`), otherwise `[g · (2/(n−1)) · (x_p − mean(x))]_p`. -/
theorem rule_varAlong_rank1 (bm : BMode) (H : Heap α) (x n : Nat) (g : α) (wx : (H.val x).WF)
    (hdx : (H.val x).dims = [n]) :
    evalRule bm H ⟨[], [g]⟩ (.varAlongX x 0) =
      if n = 1 then .ok (vScale (H.val x) Scalar.zero)
      else .ok ⟨[n], (H.val x).data.map (fun v => Scalar.mul g
        (Scalar.mul (Scalar.div Scalar.two (Scalar.ofNat (n - 1))) (Scalar.sub v (H.val x).mean)))⟩ := by
  have hn : 0 < n := wx.2 n (by rw [hdx]; simp)
  have hl : (H.val x).data.length = n := by have := wx.1; rw [hdx] at this; simpa [prod] using this
  have hgd : (H.val x).dims.getD 0 0 = n := by rw [hdx]; rfl
  rw [evalRule_varAlongX, hgd, hdx, reducerBroadcasted_rank1 g n hn]
  simp only [Out.bind_of_ok]
  by_cases h1 : n = 1
  · rw [if_pos h1, if_pos h1]
  · rw [if_neg h1, if_neg h1, centred_rank1 (H.val x) n wx hdx,
      mul_replicate g (vScale _ _) n (map_wf _ _ (wf_vec hn _ (by rw [List.length_map, hl]))) rfl]
    simp only [vScale, Tensor.map, List.map_map]
    rfl

/-- **`gradtrack.StdAlong`, rank-1 operand along dim 0** (generic scalar domain), `s` the value stored in the forward result
    `y`: for `n = 1` zeros, otherwise `[g · (1/(n−1)) · ((x_p − mean(x)) / s)]_p`. -/
theorem rule_stdAlong_rank1 (bm : BMode) (H : Heap α) (x y n : Nat) (g s : α) (wx : (H.val x).WF)
    (hdx : (H.val x).dims = [n]) (hy : H.val y = ⟨[], [s]⟩) :
    evalRule bm H ⟨[], [g]⟩ (.stdAlongX x y 0) =
      if n = 1 then .ok (vScale (H.val x) Scalar.zero)
      else .ok ⟨[n], (H.val x).data.map (fun v => Scalar.mul g
        (Scalar.mul (Scalar.div Scalar.one (Scalar.ofNat (n - 1))) (Scalar.div (Scalar.sub v (H.val x).mean) s)))⟩ := by
  have hn : 0 < n := wx.2 n (by rw [hdx]; simp)
  have hl : (H.val x).data.length = n := by have := wx.1; rw [hdx] at this; simpa [prod] using this
  have hgd : (H.val x).dims.getD 0 0 = n := by rw [hdx]; rfl
  rw [evalRule_stdAlongX, hgd, hdx, reducerBroadcasted_rank1 g n hn]
  simp only [Out.bind_of_ok]
  by_cases h1 : n = 1
  · rw [if_pos h1, if_pos h1]
  · have w1 : (⟨[n], (H.val x).data.map (fun v => Scalar.sub v (H.val x).mean)⟩ : Tensor α).WF :=
      wf_vec hn _ (by rw [List.length_map, hl])
    rw [if_neg h1, if_neg h1, centred_rank1 (H.val x) n wx hdx, hy, vUnSqueeze_scalar]
    simp only [Out.bind_of_ok]
    rw [arith_vec_one .div _ n s w1 rfl]
    simp only [Out.bind_of_ok]
    rw [mul_replicate g (vScale _ _) n (map_wf _ _ (wf_vec hn _ (by rw [List.length_map, List.length_map, hl]))) rfl]
    simp only [vScale, Tensor.map, List.map_map]
    rfl

end var

noncomputable def meanF {n : ℕ} (x : Fin n → ℝ) : ℝ := (∑ k, x k) / (n : ℝ)
noncomputable def varF {n : ℕ} (x : Fin n → ℝ) : ℝ := (∑ k, (x k - meanF x) ^ 2) / ((n : ℝ) - 1)
noncomputable def stdF {n : ℕ} (x : Fin n → ℝ) : ℝ := Real.sqrt (varF x)

theorem sum_dev_zero {n : ℕ} (hn : 0 < n) (x : Fin n → ℝ) : ∑ k, (x k - meanF x) = 0 := by
  have hne : (n : ℝ) ≠ 0 := by exact_mod_cast hn.ne'
  rw [Finset.sum_sub_distrib, Finset.sum_const, Finset.card_univ, Fintype.card_fin, nsmul_eq_mul]
  unfold meanF
  field_simp
  ring

theorem d_meanF {n : ℕ} (x : Fin n → ℝ) (i : Fin n) :
    HasDerivAt (fun t => meanF (Function.update x i t)) (1 / (n : ℝ)) (x i) := by
  have h2 := (hasDerivAt_weighted_map id (fun _ => (1 : ℝ)) x (fun _ => 1) i (hasDerivAt_id (x i))).div_const (n : ℝ)
  simp only [one_mul, id_eq] at h2
  exact h2

theorem d_varF {n : ℕ} (hn : 0 < n) (x : Fin n → ℝ) (i : Fin n) :
    HasDerivAt (fun t => varF (Function.update x i t)) (2 / ((n : ℝ) - 1) * (x i - meanF x)) (x i) := by
  have hm := d_meanF x i
  have hk : ∀ k ∈ (Finset.univ : Finset (Fin n)),
      HasDerivAt (fun t => (Function.update x i t k - meanF (Function.update x i t)) ^ 2)
        (2 * (x k - meanF x) * ((if k = i then 1 else 0) - 1 / (n : ℝ))) (x i) := by
    intro k _
    have hu : HasDerivAt (fun t => Function.update x i t k) (if k = i then 1 else 0) (x i) := by
      by_cases hki : k = i
      · subst hki; simp only [Function.update_self, if_true]; exact hasDerivAt_id _
      · simp only [Function.update_of_ne hki, hki, if_false]; exact hasDerivAt_const _ _
    have := (hu.sub hm).pow 2
    refine this.congr_deriv ?_
    simp only [Pi.sub_apply, Function.update_eq_self]
    norm_num
  have hs := (HasDerivAt.fun_sum hk).div_const ((n : ℝ) - 1)
  unfold varF
  refine hs.congr_deriv ?_
  have e : ∑ k, 2 * (x k - meanF x) * ((if k = i then (1 : ℝ) else 0) - 1 / (n : ℝ)) = 2 * (x i - meanF x) := by
    have h1 : ∀ k, 2 * (x k - meanF x) * ((if k = i then (1 : ℝ) else 0) - 1 / (n : ℝ))
        = (if k = i then 2 * (x k - meanF x) else 0) - (2 / (n : ℝ)) * (x k - meanF x) := by
      intro k
      by_cases h : k = i
      · simp only [h, if_true]; ring
      · simp only [h, if_false]; ring
    simp only [h1, Finset.sum_sub_distrib, Finset.sum_ite_eq', Finset.mem_univ, if_true, ← Finset.mul_sum,
      sum_dev_zero hn x]
    ring
  rw [e]; ring

theorem d_stdF {n : ℕ} (hn : 0 < n) (x : Fin n → ℝ) (i : Fin n) (hv : varF x ≠ 0) :
    HasDerivAt (fun t => stdF (Function.update x i t)) (1 / ((n : ℝ) - 1) * ((x i - meanF x) / stdF x)) (x i) := by
  have h := (d_varF hn x i).sqrt (by simpa only [Function.update_eq_self] using hv)
  unfold stdF
  refine h.congr_deriv ?_
  simp only [Function.update_eq_self]
  rcases eq_or_ne (Real.sqrt (varF x)) 0 with h0 | h0
  · simp [h0]
  · field_simp

theorem mean_ofFn {n : ℕ} (x : Fin n → ℝ) : (⟨[n], List.ofFn x⟩ : Tensor ℝ).mean = meanF x := by
  rw [C05x.mean_real]
  simp [prod, List.sum_ofFn, meanF]

theorem var_ofFn {n : ℕ} (hn : 2 ≤ n) (x : Fin n → ℝ) : (⟨[n], List.ofFn x⟩ : Tensor ℝ).var = varF x := by
  rw [C05.var_real, if_pos (by simp [prod]; omega), mean_ofFn]
  simp [prod, List.map_ofFn, List.sum_ofFn, varF, Function.comp_def]

theorem std_ofFn {n : ℕ} (hn : 2 ≤ n) (x : Fin n → ℝ) : (⟨[n], List.ofFn x⟩ : Tensor ℝ).std = stdF x := by
  rw [(C05x.std_real _).1, var_ofFn hn x]; rfl

/-- **VarAlong(0) of a vector of length `n ≥ 2` over ℝ: the rule is the gradient of the sample variance, times `g`.**
    The closure returns `[g · 2 (x_i − mean) / (n − 1)]_i`, and that entry is the partial derivative with respect to `x_i`
    of `g · Var(x)`, `Var` being the Model's own forward function `Tensor.var` on the vector. -/
theorem varAlong_vjp_real (bm : BMode) (H : Heap ℝ) (xn n : Nat) (x : Fin n → ℝ) (g : ℝ) (hn : 2 ≤ n)
    (hx : H.val xn = ⟨[n], List.ofFn x⟩) :
    evalRule bm H ⟨[], [g]⟩ (.varAlongX xn 0)
        = .ok ⟨[n], List.ofFn (fun i => g * (2 / ((n : ℝ) - 1) * (x i - meanF x)))⟩ ∧
    ∀ i, HasDerivAt (fun t => g * (⟨[n], List.ofFn (Function.update x i t)⟩ : Tensor ℝ).var)
      (g * (2 / ((n : ℝ) - 1) * (x i - meanF x))) (x i) := by
  have hn0 : 0 < n := by omega
  have wx : (H.val xn).WF := by rw [hx]; exact wf_ofFn hn0 x
  refine ⟨?_, ?_⟩
  · rw [rule_varAlong_rank1 bm H xn n g wx (by rw [hx]), if_neg (by omega), hx, mean_ofFn]
    congr 2
    rw [List.map_ofFn]
    congr 1
    funext i
    have hc : ((n - 1 : ℕ) : ℝ) = (n : ℝ) - 1 := by rw [Nat.cast_sub (by omega), Nat.cast_one]
    simp only [Function.comp_apply, mul_eq, div_eq, sub_eq, two_eq, ofNat_eq, hc]
  · intro i
    have hf : (fun t => g * (⟨[n], List.ofFn (Function.update x i t)⟩ : Tensor ℝ).var)
        = fun t => g * varF (Function.update x i t) := by
      funext t; rw [var_ofFn hn]
    rw [hf]
    exact (d_varF hn0 x i).const_mul g

/-- **StdAlong(0) of a vector of length `n ≥ 2` over ℝ: the rule is the gradient of the sample standard deviation, times
    `g`** — `y` holding the forward value `Std(x)`. The closure returns `[g · (x_i − mean) / ((n − 1) · Std(x))]_i`
    (computed as `g · (1/(n−1)) · ((x_i − mean)/Std)`), and where `Var(x) ≠ 0` that entry is the partial derivative with
    respect to `x_i` of `g · Std(x)`, `Std` being the Model's `Tensor.std`. (For a constant vector `Std = 0`, the
    function is not differentiable and the closure divides by zero: over ℝ that gives 0, over float64 NaN.) -/
theorem stdAlong_vjp_real (bm : BMode) (H : Heap ℝ) (xn yn n : Nat) (x : Fin n → ℝ) (g : ℝ) (hn : 2 ≤ n)
    (hx : H.val xn = ⟨[n], List.ofFn x⟩) (hy : vAlong .std (H.val xn) 0 = .ok (H.val yn)) :
    H.val yn = ⟨[], [stdF x]⟩ ∧
    evalRule bm H ⟨[], [g]⟩ (.stdAlongX xn yn 0)
        = .ok ⟨[n], List.ofFn (fun i => g * (1 / ((n : ℝ) - 1) * ((x i - meanF x) / stdF x)))⟩ ∧
    (varF x ≠ 0 → ∀ i, HasDerivAt (fun t => g * (⟨[n], List.ofFn (Function.update x i t)⟩ : Tensor ℝ).std)
      (g * (1 / ((n : ℝ) - 1) * ((x i - meanF x) / stdF x))) (x i)) := by
  have hn0 : 0 < n := by omega
  have wx : (H.val xn).WF := by rw [hx]; exact wf_ofFn hn0 x
  have hyv : H.val yn = ⟨[], [stdF x]⟩ := by
    rw [along_rank1_fwd .std (H.val xn) n wx (by rw [hx])] at hy
    injection hy with hy
    rw [← hy, hx]
    simp only [Reducer.fn, std_ofFn hn x]
  refine ⟨hyv, ?_, ?_⟩
  · rw [rule_stdAlong_rank1 bm H xn yn n g (stdF x) wx (by rw [hx]) hyv, if_neg (by omega), hx, mean_ofFn]
    congr 2
    rw [List.map_ofFn]
    congr 1
    funext i
    have hc : ((n - 1 : ℕ) : ℝ) = (n : ℝ) - 1 := by rw [Nat.cast_sub (by omega), Nat.cast_one]
    simp only [Function.comp_apply, mul_eq, div_eq, sub_eq, one_eq, ofNat_eq, hc]
  · intro hv i
    have hf : (fun t => g * (⟨[n], List.ofFn (Function.update x i t)⟩ : Tensor ℝ).std)
        = fun t => g * stdF (Function.update x i t) := by
      funext t; rw [std_ofFn hn]
    rw [hf]
    exact (d_stdF hn0 x i hv).const_mul g

/-- **the `n = 1` branch**: the closure of VarAlong / StdAlong on a one-element vector returns `[0]`, and indeed the
    Model's `Var` / `Std` of a one-element vector are constantly `0`, so their derivative is `0` -/
theorem varStdAlong_one_real (bm : BMode) (H : Heap ℝ) (xn yn : Nat) (a g s : ℝ) (hx : H.val xn = ⟨[1], [a]⟩)
    (hy : H.val yn = ⟨[], [s]⟩) :
    evalRule bm H ⟨[], [g]⟩ (.varAlongX xn 0) = .ok ⟨[1], [0]⟩ ∧
    evalRule bm H ⟨[], [g]⟩ (.stdAlongX xn yn 0) = .ok ⟨[1], [0]⟩ ∧
    HasDerivAt (fun t => g * (⟨[1], [t]⟩ : Tensor ℝ).var) 0 a ∧
    HasDerivAt (fun t => g * (⟨[1], [t]⟩ : Tensor ℝ).std) 0 a := by
  have wx : (H.val xn).WF := by rw [hx]; exact wf_one a
  have hv : ∀ t : ℝ, (⟨[1], [t]⟩ : Tensor ℝ).var = 0 ∧ (⟨[1], [t]⟩ : Tensor ℝ).std = 0 :=
    fun t => (C05x.std_real _).2.2.2.2 (by simp [prod])
  refine ⟨?_, ?_, ?_, ?_⟩
  · rw [rule_varAlong_rank1 bm H xn 1 g wx (by rw [hx]), if_pos rfl, hx]
    simp [vScale, Tensor.map]
  · rw [rule_stdAlong_rank1 bm H xn yn 1 g s wx (by rw [hx]) hy, if_pos rfl, hx]
    simp [vScale, Tensor.map]
  · have : (fun t => g * (⟨[1], [t]⟩ : Tensor ℝ).var) = fun _ => (0 : ℝ) := by funext t; rw [(hv t).1, mul_zero]
    rw [this]; exact hasDerivAt_const _ _
  · have : (fun t => g * (⟨[1], [t]⟩ : Tensor ℝ).std) = fun _ => (0 : ℝ) := by funext t; rw [(hv t).2, mul_zero]
    rw [this]; exact hasDerivAt_const _ _

/-- the derivative values in the customary form: `g · 2(x_i − mean)/(n−1)` and `g · (x_i − mean)/((n−1)·Std)` -/
theorem var_std_factor_forms (n : ℕ) (g xi μ s : ℝ) :
    g * (2 / ((n : ℝ) - 1) * (xi - μ)) = g * (2 * (xi - μ) / ((n : ℝ) - 1)) ∧
    g * (1 / ((n : ℝ) - 1) * ((xi - μ) / s)) = g * ((xi - μ) / (((n : ℝ) - 1) * s)) := by
  constructor
  · ring
  · rw [one_div, ← div_eq_inv_mul, div_div, mul_comm s]

theorem el_ofFn {n : ℕ} (x : Fin n → ℝ) (p : ℕ) (hp : p < n) : el (⟨[n], List.ofFn x⟩ : Tensor ℝ) [p] = x ⟨p, hp⟩ := by
  unfold el
  rw [at?_singleton _ _ _ hp]
  simp [hp]

theorem d_dot {n : ℕ} (a b : Fin n → ℝ) (g : ℝ) (i : Fin n) :
    HasDerivAt (fun t => g * ∑ k, Function.update a i t k * b k) (g * b i) (a i) := by
  have h := (hasDerivAt_weighted_map id (fun _ => (1 : ℝ)) a b i (hasDerivAt_id (a i))).const_mul g
  simp only [id_eq, mul_one] at h
  have hf : (fun t => g * ∑ k, Function.update a i t k * b k) = fun t => g * ∑ k, b k * Function.update a i t k := by
    funext t
    congr 1
    apply Finset.sum_congr rfl
    intro k _; ring
  rw [hf]; exact h

/-- **Dot of two vectors over ℝ, forward and backward together**: the forward call returns the scalar-shaped tensor
    `Σ_k a_k b_k`; the closure applied to the scalar-shaped upstream gradient `g` returns `[g · b_i]_i`; and `g · b_i` is the
    partial derivative with respect to `a_i` of `g · Σ_k a_k b_k`. -/
theorem dot_vjp_real (bm : BMode) (H : Heap ℝ) (o n : Nat) (a b : Fin n → ℝ) (g : ℝ) (hn : 0 < n)
    (ho : H.val o = ⟨[n], List.ofFn b⟩) :
    vDot ⟨[n], List.ofFn a⟩ (H.val o) = .ok ⟨[], [∑ k, a k * b k]⟩ ∧
    evalRule bm H ⟨[], [g]⟩ (.dotG o) = .ok ⟨[n], List.ofFn (fun i => g * b i)⟩ ∧
    ∀ i, HasDerivAt (fun t => g * ∑ k, Function.update a i t k * b k) (g * b i) (a i) := by
  have wo : (H.val o).WF := by rw [ho]; exact wf_ofFn hn b
  refine ⟨?_, ?_, fun i => d_dot a b g i⟩
  · obtain ⟨c, e, hdc, wc, hget⟩ := vDot_get_real ⟨[n], List.ofFn a⟩ (H.val o) (wf_ofFn hn a) wo [] n rfl (by rw [ho]; rfl)
    rw [e]
    congr 1
    refine rank0_ext c wc hdc ?_
    rw [hget [] .nil, Finset.sum_range]
    congr 1
    refine Finset.sum_congr rfl fun k _ => ?_
    rw [ho]
    exact congrArg₂ (· * ·) (el_ofFn a k.val k.isLt) (el_ofFn b k.val k.isLt)
  · obtain ⟨r, e, hdr, wr, hget⟩ := rule_dot_real bm H ⟨[], [g]⟩ o [] n (wf_scalar g) wo rfl (by rw [ho]; rfl)
    rw [e]
    congr 1
    apply rank1_ext r n _ wr hdr (by simp)
    intro p hp
    have := hget [] p .nil hp
    simp only [List.nil_append] at this
    rw [this, ho, el_ofFn b p hp]
    rw [show el (⟨[], [g]⟩ : Tensor ℝ) [] = g from rfl, List.getElem?_ofFn, dif_pos hp]

/-- non-vacuity (kernel-checked on `Int`): node 0 = `[1, 3, 5]` (mean 3, `2/(n−1) = 1`), node 1 = `[7]` (the `n = 1`
    branch), node 2 = `[1, 5]` (mean 3, `1/(n−1) = 1`), node 3 = a scalar `2` standing in for the forward Std value (the
    `Int` instance has no square root); upstream gradient `2` -/
def exHeap3 : Heap Int :=
  #[⟨⟨[3], [1, 3, 5]⟩, {}⟩, ⟨⟨[1], [7]⟩, {}⟩, ⟨⟨[2], [1, 5]⟩, {}⟩, ⟨⟨[], [2]⟩, {}⟩]

example : evalRule .sum exHeap3 ⟨[], [2]⟩ (.varAlongX 0 0) = .ok ⟨[3], [-4, 0, 4]⟩ ∧
    evalRule .sum exHeap3 ⟨[], [2]⟩ (.varAlongX 1 0) = .ok ⟨[1], [0]⟩ ∧
    evalRule .sum exHeap3 ⟨[], [2]⟩ (.stdAlongX 2 3 0) = .ok ⟨[2], [-2, 2]⟩ ∧
    evalRule .sum exHeap3 ⟨[], [2]⟩ (.stdAlongX 1 3 0) = .ok ⟨[1], [0]⟩ := by decide +kernel

end C02y
end Qeep
