import QeepProofs.Bcast
import QeepProofs.Gates
/-!
# C03 — element-wise operations and implicit broadcasting compute the defined values
-/

namespace Qeep
namespace C03

variable {α : Type}

/-- **Unary operations** (Scale, Pow, Exp … Tanh): dims preserved, element `k` is the scalar function of
    element `k`; well-formedness preserved. -/
theorem unary_get (f : α → α) (t : Tensor α) :
    (t.map f).dims = t.dims ∧ (∀ k : Nat, (t.map f).data[k]? = (t.data[k]?).map f) ∧ (t.WF → (t.map f).WF) := by
  refine ⟨rfl, fun k => by simp [Tensor.map], ?_⟩
  intro h; exact ⟨by simpa [Tensor.map] using h.1, h.2⟩

/-- **Binary element-wise kernel** on operands of equal dims: never a panic, dims preserved, element `k`
    is the scalar operation of the two elements at position `k`. -/
theorem zip_get (f : α → α → α) (a b : Tensor α) (ha : a.WF) (hb : b.WF) (hd : a.dims = b.dims) :
    ∃ r, Tensor.zipRaw f a b = some r ∧ r.dims = a.dims ∧ r.WF ∧
      ∀ (k : Nat) x y, a.data[k]? = some x → b.data[k]? = some y → r.data[k]? = some (f x y) := by
  have hl : a.data.length = b.data.length := by rw [ha.1, hb.1, hd]
  refine ⟨⟨a.dims, List.zipWith f a.data b.data⟩, by simp [Tensor.zipRaw, hd, hl], rfl, ⟨?_, ha.2⟩, ?_⟩
  · simp [hl]; rw [hd]; exact hb.1
  · intro k x y hx hy
    simp [List.getElem?_zipWith, hx, hy]

/-- **Broadcast repeats source elements** — for every source shape, every target shape accepted by the
    validator and every target position: the element is the source element at the right-aligned index with
    size-1 (expanded) dimensions pinned to 0; new leading dimensions are ignored. Never a panic.
    `projLE` is that index map on little-endian indices (`u`, hence the `.reverse`s). -/
theorem broadcast_get (t : Tensor α) (hwf : t.WF) (shape : List Nat) (hpos : ∀ h ∈ shape, 0 < h)
    (hv : validBroadcast t.dims shape = true) :
    ∃ data, t.broadcastRaw shape = some ⟨shape, data⟩ ∧ (⟨shape, data⟩ : Tensor α).WF ∧
      ∀ u, Valid shape.reverse u →
        (⟨shape, data⟩ : Tensor α).at? u.reverse = t.at? (projLE t.dims.reverse shape.reverse u).reverse ∧
        ((⟨shape, data⟩ : Tensor α).at? u.reverse).isSome := by
  obtain ⟨data, h1, h2, h3⟩ := broadcastRaw_spec t hwf shape hpos hv
  exact ⟨data, h1, ⟨h2, hpos⟩, fun u hu =>
    at?_of_steps (fun u o => o = t.at? (projLE t.dims.reverse shape.reverse u).reverse ∧ o.isSome) hpos h3 hu⟩

/-- the public `Broadcast` is total: `ok` (a well-formed tensor of the requested shape; its elements: `broadcast_get`)
    when the validators accept, `err` otherwise -/
theorem vBroadcast_total (t : Tensor α) (hwf : t.WF) (shape : List Int) :
    (validInputDims shape = true ∧ validBroadcast t.dims (natDims shape) = true →
        ∃ r, vBroadcast t shape = .ok r ∧ r.dims = natDims shape ∧ r.WF) ∧
    (¬ (validInputDims shape = true ∧ validBroadcast t.dims (natDims shape) = true) → vBroadcast t shape = .err) := by
  unfold vBroadcast
  constructor
  · rintro ⟨h1, h2⟩
    obtain ⟨data, e, wf, _⟩ := broadcast_get t hwf (natDims shape) (natDims_pos h1) h2
    exact ⟨_, gate_eq_ok.2 ⟨by rw [h1, h2]; rfl, e⟩, rfl, wf⟩
  · intro h
    exact gate_err (by simpa using h)

theorem ofBool_cases [Scalar α] (b : Bool) : (Scalar.ofBool b : α) = Scalar.one ∨ (Scalar.ofBool b : α) = Scalar.zero := by
  cases b <;> simp [Scalar.ofBool]

/-- comparisons yield exactly 0 or 1 -/
theorem cmp_zero_one [Scalar α] (c : Cmp) (hc : c ≠ .elmax ∧ c ≠ .elmin) (x y : α) :
    c.fn x y = (Scalar.one : α) ∨ c.fn x y = (Scalar.zero : α) := by
  cases c
  case elmax => exact absurd rfl hc.1
  case elmin => exact absurd rfl hc.2
  all_goals exact ofBool_cases _

/-- non-vacuity: [2,1] → [2,2,3] is accepted and the theorem's index map sends (1,0,2) to (0,0) -/
example : validBroadcast [2, 1] [2, 2, 3] = true ∧ projLE [1, 2] [3, 2, 2] [2, 0, 1] = [0, 0] := by decide +kernel

end C03
end Qeep
