import QeepProps.C03
import QeepProps.C09x
import QeepProofs.ValueOps
import QeepProofs.Real
/-!
# C03 (extension) — implicit broadcasting of Add/Sub/Mul/Div and the `Equals` predicate

"For Add/Sub/Mul/Div a lower-rank operand or a size-1 dimension of either operand is repeated by right-aligned
(NumPy-style) broadcasting, the result has the broadcast shape, and the outcome is identical to broadcasting
explicitly first" — for every operation and all well-formed operands: the outcome equals that on the pair
`broadcastForBinaryOp` (model `vBroadcastPair`) returns, never a panic, `ok` exactly for right-aligned compatible
shapes, and each element is the scalar operation of the operands' elements at the right-aligned index.

"Equals is true exactly when every position compares equal" — under the model's scalar comparison `Scalar.near`
(Go: `math.Abs(x-y) <= 1e-240`), not under `=`: see `equals_iff_real_partial`.
-/

namespace Qeep
namespace C03x

variable {α : Type}

/-- right-aligned compatibility of two shapes (little-endian lists): aligned sizes are equal or one of them is 1 -/
def compatLE : List Nat → List Nat → Bool
  | [], _ => true
  | _ :: _, [] => true
  | a :: as, b :: bs => (a == b || a == 1 || b == 1) && compatLE as bs

def compat (d1 d2 : List Nat) : Bool := compatLE d1.reverse d2.reverse

theorem compatLE_self : ∀ l : List Nat, compatLE l l = true
  | [] => rfl
  | a :: l => by simp [compatLE, compatLE_self l]

theorem compat_step {a b : Nat} (ha : 0 < a) (hb : 0 < b) :
    ((a == (if a > b then a else b) || a == 1) && (b == (if a > b then a else b) || b == 1)) = (a == b || a == 1 || b == 1) := by
  rw [Bool.eq_iff_iff]
  by_cases hab : a > b <;> simp [hab] <;> omega

theorem valid_target_iff_compat : ∀ {d1 d2 : List Nat}, (∀ d ∈ d1, 0 < d) → (∀ d ∈ d2, 0 < d) →
    ((validBroadcastLE d1 (targetBroadcastLE d1 d2) && validBroadcastLE d2 (targetBroadcastLE d1 d2)) = compatLE d1 d2)
  | [], l, _, _ => by simp [targetBroadcastLE, validBroadcastLE, validBroadcastLE_self, compatLE]
  | a :: as, [], _, _ => by simp [targetBroadcastLE, validBroadcastLE, validBroadcastLE_self, compatLE]
  | a :: as, b :: bs, h1, h2 => by
    simp only [targetBroadcastLE, validBroadcastLE, compatLE]
    rw [← valid_target_iff_compat (fun x hx => h1 x (by simp [hx])) (fun x hx => h2 x (by simp [hx])),
      ← compat_step (h1 a (by simp)) (h2 b (by simp))]
    ac_rfl

/-- `broadcastForBinaryOp`'s validation (`C09.bcastPairOK`) is right-aligned compatibility -/
theorem bcastPairOK_eq_compat {d1 d2 : List Nat} (h1 : ∀ d ∈ d1, 0 < d) (h2 : ∀ d ∈ d2, 0 < d) :
    C09.bcastPairOK d1 d2 = compat d1 d2 := by
  have hc := valid_target_iff_compat (d1 := d1.reverse) (d2 := d2.reverse)
    (fun x hx => h1 x (by simpa using hx)) (fun x hx => h2 x (by simpa using hx))
  simpa [C09.bcastPairOK, validBroadcast, targetBroadcastDims, compat] using hc

theorem vBroadcastN_ok {t r : Tensor α} (hwf : t.WF) {shape : List Nat} (h : vBroadcastN t shape = .ok r) :
    validBroadcast t.dims shape = true ∧ (∀ d ∈ shape, 0 < d) ∧ t.broadcastRaw shape = some r ∧ r.dims = shape ∧ r.WF := by
  have hc := (gate_eq_ok.1 h).1
  rw [Bool.and_eq_true, natDims_ofNat] at hc
  have hpos := natDims_ofNat shape ▸ natDims_pos hc.1
  obtain ⟨r', e, hr, hd, hw⟩ := (C09.vBroadcastN_total t hwf shape hpos).1 hc.2
  obtain rfl : r' = r := Out.ok.inj (e.symm.trans h)
  exact ⟨hc.2, hpos, hr, hd, hw⟩

theorem vBroadcastN_get {t r : Tensor α} (hwf : t.WF) {shape : List Nat} (h : vBroadcastN t shape = .ok r) :
    ∀ u, Valid shape.reverse u →
      r.data[val shape.reverse u]? = t.at? (projLE t.dims.reverse shape.reverse u).reverse ∧
      (r.data[val shape.reverse u]?).isSome := by
  intro u hu
  obtain ⟨hv, hpos, hr, _, _⟩ := vBroadcastN_ok hwf h
  obtain ⟨data, h1, _, h3⟩ := broadcastRaw_spec t hwf shape hpos hv
  obtain rfl : (⟨shape, data⟩ : Tensor α) = r := Option.some.inj (h1.symm.trans hr)
  have hk := val_lt hu
  rw [prod_reverse] at hk
  have := h3 (val shape.reverse u) hk
  rwa [iter_val (fun d hd => hpos d (by simpa using hd)) hu] at this

theorem pair_ok {a b a' b' : Tensor α} (ha : a.WF) (hb : b.WF) (h : vBroadcastPair a b = .ok (a', b')) :
    vBroadcastN a (targetBroadcastDims a.dims b.dims) = .ok a' ∧
    vBroadcastN b (targetBroadcastDims a.dims b.dims) = .ok b' ∧
    a'.dims = targetBroadcastDims a.dims b.dims ∧ b'.dims = targetBroadcastDims a.dims b.dims ∧ a'.WF ∧ b'.WF := by
  obtain ⟨x, ea, h⟩ := Out.bind_eq_ok.1 h
  obtain ⟨y, eb, h⟩ := Out.bind_eq_ok.1 h
  obtain ⟨rfl, rfl⟩ := Prod.mk.inj (Out.ok.inj h)
  obtain ⟨_, _, _, d1, w1⟩ := vBroadcastN_ok ha ea
  obtain ⟨_, _, _, d2, w2⟩ := vBroadcastN_ok hb eb
  exact ⟨ea, eb, d1, d2, w1, w2⟩

theorem pair_total (a b : Tensor α) (ha : a.WF) (hb : b.WF) :
    (compat a.dims b.dims = true → ∃ a' b', vBroadcastPair a b = .ok (a', b')) ∧
    (compat a.dims b.dims = false → vBroadcastPair a b = .err) := by
  obtain ⟨p1, p2⟩ := C09.vBroadcastPair_total a b ha hb
  rw [bcastPairOK_eq_compat ha.2 hb.2] at p1 p2
  exact ⟨fun h => have ⟨a', b', e, _⟩ := p1 h; ⟨a', b', e⟩, p2⟩

section
variable [Scalar α]

/-- **Implicit broadcasting equals explicit broadcasting.** For every operation, all well-formed operands of
    any shapes: if `broadcastForBinaryOp` yields `(a', b')` then the arithmetic on `a, b` (which broadcasts
    implicitly) has the identical outcome as the arithmetic on the explicitly broadcast `a', b'`. -/
theorem arith_implicit_eq_explicit (o : Arith) (a b a' b' : Tensor α) (ha : a.WF) (hb : b.WF)
    (h : vBroadcastPair a b = .ok (a', b')) : vArith o a b = vArith o a' b' := by
  obtain ⟨_, _, da, db, wa, wb⟩ := pair_ok ha hb h
  have hd : a'.dims = b'.dims := by rw [da, db]
  have hl : a'.data.length = b'.data.length := by rw [wa.1, wb.1, hd]
  rw [vArith_same o a' b' wa wb hd]
  unfold vArith
  simp only [bind, Out.bind]
  rw [h]
  simp [Tensor.zipRaw, hd, hl, Out.ofOpt]

/-- the explicit form with the two `Broadcast` calls spelled out -/
theorem arith_implicit_eq_explicit' (o : Arith) (a b a' b' : Tensor α) (ha : a.WF) (hb : b.WF)
    (h1 : vBroadcastN a (targetBroadcastDims a.dims b.dims) = .ok a')
    (h2 : vBroadcastN b (targetBroadcastDims a.dims b.dims) = .ok b') : vArith o a b = vArith o a' b' := by
  apply arith_implicit_eq_explicit o a b a' b' ha hb
  unfold vBroadcastPair
  dsimp only
  rw [h1, Out.ok_bind, h2]
  rfl

theorem arith_err_of_pair_err (o : Arith) (a b : Tensor α) (h : vBroadcastPair a b = .err) : vArith o a b = .err := by
  unfold vArith
  rw [h]; rfl

theorem vArith_ok {o : Arith} {a b r : Tensor α} (ha : a.WF) (hb : b.WF) (h : vArith o a b = .ok r) :
    ∃ a' b', vBroadcastN a (targetBroadcastDims a.dims b.dims) = .ok a' ∧
      vBroadcastN b (targetBroadcastDims a.dims b.dims) = .ok b' ∧
      a'.dims = targetBroadcastDims a.dims b.dims ∧ b'.dims = targetBroadcastDims a.dims b.dims ∧ a'.WF ∧ b'.WF ∧
      r = ⟨a'.dims, List.zipWith o.fn a'.data b'.data⟩ := by
  obtain ⟨⟨a', b'⟩, hp, _⟩ := Out.bind_eq_ok.1 h
  obtain ⟨ea, eb, da, db, wa, wb⟩ := pair_ok ha hb hp
  rw [arith_implicit_eq_explicit o a b a' b' ha hb hp, vArith_same o a' b' wa wb (da.trans db.symm)] at h
  exact ⟨a', b', ea, eb, da, db, wa, wb, (Out.ok.inj h).symm⟩

/-- totality: on well-formed operands arithmetic never panics; it succeeds exactly for compatible shapes -/
theorem arith_total (o : Arith) (a b : Tensor α) (ha : a.WF) (hb : b.WF) :
    (compat a.dims b.dims = true → ∃ r, vArith o a b = .ok r) ∧
    (compat a.dims b.dims = false → vArith o a b = .err) := by
  obtain ⟨p1, p2⟩ := C09.vArith_total o a b ha hb
  rw [bcastPairOK_eq_compat ha.2 hb.2] at p1 p2
  exact ⟨fun h => have ⟨r, e, _⟩ := p1 h; ⟨r, e⟩, p2⟩

/-- non-vacuity: a `[2,1]` and a `[3]` operand; implicit and explicit agree (and are `ok`) -/
example :
    vBroadcastPair (⟨[2, 1], [1, 2]⟩ : Tensor Int) ⟨[3], [10, 20, 30]⟩
      = .ok (⟨[2, 3], [1, 1, 1, 2, 2, 2]⟩, ⟨[2, 3], [10, 20, 30, 10, 20, 30]⟩) ∧
    vArith .add (⟨[2, 1], [1, 2]⟩ : Tensor Int) ⟨[3], [10, 20, 30]⟩ = .ok ⟨[2, 3], [11, 21, 31, 12, 22, 32]⟩ ∧
    vArith .add (⟨[2, 3], [1, 1, 1, 2, 2, 2]⟩ : Tensor Int) ⟨[2, 3], [10, 20, 30, 10, 20, 30]⟩
      = .ok ⟨[2, 3], [11, 21, 31, 12, 22, 32]⟩ := by decide +kernel

/-- non-vacuity of the error direction: `[2]` against `[3]` -/
example : vBroadcastPair (⟨[2], [1, 2]⟩ : Tensor Int) ⟨[3], [10, 20, 30]⟩ = .err ∧
    vArith .mul (⟨[2], [1, 2]⟩ : Tensor Int) ⟨[3], [10, 20, 30]⟩ = .err ∧ compat [2] [3] = false := by decide +kernel

/-- **Result shape.** A successful Add/Sub/Mul/Div has the right-aligned broadcast shape of its operands and
    is well-formed. -/
theorem arith_result_dims (o : Arith) (a b r : Tensor α) (ha : a.WF) (hb : b.WF) (h : vArith o a b = .ok r) :
    r.dims = targetBroadcastDims a.dims b.dims ∧ r.WF := by
  obtain ⟨a', b', _, _, da, db, wa, wb, rfl⟩ := vArith_ok ha hb h
  exact ⟨da, zip_wf o.fn a' b' wa wb (da.trans db.symm)⟩

/-- the broadcast shape: the larger of the right-aligned sizes, the longer operand's sizes beyond the shorter
    one's rank -/
example : targetBroadcastDims [2, 1] [3] = [2, 3] ∧ targetBroadcastDims [4, 1, 3] [5, 1] = [4, 5, 3] := by decide +kernel

example : vArith .sub (⟨[2, 1], [1, 2]⟩ : Tensor Int) ⟨[3], [10, 20, 30]⟩ = .ok ⟨[2, 3], [-9, -19, -29, -8, -18, -28]⟩ := by
  decide +kernel

/-- **Element formula.** For every position `u` of the result (little-endian multi-index, `Valid`), the element
    is the scalar operation applied to the operands' elements at the right-aligned index `projLE`: positions of
    a size-1 dimension are pinned to 0 (the element is repeated) and the leading dimensions a lower-rank operand
    lacks are ignored. Both operand reads are in range. -/
theorem arith_get (o : Arith) (a b r : Tensor α) (ha : a.WF) (hb : b.WF) (h : vArith o a b = .ok r) :
    ∀ u, Valid r.dims.reverse u →
      ∃ x y, a.at? (projLE a.dims.reverse r.dims.reverse u).reverse = some x ∧
        b.at? (projLE b.dims.reverse r.dims.reverse u).reverse = some y ∧
        r.at? u.reverse = some (o.fn x y) := by
  intro u hu
  obtain ⟨a', b', ea, eb, da, db, wa, wb, rfl⟩ := vArith_ok ha hb h
  rw [Tensor.at?_reverse _ hu]
  simp only [da] at hu ⊢
  obtain ⟨ga, sa⟩ := vBroadcastN_get ha ea u hu
  obtain ⟨gb, sb⟩ := vBroadcastN_get hb eb u hu
  obtain ⟨x, hx⟩ := Option.isSome_iff_exists.1 sa
  obtain ⟨y, hy⟩ := Option.isSome_iff_exists.1 sb
  exact ⟨x, y, by rw [← ga, hx], by rw [← gb, hy], by simp [List.getElem?_zipWith, hx, hy]⟩

/-- non-vacuity: in `[2,1] + [3]` the element at (row 1, column 2) — little-endian `[2, 1]` — reads `a` at
    (1, 0) and `b` at (2) -/
example : projLE [1, 2] [3, 2] [2, 1] = [0, 1] ∧ projLE [3] [3, 2] [2, 1] = [2] ∧
    (⟨[2, 3], [11, 21, 31, 12, 22, 32]⟩ : Tensor Int).at? [1, 2] = some 32 ∧
    (⟨[2, 1], [1, 2]⟩ : Tensor Int).at? [1, 0] = some 2 ∧ (⟨[3], [10, 20, 30]⟩ : Tensor Int).at? [2] = some 30 := by
  decide +kernel

end

/-! ## `Equals`

`t.equals(u)` computes the element-wise `Eq` tensor (each element `1` if `|x - y| ≤ 1e-240`, i.e.
`Scalar.near x y`, else `0`), sums it and tests `sum ≥ float64(n)`. That this count test means "every
position compares equal" needs two facts about the scalar domain (`CountLaws`): adding the images of naturals is
exact, and comparing them is faithful. They hold for `Int`, `ℝ` (below) — and for `float64` as long as the
element count stays below 2^53. -/

section
variable [Scalar α]
open Scalar

structure CountLaws (α : Type) [Scalar α] : Prop where
  add_ofNat : ∀ m n : Nat, Scalar.add (Scalar.ofNat m : α) (Scalar.ofNat n) = Scalar.ofNat (m + n)
  le_ofNat : ∀ m n : Nat, Scalar.le (Scalar.ofNat m : α) (Scalar.ofNat n) = true ↔ m ≤ n

theorem ofBool_eq_ofNat (b : Bool) : (ofBool b : α) = ofNat (if b then 1 else 0) := by
  cases b <;> rfl

theorem foldl_count (L : CountLaws α) : ∀ (bs : List Bool) (c : Nat),
    (bs.map (fun b => (ofBool b : α))).foldl add (ofNat c) = ofNat (c + bs.count true)
  | [], c => by simp
  | b :: bs, c => by
    simp only [List.map_cons, List.foldl_cons]
    rw [ofBool_eq_ofNat, L.add_ofNat, foldl_count L bs]
    congr 1
    cases b <;> simp; omega

theorem all_zipWith_iff {β : Type} (p : β → β → Bool) : ∀ (l1 l2 : List β),
    (List.zipWith p l1 l2).all id = true ↔ ∀ (i : Nat) x y, l1[i]? = some x → l2[i]? = some y → p x y = true
  | [], _ => by simp
  | _ :: _, [] => by simp
  | a :: l1, b :: l2 => by
    simp only [List.zipWith_cons_cons, List.all_cons, id, Bool.and_eq_true, all_zipWith_iff p l1 l2]
    exact ⟨fun h i x y hx hy => match i with
        | 0 => by cases hx; cases hy; exact h.1
        | i + 1 => h.2 i x y hx hy,
      fun h => ⟨h 0 a b rfl rfl, fun i x y hx hy => h (i + 1) x y hx hy⟩⟩

/-- `Equals` on operands of different dims is the validator's error (not `false`) -/
theorem equals_dims_ne (a b : Tensor α) (h : a.dims ≠ b.dims) : vEquals a b = .err := by
  simp [vEquals, validDimsMatch, h]

theorem equals_same (a b : Tensor α) (ha : a.WF) (hb : b.WF) (hd : a.dims = b.dims) :
    vEquals a b = .ok (Scalar.ge ((List.zipWith (fun x y => (ofBool (near x y) : α)) a.data b.data).foldl add zero)
      (ofNat a.data.length)) := by
  have hl : a.data.length = b.data.length := by rw [ha.1, hb.1, hd]
  simp only [vEquals, validDimsMatch, hd, beq_self_eq_true, if_true, Tensor.zipRaw, hl, and_self, Option.map_some,
    Out.ofOpt, Tensor.sum, Tensor.fold, Tensor.numElems, Cmp.fn]
  rw [← hb.1]

theorem equals_eq_all (L : CountLaws α) (a b : Tensor α) (ha : a.WF) (hb : b.WF) (hd : a.dims = b.dims) :
    vEquals a b = .ok ((List.zipWith near a.data b.data).all id) := by
  have hl : a.data.length = b.data.length := by rw [ha.1, hb.1, hd]
  rw [equals_same a b ha hb hd]
  congr 1
  have e : List.zipWith (fun x y => (ofBool (near x y) : α)) a.data b.data
      = (List.zipWith near a.data b.data).map (fun c => (ofBool c : α)) := by
    rw [List.map_zipWith]
  have hlen : (List.zipWith near a.data b.data).length = a.data.length := by
    simp [List.length_zipWith, hl]
  rw [e]
  show Scalar.ge _ _ = _
  unfold Scalar.ge Scalar.zero
  rw [foldl_count L, Bool.eq_iff_iff, L.le_ofNat, ← hlen, List.all_eq_true]
  have hle := List.count_le_length (a := true) (l := List.zipWith near a.data b.data)
  constructor
  · intro h c hc
    have : List.count true (List.zipWith near a.data b.data) = (List.zipWith near a.data b.data).length := by omega
    exact ((List.count_eq_length.1 this) c hc).symm
  · intro h
    have : List.count true (List.zipWith near a.data b.data) = (List.zipWith near a.data b.data).length :=
      List.count_eq_length.2 (fun c hc => (h c hc).symm)
    omega

/-- **`Equals` is true exactly when every position compares equal** (well-formed operands of equal dims;
    the comparison is the model's `Scalar.near`, Go's `math.Abs(x-y) <= 1e-240`). -/
theorem equals_iff (L : CountLaws α) (a b : Tensor α) (ha : a.WF) (hb : b.WF) (hd : a.dims = b.dims) :
    vEquals a b = .ok true ↔
      ∀ (i : Nat) x y, a.data[i]? = some x → b.data[i]? = some y → near x y = true := by
  rw [equals_eq_all L a b ha hb hd, ← all_zipWith_iff]
  constructor
  · intro h; injection h
  · intro h; rw [h]

/-- the same with bounded positions `i < a.data.length` -/
theorem equals_iff_lt (L : CountLaws α) (a b : Tensor α) (ha : a.WF) (hb : b.WF) (hd : a.dims = b.dims) :
    vEquals a b = .ok true ↔
      ∀ (i : Nat) (hi : i < a.data.length),
        near a.data[i] (b.data[i]'(by rw [hb.1, ← hd, ← ha.1]; exact hi)) = true := by
  have hl : a.data.length = b.data.length := by rw [ha.1, hb.1, hd]
  rw [equals_iff L a b ha hb hd]
  constructor
  · intro h i hi
    exact h i _ _ (List.getElem?_eq_getElem hi) (List.getElem?_eq_getElem (hl ▸ hi))
  · intro h i x y hx hy
    obtain ⟨hi, ex⟩ := List.getElem?_eq_some_iff.1 hx
    obtain ⟨hj, ey⟩ := List.getElem?_eq_some_iff.1 hy
    rw [← ex, ← ey]
    exact h i hi

/-- and `Equals` is `ok false` exactly when some position does not compare equal -/
theorem equals_false_iff (L : CountLaws α) (a b : Tensor α) (ha : a.WF) (hb : b.WF) (hd : a.dims = b.dims) :
    vEquals a b = .ok false ↔
      ∃ (i : Nat) (x y : α), a.data[i]? = some x ∧ b.data[i]? = some y ∧ near x y = false := by
  rw [equals_eq_all L a b ha hb hd, Out.ok.injEq, ← Bool.not_eq_true, all_zipWith_iff]
  constructor
  · intro h
    apply Classical.byContradiction
    intro hne
    refine h fun i x y hx hy => ?_
    cases hn : near x y with
    | true => rfl
    | false => exact absurd ⟨i, x, y, hx, hy, hn⟩ hne
  · rintro ⟨i, x, y, hx, hy, hn⟩ h
    rw [h i x y hx hy] at hn
    cases hn

end

theorem countLaws_int : CountLaws Int where
  add_ofNat m n := by
    show (m : Int) + (n : Int) = ((m + n : Nat) : Int)
    omega
  le_ofNat m n := by
    show decide ((m : Int) ≤ (n : Int)) = true ↔ m ≤ n
    rw [decide_eq_true_eq]; omega

theorem near_int (x y : Int) : Scalar.near x y = decide (x = y) := by
  show decide ((if x - y < 0 then -(x - y) else x - y) ≤ (if (240 : Nat) = 0 then ((1 : Nat) : Int) else 0)) = decide (x = y)
  have e : (if (240 : Nat) = 0 then ((1 : Nat) : Int) else 0) = 0 := by decide +kernel
  rw [e, Bool.eq_iff_iff, decide_eq_true_eq, decide_eq_true_eq]
  split <;> omega

/-- over `Int`, for **all** well-formed operands: `Equals` answers `true` exactly when the tensors are equal -/
theorem equals_iff_int (a b : Tensor Int) (ha : a.WF) (hb : b.WF) : vEquals a b = .ok true ↔ a = b := by
  by_cases hd : a.dims = b.dims
  · have hl : a.data.length = b.data.length := by rw [ha.1, hb.1, hd]
    rw [equals_iff countLaws_int a b ha hb hd]
    constructor
    · intro h
      have : a.data = b.data := by
        apply List.ext_getElem hl
        intro i h1 h2
        have := h i _ _ (List.getElem?_eq_getElem h1) (List.getElem?_eq_getElem h2)
        rw [near_int, decide_eq_true_eq] at this
        exact this
      cases a; cases b; simp only [Tensor.mk.injEq] at hd this ⊢; exact ⟨hd, this⟩
    · intro h i x y hx hy
      rw [h, hy] at hx
      injection hx with hx
      rw [near_int, decide_eq_true_eq]; exact hx.symm
  · rw [equals_dims_ne a b hd]
    constructor
    · intro h; cases h
    · intro h; rw [h] at hd; exact absurd rfl hd

/-- over `Int`, equal dims: the answer is literally `a.data = b.data` -/
theorem equals_int_data (a b : Tensor Int) (ha : a.WF) (hb : b.WF) (hd : a.dims = b.dims) :
    vEquals a b = .ok (decide (a.data = b.data)) := by
  obtain ⟨da, xa⟩ := a
  obtain ⟨db, xb⟩ := b
  obtain rfl : da = db := hd
  have h := equals_iff_int ⟨da, xa⟩ ⟨da, xb⟩ ha hb
  rw [equals_eq_all countLaws_int _ _ ha hb rfl] at h ⊢
  simp only [Out.ok.injEq, Tensor.mk.injEq, true_and] at h
  rw [Out.ok.injEq, Bool.eq_iff_iff, h, decide_eq_true_eq]

/-- non-vacuity: equal tensors, tensors differing in one position, tensors of different dims -/
example : vEquals (⟨[2, 2], [1, 2, 3, 4]⟩ : Tensor Int) ⟨[2, 2], [1, 2, 3, 4]⟩ = .ok true ∧
    vEquals (⟨[2, 2], [1, 2, 3, 4]⟩ : Tensor Int) ⟨[2, 2], [1, 2, 5, 4]⟩ = .ok false ∧
    vEquals (⟨[2, 2], [1, 2, 3, 4]⟩ : Tensor Int) ⟨[4], [1, 2, 3, 4]⟩ = .err ∧
    (⟨[2, 2], [1, 2, 3, 4]⟩ : Tensor Int).WF := by decide +kernel

theorem countLaws_real : CountLaws ℝ where
  add_ofNat m n := by
    show (m : ℝ) + (n : ℝ) = ((m + n : ℕ) : ℝ)
    exact (Nat.cast_add m n).symm
  le_ofNat m n := by
    show decide ((m : ℝ) ≤ (n : ℝ)) = true ↔ m ≤ n
    rw [decide_eq_true_eq]; exact Nat.cast_le

theorem near_real (x y : ℝ) : Scalar.near x y = decide (|x - y| ≤ 1 / (10 : ℝ) ^ 240) := by
  show decide (|x - y| ≤ ((1 : ℕ) : ℝ) / (10 : ℝ) ^ 240) = _
  rw [Nat.cast_one]

/-- over `ℝ`: `Equals` is true exactly when all positions are within the model's threshold `1e-240` -/
theorem equals_iff_real (a b : Tensor ℝ) (ha : a.WF) (hb : b.WF) (hd : a.dims = b.dims) :
    vEquals a b = .ok true ↔
      ∀ (i : Nat) x y, a.data[i]? = some x → b.data[i]? = some y → |x - y| ≤ 1 / (10 : ℝ) ^ 240 := by
  rw [equals_iff countLaws_real a b ha hb hd]
  constructor
  · intro h i x y hx hy
    have := h i x y hx hy
    rw [near_real, decide_eq_true_eq] at this; exact this
  · intro h i x y hx hy
    rw [near_real, decide_eq_true_eq]; exact h i x y hx hy

theorem equals_real_of_eq (a : Tensor ℝ) (ha : a.WF) : vEquals a a = .ok true := by
  rw [equals_iff_real a a ha ha rfl]
  intro i x y hx hy
  rw [hx] at hy; injection hy with hy
  rw [hy, sub_self, abs_zero]
  positivity

/-- the reading "`Equals` is true iff `a.data = b.data`" is FALSE over `ℝ` for the model as written (and for the
    Go code: `float64EqualityThreshold = 1e-240`): only the direction `equals_real_of_eq` holds. Counterexample:
    `[0]` and `[1e-240]` are `Equals` yet differ. (Over `Int` the threshold literal truncates to 0 and the
    comparison is equality: `near_int`, `equals_iff_int`.) -/
theorem equals_iff_real_partial :
    ∃ a b : Tensor ℝ, a.WF ∧ b.WF ∧ a.dims = b.dims ∧ vEquals a b = .ok true ∧ a.data ≠ b.data := by
  have hc : (0 : ℝ) < 1 / (10 : ℝ) ^ 240 := by positivity
  refine ⟨⟨[1], [0]⟩, ⟨[1], [1 / (10 : ℝ) ^ 240]⟩, by decide, ⟨rfl, by decide⟩, rfl, ?_, ?_⟩
  · rw [equals_iff_real ⟨[1], [0]⟩ ⟨[1], [1 / (10 : ℝ) ^ 240]⟩ (by decide) ⟨rfl, by decide⟩ rfl]
    intro i x y hx hy
    cases i with
    | zero =>
      simp only [List.getElem?_cons_zero, Option.some.injEq] at hx hy
      rw [← hx, ← hy, zero_sub, abs_neg, abs_of_pos hc]
    | succ i => simp at hx
  · intro h
    simp only [List.cons.injEq, and_true] at h
    exact absurd h (ne_of_lt hc)

end C03x
end Qeep
