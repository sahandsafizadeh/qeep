import QeepProofs.Transpose
import QeepProofs.MatMul
import QeepProofs.Gates
/-!
# C04 — MatMul, Dot and Transpose implement batched linear algebra for every shape

`transpose_get` (every rank ≥ 2, every dimension size); `matmul_get` and `dot_get`: the element formulas of the
batched products for operands of equal batch dims.
-/

namespace Qeep
namespace C04

variable {α : Type}

theorem transposeDims_rev (d0 d1 : Nat) (ds : List Nat) (dims : List Nat) (h : dims.reverse = d0 :: d1 :: ds) :
    (transposeDims dims).reverse = d1 :: d0 :: ds := by
  rw [transposeDims_eq, List.reverse_reverse, h]; rfl

/-- **Transpose swaps the last two dimensions** — for every rank ≥ 2 and all dimension sizes: never a panic, and the
    element at (little-endian) index `u` is the source element at `u` with the first two entries swapped; i.e.
    `y[p…, i, j] = x[p…, j, i]` for every batch prefix `p`. -/
theorem transpose_get (t : Tensor α) (hwf : t.WF) (hr : 2 ≤ t.dims.length) :
    ∃ data, t.transposeRaw = some ⟨transposeDims t.dims, data⟩ ∧ (⟨transposeDims t.dims, data⟩ : Tensor α).WF ∧
      ∀ u, Valid (transposeDims t.dims).reverse u →
        (⟨transposeDims t.dims, data⟩ : Tensor α).at? u.reverse = t.at? (swap2 u).reverse ∧
        ((⟨transposeDims t.dims, data⟩ : Tensor α).at? u.reverse).isSome := by
  obtain ⟨d0, d1, ds, hrev⟩ : ∃ d0 d1 ds, t.dims.reverse = d0 :: d1 :: ds := by
    match h : t.dims.reverse with
    | [] | [_] =>
      have := congrArg List.length h
      simp only [List.length_reverse, List.length_nil, List.length_cons] at this; omega
    | a :: b :: r => exact ⟨a, b, r, rfl⟩
  have hsh := transposeDims_rev d0 d1 ds t.dims hrev
  have hposT : ∀ d ∈ transposeDims t.dims, 0 < d := fun d hd => hwf.2 d (mem_transposeDims.mp hd)
  have hpos' : ∀ d ∈ d1 :: d0 :: ds, 0 < d := hsh ▸ pos_reverse hposT
  -- every step: the generator state is the `k`-th index of the transposed shape, swapped: a valid source index
  obtain ⟨data, h1, h2, h3⟩ := allSome_range_exists (prod (transposeDims t.dims))
    (fun k => t.at? (iterN (incrT t.dims.reverse) k (zerosLike t.dims)).reverse)
    (fun k x => t.at? (swap2 (iterN (incr (transposeDims t.dims).reverse) k
      (zerosLike (transposeDims t.dims).reverse))).reverse = some x)
    (fun k _ => by
      have hval := valid_reverse (valid_swap2 (valid_iter hpos' k))
      rw [show swap2 (d1 :: d0 :: ds) = t.dims.reverse from hrev.symm, List.reverse_reverse] at hval
      obtain ⟨x, e⟩ := Option.isSome_iff_exists.mp (at?_valid t hwf hval)
      rw [← zerosLike_reverse, hrev, iterT_swap d0 d1 ds k, hsh]
      exact ⟨x, e, e⟩)
  refine ⟨data, ?_, ⟨h2, hposT⟩, fun u hu => ?_⟩
  · unfold Tensor.transposeRaw genData
    simp only []
    rw [iterGen_eq, h1]; rfl
  · exact at?_of_steps (fun u o => o = t.at? (swap2 u).reverse ∧ o.isSome) hposT
      (fun k hk => by obtain ⟨x, e1, e2⟩ := h3 k hk; rw [e1, e2]; exact ⟨rfl, rfl⟩) hu

/-- the public `Transpose`: accepted exactly for rank ≥ 2, then never a panic -/
theorem vTranspose_total (t : Tensor α) (hwf : t.WF) :
    (2 ≤ t.dims.length → ∃ r, vTranspose t = .ok r ∧ r.dims = transposeDims t.dims ∧ r.WF) ∧
    (t.dims.length < 2 → vTranspose t = .err) := by
  constructor
  · intro h
    obtain ⟨data, e, wf, _⟩ := transpose_get t hwf h
    exact ⟨_, gate_eq_ok.2 ⟨decide_eq_true h, e⟩, rfl, wf⟩
  · intro h
    exact gate_err (decide_eq_false (by omega))

/-- non-vacuity: a [2,3] tensor -/
example : (⟨[2, 3], [1, 2, 3, 4, 5, 6]⟩ : Tensor Nat).WF ∧
    (⟨[2, 3], [1, 2, 3, 4, 5, 6]⟩ : Tensor Nat).transposeRaw = some ⟨[3, 2], [1, 4, 2, 5, 3, 6]⟩ := by decide +kernel

end C04
end Qeep

namespace Qeep
namespace C04
variable {α : Type} [Scalar α]

/-- **MatMul multiplies the trailing two dimensions as matrices for every batch index** — for operands whose batch
    dims are equal (what `broadcastForMatMul` hands to the kernel; the expansion itself is `C03.broadcast_get`), every
    batch rank and all sizes including 1: no panic, result dims `batch ++ [m, k]`, and
    `y[b, i, j] = Σ_p A[b, i, p] · B[b, p, j]` (left fold from 0, the order the Go loop uses). -/
theorem matmul_get (bd : List Nat) (m n k : Nat) (d1 d2 : List α)
    (hbd : ∀ d ∈ bd, 0 < d) (hm : 0 < m) (hn : 0 < n) (hk : 0 < k)
    (h1 : d1.length = prod (bd ++ [m, n])) (h2 : d2.length = prod (bd ++ [n, k]))
    (A B : List Nat → Nat → Nat → α)
    (hA : ∀ pre i p, Valid bd pre → i < m → p < n → (⟨bd ++ [m, n], d1⟩ : Tensor α).at? (pre ++ [i, p]) = some (A pre i p))
    (hB : ∀ pre p j, Valid bd pre → p < n → j < k → (⟨bd ++ [n, k], d2⟩ : Tensor α).at? (pre ++ [p, j]) = some (B pre p j)) :
    ∃ data, (⟨bd ++ [m, n], d1⟩ : Tensor α).matMulRaw ⟨bd ++ [n, k], d2⟩ = some ⟨bd ++ [m, k], data⟩ ∧
      data.length = prod (bd ++ [m, k]) ∧
      ∀ pre i j, Valid bd pre → i < m → j < k →
        (⟨bd ++ [m, k], data⟩ : Tensor α).at? (pre ++ [i, j]) =
          some ((List.range n).foldl (fun s p => Scalar.add s (Scalar.mul (A pre i p) (B pre p j))) Scalar.zero) :=
  matMulRaw_spec bd m n k d1 d2 hbd hm hn hk h1 h2 A B hA hB

/-- **Dot contracts the last dimension**: `y[b] = Σ_p a[b, p] · b[b, p]` for every leading shape -/
theorem dot_get (bd : List Nat) (n : Nat) (d1 d2 : List α) (hbd : ∀ d ∈ bd, 0 < d) (hn : 0 < n)
    (h1 : d1.length = prod (bd ++ [n])) (h2 : d2.length = prod (bd ++ [n]))
    (A B : List Nat → Nat → α)
    (hA : ∀ pre p, Valid bd pre → p < n → (⟨bd ++ [n], d1⟩ : Tensor α).at? (pre ++ [p]) = some (A pre p))
    (hB : ∀ pre p, Valid bd pre → p < n → (⟨bd ++ [n], d2⟩ : Tensor α).at? (pre ++ [p]) = some (B pre p)) :
    ∃ data, (⟨bd ++ [n], d1⟩ : Tensor α).dotRaw ⟨bd ++ [n], d2⟩ = some ⟨bd, data⟩ ∧ data.length = prod bd ∧
      ∀ pre, Valid bd pre →
        (⟨bd, data⟩ : Tensor α).at? pre =
          some ((List.range n).foldl (fun s p => Scalar.add s (Scalar.mul (A pre p) (B pre p))) Scalar.zero) :=
  dotRaw_spec bd n d1 d2 hbd hn h1 h2 A B hA hB

/-- non-vacuity (kernel-checked on `Int`): a batched product with a size-1 batch dimension expanded -/
example : vMatMul (⟨[2, 1, 2], [1, 2, 3, 4]⟩ : Tensor Int) ⟨[1, 2, 2], [1, 0, 0, 1]⟩ = .ok ⟨[2, 1, 2], [1, 2, 3, 4]⟩ := by
  decide +kernel

end C04
end Qeep
