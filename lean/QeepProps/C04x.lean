import QeepProps.C04
import QeepProps.C06
import QeepProps.C09
import QeepProps.C09x
import QeepProps.C03x
import QeepProofs.ValueOps
import QeepProofs.Real
/-!
# C04 / C06 (algebraic consequences) — identities assembled from the element formulas

`C04.transpose_get`, `C04.matmul_get`, `C06.slice_get`, `C06.patch_get`, `C06.concat_get` say what every element of
a result is. This file derives the *tensor-level* identities the properties list as consequences: extensionality,
`Transpose (Transpose t) = t`, the Slice / Patch and Slice / Concat round trips, the public `MatMul` element formula
(common batch shape, or one plain matrix against a batch), `A·I = A = I·A` and `(A·B)ᵀ = Bᵀ·Aᵀ`.

The ring identities are proved once for any scalar domain satisfying `RingLaws` and instantiated at ℝ; `Int` also
satisfies the laws, which gives kernel-checked (`decide`) witnesses. Everything else holds for every element type.
Multi-indices are big-endian lists, `Valid dims idx` is position-wise, as in `C06`.
-/

namespace Qeep
namespace C04x

variable {α : Type}

theorem valid_of_reverse {ds st : List Nat} (h : Valid ds.reverse st) : Valid ds st.reverse := by
  have := valid_reverse h
  rwa [List.reverse_reverse] at this

/-- **Extensionality**: a well-formed tensor is determined by its dims and its elements at the valid indices. -/
theorem tensor_ext (a b : Tensor α) (ha : a.WF) (hb : b.WF) (hd : a.dims = b.dims)
    (h : ∀ idx, Valid a.dims idx → a.at? idx = b.at? idx) : a = b := by
  have hpos : ∀ d ∈ a.dims.reverse, 0 < d := fun d hd' => ha.2 d (by simpa using hd')
  have hdata : a.data = b.data := by
    apply List.ext_getElem?
    intro k
    by_cases hk : k < prod a.dims
    · -- the k-th row-major position is the valid index the odometer shows after k steps
      have hv : Valid a.dims.reverse (iterN (incr a.dims.reverse) k (zerosLike a.dims.reverse)) := valid_iter hpos k
      have hval : val a.dims.reverse (iterN (incr a.dims.reverse) k (zerosLike a.dims.reverse)) = k := by
        rw [val_iter hpos k, prod_reverse, Nat.mod_eq_of_lt hk]
      have hvb : Valid a.dims (iterN (incr a.dims.reverse) k (zerosLike a.dims.reverse)).reverse := valid_of_reverse hv
      have e1 := a.at?_of_valid hvb
      have e2 := b.at?_of_valid (hd ▸ hvb)
      rw [List.reverse_reverse, hval] at e1
      rw [List.reverse_reverse, ← hd, hval] at e2
      rw [← e1, ← e2]
      exact h _ hvb
    · rw [List.getElem?_eq_none (by rw [ha.1]; omega), List.getElem?_eq_none (by rw [hb.1, ← hd]; omega)]
  cases a; cases b
  simp only at hd hdata
  rw [hd, hdata]

/-- non-vacuity, and why well-formedness is a hypothesis: trailing junk data are invisible to `at?`, so the two tensors
    below agree on dims and on every valid index yet differ — the second one is not well formed -/
example : (⟨[2], [1, 2]⟩ : Tensor Int).WF ∧ ¬ (⟨[2], [1, 2, 3]⟩ : Tensor Int).WF ∧
    (⟨[2], [1, 2]⟩ : Tensor Int).at? [0] = (⟨[2], [1, 2, 3]⟩ : Tensor Int).at? [0] ∧
    (⟨[2], [1, 2]⟩ : Tensor Int).at? [1] = (⟨[2], [1, 2, 3]⟩ : Tensor Int).at? [1] ∧
    (⟨[2], [1, 2]⟩ : Tensor Int) ≠ ⟨[2], [1, 2, 3]⟩ := by decide +kernel

theorem transposeDims_invol (dims : List Nat) : transposeDims (transposeDims dims) = dims := by
  rw [transposeDims_eq, transposeDims_eq, List.reverse_reverse, swap2_swap2, List.reverse_reverse]

theorem transposeDims_length (dims : List Nat) : (transposeDims dims).length = dims.length := by
  rw [transposeDims_eq, List.length_reverse, swap2_length, List.length_reverse]

theorem vTranspose_get (t r : Tensor α) (hwf : t.WF) (h : vTranspose t = .ok r) :
    2 ≤ t.dims.length ∧ r.dims = transposeDims t.dims ∧ r.WF ∧
      ∀ u, Valid (transposeDims t.dims).reverse u → r.at? u.reverse = t.at? (swap2 u).reverse := by
  obtain ⟨hv, e'⟩ := gate_eq_ok.1 h
  have hr : 2 ≤ t.dims.length := by simpa [validTranspose] using hv
  obtain ⟨data, e, wf, hget⟩ := C04.transpose_get t hwf hr
  obtain rfl := Option.some.inj (e.symm.trans e')
  exact ⟨hr, rfl, wf, fun u hu => (hget u hu).1⟩

/-- **Transpose is an involution**, for every rank ≥ 2 and all sizes (dims and data). -/
theorem transpose_involution (t t' : Tensor α) (hwf : t.WF) (h : vTranspose t = .ok t') : vTranspose t' = .ok t := by
  obtain ⟨hr, hd', wf', hget'⟩ := vTranspose_get t t' hwf h
  have hr' : 2 ≤ t'.dims.length := by rw [hd', transposeDims_length]; exact hr
  obtain ⟨t'', e'', hd'', wf''⟩ := (C04.vTranspose_total t' wf').1 hr'
  obtain ⟨_, _, _, hget''⟩ := vTranspose_get t' t'' wf' e''
  rw [e'']
  congr 1
  have hdims : t''.dims = t.dims := by rw [hd'', hd', transposeDims_invol]
  apply tensor_ext t'' t wf'' hwf hdims
  intro idx hidx
  -- write the big-endian index as the reverse of a little-endian one
  have hu : Valid (transposeDims t'.dims).reverse idx.reverse := by
    rw [← hd'']; exact valid_reverse hidx
  have h1 := hget'' idx.reverse hu
  rw [List.reverse_reverse] at h1
  have hu' : Valid (transposeDims t.dims).reverse (swap2 idx.reverse) := by
    rw [transposeDims_eq, List.reverse_reverse]
    rw [hd', transposeDims_invol] at hu
    exact valid_swap2 hu
  have h2 := hget' (swap2 idx.reverse) hu'
  rw [h1, h2, swap2_swap2, List.reverse_reverse]

/-- non-vacuity (kernel-checked on `Int`): a batched [2,2,3] tensor, transposed twice -/
example : vTranspose (⟨[2, 2, 3], [1, 2, 3, 4, 5, 6, 7, 8, 9, 10, 11, 12]⟩ : Tensor Int)
      = .ok ⟨[2, 3, 2], [1, 4, 2, 5, 3, 6, 7, 10, 8, 11, 9, 12]⟩ ∧
    vTranspose (⟨[2, 3, 2], [1, 4, 2, 5, 3, 6, 7, 10, 8, 11, 9, 12]⟩ : Tensor Int)
      = .ok ⟨[2, 2, 3], [1, 2, 3, 4, 5, 6, 7, 8, 9, 10, 11, 12]⟩ := by decide +kernel

/-- every range of the complete index covers exactly the source size -/
inductive Covers : List (Nat × Nat) → List Nat → Prop
  | nil : Covers [] []
  | cons {f t W s ss} : t = f + s → Covers W ss → Covers ((f, t) :: W) (s :: ss)

theorem covers_complete : ∀ {idx sds dds}, C06.PatchOK idx sds dds → Covers (completeIndex idx sds) sds
  | _, _, _, .nil => by simp [completeIndex]; exact .nil
  | _, _, _, .omit h hr => by
    simp only [completeIndex]
    exact .cons (by omega) (covers_complete hr)
  | _, _, _, .cons (f := f) (t := t) (sd := sd) h hrange hr => by
    simp only [completeIndex]
    split
    · exact .cons (by omega) (covers_complete hr)
    · rename_i hne
      rcases hrange with h0 | h1
      · exact absurd h0 hne
      · exact .cons (by omega) (covers_complete hr)

theorem sliceDims_covers : ∀ {W pd}, Covers W pd → sliceDims W = pd
  | _, _, .nil => rfl
  | _, _, .cons h hc => by
    have ih := sliceDims_covers hc
    simp only [sliceDims] at ih
    simp only [sliceDims, List.map_cons, ih]
    congr 1; omega

theorem completeIndex_covers : ∀ {W pd} (gd : List Nat), Covers W pd → (∀ s ∈ pd, 0 < s) → pd.length = gd.length →
    completeIndex W gd = W
  | _, _, [], .nil, _, _ => by simp [completeIndex]
  | _, _, _ :: _, .nil, _, hl => by simp at hl
  | _, _, [], .cons _ _, _, hl => by simp at hl
  | _, _, d :: gd, .cons (f := f) (t := t) (s := s) h hc, hpos, hl => by
    have hs : 0 < s := hpos s (by simp)
    have ih := completeIndex_covers gd hc (fun x hx => hpos x (by simp [hx])) (by simpa using hl)
    simp only [completeIndex]
    rw [if_neg (by omega), ih]

theorem inBlock_covers : ∀ {W pd js}, Covers W pd → Valid pd js → InBlock W js
  | _, _, _, .nil, .nil => .nil
  | _, _, _, .cons h hc, .cons hj hv => .cons (by omega) (inBlock_covers hc hv)

theorem patchedRange_spec {a b : Int} {s d : Nat} (hs : 0 < s) (hle : s ≤ d) (hr : validRange (a, b) d = true) :
    validRange (if (a == 0 && b == 0) = true then (0, (s : Int)) else (a, b)) d = true ∧
    (fun (p : IRange) => (p.1.toNat, p.2.toNat)) (if (a == 0 && b == 0) = true then (0, (s : Int)) else (a, b))
      = if a.toNat = 0 ∧ b.toNat = 0 then (0, s) else (a.toNat, b.toNat) := by
  rcases validRange_iff.1 hr with ⟨rfl, rfl⟩ | h1
  · exact ⟨validRange_iff.2 (.inr ⟨by omega, by omega, by omega⟩), by simp⟩
  · rw [if_neg (by simp only [Bool.and_eq_true, beq_iff_eq]; omega), if_neg (by omega)]
    exact ⟨hr, rfl⟩

theorem patchedBlock_spec : ∀ (index : List IRange) (pd gd : List Nat), validPatchIndex index pd gd = true →
    (∀ s ∈ pd, 0 < s) →
    validSliceIndex (patchedBlock index pd) gd = true ∧
      natRanges (patchedBlock index pd) = completeIndex (natRanges index) pd
  | index, [], gd, h, _ => by
    have : gd = [] := by
      cases gd with
      | nil => rfl
      | cons _ _ => simp [validPatchIndex] at h
    subst this
    cases index <;> simp [patchedBlock, validSliceIndex, natRanges, completeIndex]
  | _, s :: ss, [], h, _ => by simp [validPatchIndex] at h
  | [], s :: ss, d :: ds, h, hpos => by
    obtain ⟨hle, hrest⟩ := validPatchIndex_nil_cons.1 h
    have hs : 0 < s := hpos s (by simp)
    obtain ⟨ih1, ih2⟩ := patchedBlock_spec [] ss ds hrest (fun x hx => hpos x (by simp [hx]))
    refine ⟨(validSliceIndex_cons_iff _ _ _ _).2 ⟨validRange_iff.2 (.inr ⟨by omega, by omega, by omega⟩), ih1⟩, ?_⟩
    simp only [natRanges, List.map_nil] at ih2
    simp only [patchedBlock, natRanges, List.map_cons, List.map_nil, completeIndex, Int.toNat_zero, Int.toNat_natCast, ih2]
  | (a, b) :: rest, s :: ss, d :: ds, h, hpos => by
    obtain ⟨hle, hr, _, hrest⟩ := validPatchIndex_cons.1 h
    obtain ⟨ih1, ih2⟩ := patchedBlock_spec rest ss ds hrest (fun x hx => hpos x (by simp [hx]))
    obtain ⟨p1, p2⟩ := patchedRange_spec (hpos s (by simp)) hle hr
    exact ⟨(validSliceIndex_cons_iff _ _ _ _).2 ⟨p1, ih1⟩, congr (congrArg List.cons p2) ih2⟩

theorem shift_unshift : ∀ {W sds dds js}, FitsP W sds dds → Valid sds js →
    Valid dds (shiftIdx W js) ∧ insideP W sds (shiftIdx W js) = true ∧ unshiftP W (shiftIdx W js) = js
  | _, _, _, _, .nil, .nil => ⟨.nil, rfl, rfl⟩
  | _, _, _, _, .cons (f := f) (sd := sd) hfit hrest, .cons (s := j) hj hv => by
    obtain ⟨h1, h2, h3⟩ := shift_unshift hrest hv
    refine ⟨?_, ?_, ?_⟩
    · simp only [shiftIdx]; exact .cons (by omega) h1
    · simp only [shiftIdx, insideP, h2, Bool.and_true, decide_eq_true_eq]; omega
    · simp only [shiftIdx, unshiftP, h3]; congr 1; omega

theorem insideP_iff : ∀ {W sds dds js}, FitsP W sds dds → Valid dds js →
    (insideP W sds js = true ↔ ∀ k, k < js.length → (W.getD k (0, 0)).1 ≤ js.getD k 0 ∧ js.getD k 0 < (W.getD k (0, 0)).1 + sds.getD k 0)
  | _, _, _, _, .nil, .nil => by simp [insideP]
  | _, _, _, _, .cons _ hrest, .cons _ hv => by
    simp only [insideP, Bool.and_eq_true, decide_eq_true_eq, List.length_cons]
    exact ⟨fun h k hk => match k with
        | 0 => h.1
        | k + 1 => (insideP_iff hrest hv).1 h.2 k (Nat.lt_of_succ_lt_succ hk),
      fun h => ⟨h 0 (Nat.succ_pos _), (insideP_iff hrest hv).2 fun k hk => h (k + 1) (Nat.succ_lt_succ hk)⟩⟩

theorem vPatch_get (t p r : Tensor α) (ht : t.WF) (hp : p.WF) (index : List IRange) (h : vPatch t index p = .ok r) :
    validPatchIndex index p.dims t.dims = true ∧ r.dims = t.dims ∧ r.WF ∧
      ∀ js, Valid t.dims js →
        r.at? js = if insideP (completeIndex (natRanges index) p.dims) p.dims js
          then p.at? (unshiftP (completeIndex (natRanges index) p.dims) js) else t.at? js := by
  obtain ⟨hv, e'⟩ := gate_eq_ok.1 h
  obtain ⟨data, e, hlen, hget⟩ := C06.patch_get t p ht hp (natRanges index) (C09.patchOK_of_valid index _ _ hv)
  obtain rfl := Option.some.inj (e.symm.trans e')
  exact ⟨hv, rfl, ⟨hlen, ht.2⟩, hget⟩

/-- **Slicing the window that was patched returns the patch** — for every rank and every mix of explicit, omitted
    and `{0,0}` ranges. `patchedBlock index p.dims` is the block `gradtrack.Patch` slices for the source operand: the
    given range where explicit, `[0, size of p)` where omitted or `{0,0}`. -/
theorem slice_of_patch (t p r : Tensor α) (ht : t.WF) (hp : p.WF) (index : List IRange)
    (h : vPatch t index p = .ok r) : vSlice r (patchedBlock index p.dims) = .ok p := by
  obtain ⟨hv, hd, wr, hget⟩ := vPatch_get t p r ht hp index h
  have hpok := C09.patchOK_of_valid index _ _ hv
  have hfit := C06.fitsP_complete hpok
  have hcov := covers_complete hpok
  have hlen : p.dims.length = r.dims.length := by rw [hd]; exact hfit.lengths
  obtain ⟨hvs, hnat⟩ := patchedBlock_spec index p.dims t.dims hv hp.2
  rw [← hd] at hvs
  obtain ⟨data, e, hl, hsl⟩ := C06.slice_get r wr _ (C09.rangesOK_of_valid _ _ hvs)
  rw [hnat, completeIndex_covers r.dims hcov hp.2 hlen, sliceDims_covers hcov] at e hl hsl
  refine gate_eq_ok.2 ⟨hvs, ?_⟩
  rw [hnat, e]
  refine congrArg some (tensor_ext ⟨p.dims, data⟩ p ⟨hl, hp.2⟩ hp rfl (fun js hjs => ?_))
  obtain ⟨h1, h2, h3⟩ := shift_unshift hfit hjs
  rw [hsl js (inBlock_covers hcov hjs), hget _ h1, if_pos h2, h3]

/-- **Patch outside the window leaves the target**: "outside" is `insideP … = false`, some coordinate outside
    `[From, From + size of p)` of its range (`insideP_iff`). -/
theorem patch_outside (t p r : Tensor α) (ht : t.WF) (hp : p.WF) (index : List IRange)
    (h : vPatch t index p = .ok r) :
    r.dims = t.dims ∧ r.WF ∧
      ∀ js, Valid t.dims js → insideP (completeIndex (natRanges index) p.dims) p.dims js = false → r.at? js = t.at? js := by
  obtain ⟨hv, hd, wr, hget⟩ := vPatch_get t p r ht hp index h
  refine ⟨hd, wr, ?_⟩
  intro js hjs hout
  rw [hget js hjs, hout]; rfl

/-- the same, with "outside" spelled out: some coordinate `k` of the index misses the written range along dimension `k` -/
theorem patch_outside' (t p r : Tensor α) (ht : t.WF) (hp : p.WF) (index : List IRange)
    (h : vPatch t index p = .ok r) (js : List Nat) (hjs : Valid t.dims js) (k : Nat) (hk : k < js.length)
    (hout : js.getD k 0 < ((completeIndex (natRanges index) p.dims).getD k (0, 0)).1 ∨
      ((completeIndex (natRanges index) p.dims).getD k (0, 0)).1 + p.dims.getD k 0 ≤ js.getD k 0) :
    r.at? js = t.at? js := by
  obtain ⟨hv, _, _, _⟩ := vPatch_get t p r ht hp index h
  have hfit := C06.fitsP_complete (C09.patchOK_of_valid index _ _ hv)
  apply (patch_outside t p r ht hp index h).2.2 js hjs
  cases hb : insideP (completeIndex (natRanges index) p.dims) p.dims js with
  | false => rfl
  | true =>
    have := (insideP_iff hfit hjs).mp hb k hk
    omega

/-- non-vacuity (kernel-checked on `Int`): a [2,2] patch into a [3,3] target with the partial index `{1:3}` (offset 0
    along the omitted dimension); the block is `{1:3},{0:2}`, slicing it returns the patch -/
example : vPatch (⟨[3, 3], [1, 2, 3, 4, 5, 6, 7, 8, 9]⟩ : Tensor Int) [(1, 3)] ⟨[2, 2], [10, 20, 30, 40]⟩
      = .ok ⟨[3, 3], [1, 2, 3, 10, 20, 6, 30, 40, 9]⟩ ∧
    patchedBlock [(1, 3)] [2, 2] = [(1, 3), (0, 2)] ∧
    vSlice (⟨[3, 3], [1, 2, 3, 10, 20, 6, 30, 40, 9]⟩ : Tensor Int) (patchedBlock [(1, 3)] [2, 2])
      = .ok ⟨[2, 2], [10, 20, 30, 40]⟩ := by decide +kernel

/-- the complete window of the k-th operand: `[base, base+len)` at `dim`, the whole dimension elsewhere -/
def catWin : Nat → Nat → Nat → List Nat → List (Nat × Nat)
  | _, _, _, [] => []
  | 0, base, len, _ :: ds => (base, base + len) :: ds.map (fun d => (0, d))
  | dim + 1, base, len, d :: ds => (0, d) :: catWin dim base len ds

def addAt : Nat → Nat → List Nat → List Nat
  | _, _, [] => []
  | 0, b, j :: js => (j + b) :: js
  | k + 1, b, j :: js => j :: addAt k b js

theorem completeIndex_zeros : ∀ (l : List IRange) (ds : List Nat), (∀ r ∈ l, r = ((0 : Int), (0 : Int))) →
    completeIndex (natRanges l) ds = ds.map (fun d => (0, d))
  | _, [], _ => by simp [completeIndex]
  | [], d :: ds, _ => by
    have ih := completeIndex_zeros [] ds (by simp)
    simp only [natRanges, List.map_nil] at ih
    simp [natRanges, completeIndex, ih]
  | r :: l, d :: ds, h => by
    have ih := completeIndex_zeros l ds (fun x hx => h x (by simp [hx]))
    have hr : r = (0, 0) := h r (by simp)
    simp only [natRanges] at ih
    simp [natRanges, completeIndex, hr, ih]

theorem range_map_succ {β : Type} (g : Nat → β) (n : Nat) :
    (List.range (n + 1)).map g = g 0 :: (List.range n).map (fun i => g (i + 1)) := by
  rw [List.range_succ_eq_map]
  simp [List.map_map, Function.comp_def]

theorem completeIndex_oneRange : ∀ (dim base len : Nat) (ds : List Nat) (g : Nat → IRange), 0 < len →
    g dim = ((base : Int), ((base + len : Nat) : Int)) → (∀ i, i ≠ dim → g i = (0, 0)) →
    completeIndex (natRanges ((List.range ds.length).map g)) ds = catWin dim base len ds
  | _, _, _, [], _, _, _, _ => by simp [completeIndex, catWin]
  | 0, base, len, d :: ds, g, hl, hg, hz => by
    rw [List.length_cons, range_map_succ, hg]
    have hrest := completeIndex_zeros ((List.range ds.length).map (fun i => g (i + 1))) ds (by
      intro r hr
      obtain ⟨i, _, rfl⟩ := List.mem_map.mp hr
      exact hz (i + 1) (by omega))
    simp only [natRanges, List.map_cons, completeIndex, catWin] at hrest ⊢
    have hne : ¬ ((base : Int).toNat = 0 ∧ ((base + len : Nat) : Int).toNat = 0) := by omega
    rw [if_neg hne, hrest]
    simp only [Int.toNat_natCast]
  | dim + 1, base, len, d :: ds, g, hl, hg, hz => by
    rw [List.length_cons, range_map_succ, hz 0 (by omega)]
    have ih := completeIndex_oneRange dim base len ds (fun i => g (i + 1)) hl hg
      (fun i hi => hz (i + 1) (by omega))
    simp only [natRanges, List.map_cons, completeIndex, catWin] at ih ⊢
    rw [ih]
    simp

theorem completeIndex_concatIndex (dim base len : Nat) (ds : List Nat) (hl : 0 < len) :
    completeIndex (natRanges (concatIndex ds.length dim base len)) ds = catWin dim base len ds := by
  unfold concatIndex
  exact completeIndex_oneRange dim base len ds _ hl (by simp) (fun i hi => by simp [hi])

theorem validSliceIndex_concatIndex : ∀ (dim base len : Nat) (ds : List Nat), 0 < len → dim < ds.length →
    base + len ≤ ds.getD dim 0 → validSliceIndex (concatIndex ds.length dim base len) ds = true := by
  intro dim base len ds hl hdim hb
  simp only [validSliceIndex, concatIndex, List.length_map, List.length_range, Nat.le_refl, decide_true, Bool.true_and,
    List.all_eq_true]
  intro p hp
  obtain ⟨i, hi1, hi2⟩ := List.mem_iff_getElem.mp hp
  have hi : i < ds.length := by
    simp only [List.length_zip, List.length_map, List.length_range, Nat.min_self] at hi1; exact hi1
  simp only [List.getElem_zip, List.getElem_map, List.getElem_range] at hi2
  rw [← hi2]
  by_cases hid : i = dim
  · have hgd : ds.getD dim 0 = ds[i] := by
      subst hid
      simp [List.getD, List.getElem?_eq_getElem hi]
    rw [hgd] at hb
    simp only [hid, if_true]
    subst hid
    exact validRange_iff.2 (.inr ⟨by omega, by omega, by omega⟩)
  · simp [hid, validRange]

theorem sliceDims_catWin : ∀ (dim base len : Nat) (ds : List Nat), dim < ds.length →
    sliceDims (catWin dim base len ds) = ds.set dim len
  | _, _, _, [], h => by simp at h
  | 0, base, len, d :: ds, _ => by
    simp only [catWin, sliceDims, List.map_cons, List.map_map, List.set_cons_zero]
    congr 1
    · omega
    · conv => rhs; rw [← List.map_id ds]
      apply List.map_congr_left; intro x _; simp
  | dim + 1, base, len, d :: ds, h => by
    have ih := sliceDims_catWin dim base len ds (by simpa using h)
    simp only [sliceDims] at ih
    simp only [catWin, sliceDims, List.map_cons, List.set_cons_succ, ih]
    simp

theorem inBlock_whole : ∀ {ds js : List Nat}, Valid ds js → InBlock (ds.map (fun d => (0, d))) js
  | _, _, .nil => .nil
  | _, _, .cons h hv => by
    simp only [List.map_cons]
    exact .cons (by omega) (inBlock_whole hv)

theorem shiftIdx_whole : ∀ {ds js : List Nat}, Valid ds js → shiftIdx (ds.map (fun d => (0, d))) js = js
  | _, _, .nil => rfl
  | _, _, .cons h hv => by simp [shiftIdx, shiftIdx_whole hv]

theorem inBlock_catWin : ∀ (dim base len : Nat) {ds js : List Nat}, dim < ds.length → Valid (ds.set dim len) js →
    InBlock (catWin dim base len ds) js ∧ shiftIdx (catWin dim base len ds) js = addAt dim base js
  | _, _, _, [], _, h, _ => by simp at h
  | 0, base, len, d :: ds, _, _, hv => by
    simp only [List.set_cons_zero] at hv
    cases hv with
    | cons hj hv' =>
      simp only [catWin, shiftIdx, addAt, shiftIdx_whole hv', and_true]
      exact .cons (by omega) (inBlock_whole hv')
  | dim + 1, base, len, d :: ds, _, h, hv => by
    simp only [List.set_cons_succ] at hv
    cases hv with
    | cons hj hv' =>
      obtain ⟨h1, h2⟩ := inBlock_catWin dim base len (by simpa using h) hv'
      simp only [catWin, shiftIdx, addAt, h2, Nat.add_zero, and_true]
      exact .cons (by omega) h1

theorem valid_addAt : ∀ (dim base len : Nat) {ds js : List Nat}, dim < ds.length → Valid (ds.set dim len) js →
    base + len ≤ ds.getD dim 0 → Valid ds (addAt dim base js) ∧ js.getD dim 0 < len ∧ dim < js.length
  | _, _, _, [], _, h, _, _ => by simp at h
  | 0, base, len, d :: ds, _, _, hv, hb => by
    simp only [List.set_cons_zero] at hv
    simp only [List.getD_cons_zero] at hb
    cases hv with
    | cons hj hv' =>
      simp only [addAt, List.getD_cons_zero, List.length_cons]
      exact ⟨.cons (by omega) hv', hj, by omega⟩
  | dim + 1, base, len, d :: ds, _, h, hv, hb => by
    simp only [List.set_cons_succ] at hv
    simp only [List.getD_cons_succ] at hb
    cases hv with
    | cons hj hv' =>
      obtain ⟨h1, h2, h3⟩ := valid_addAt dim base len (by simpa using h) hv' hb
      simp only [addAt, List.getD_cons_succ, List.length_cons]
      exact ⟨.cons hj h1, h2, by omega⟩

theorem take_sum_le : ∀ (l : List Nat) (k : Nat), (l.take k).sum + l.getD k 0 ≤ l.sum
  | [], k => by simp
  | x :: l, 0 => by simp
  | x :: l, k + 1 => by
    have := take_sum_le l k
    simp only [List.take_succ_cons, List.sum_cons, List.getD_cons_succ]
    omega

theorem locate_base : ∀ (lens : List Nat) (k x : Nat), x < lens.getD k 0 →
    locate lens (x + (lens.take k).sum) = some (k, x)
  | [], k, x, h => by simp at h
  | l :: ls, 0, x, h => by
    simp only [List.getD_cons_zero] at h
    rw [List.take_zero, List.sum_nil, Nat.add_zero]
    show (if x < l then some (0, x) else _) = _
    rw [if_pos h]
  | l :: ls, k + 1, x, h => by
    simp only [List.getD_cons_succ] at h
    have ih := locate_base ls k x h
    have hs : ((l :: ls).take (k + 1)).sum = l + (ls.take k).sum := by
      rw [List.take_succ_cons, List.sum_cons]
    rw [hs]
    show (if x + (l + (ls.take k).sum) < l then _
      else (locate ls (x + (l + (ls.take k).sum) - l)).map (fun p => (p.1 + 1, p.2))) = _
    rw [if_neg (by omega)]
    have : x + (l + (ls.take k).sum) - l = x + (ls.take k).sum := by omega
    rw [this, ih]
    rfl

theorem route_addAt (lens : List Nat) (k : Nat) : ∀ (d : Nat) (js : List Nat), d < js.length →
    js.getD d 0 < lens.getD k 0 → route d lens (addAt d ((lens.take k).sum) js) = some (k, js)
  | _, [], h, _ => by simp at h
  | 0, j :: is, _, h => by
    simp only [List.getD_cons_zero] at h
    simp only [addAt, route, locate_base lens k j h, Option.map_some]
  | d + 1, j :: is, hd, h => by
    simp only [List.getD_cons_succ] at h
    have ih := route_addAt lens k d is (by simpa using hd) h
    simp only [addAt, route, ih, Option.map_some]

theorem slice_catWin (r : Tensor α) (wr : r.WF) (d base len : Nat) (hl : 0 < len) (hd : d < r.dims.length)
    (hb : base + len ≤ r.dims.getD d 0) :
    ∃ sdata, vSlice r (concatIndex r.dims.length d base len) = .ok ⟨r.dims.set d len, sdata⟩ ∧
      sdata.length = prod (r.dims.set d len) ∧
      ∀ js, Valid (r.dims.set d len) js → (⟨r.dims.set d len, sdata⟩ : Tensor α).at? js = r.at? (addAt d base js) := by
  have hvs := validSliceIndex_concatIndex d base len r.dims hl hd hb
  obtain ⟨sdata, es, hsl, hsget⟩ := C06.slice_get r wr _ (C09.rangesOK_of_valid _ _ hvs)
  rw [completeIndex_concatIndex d base len r.dims hl, sliceDims_catWin d _ _ _ hd] at es hsl hsget
  refine ⟨sdata, gate_eq_ok.2 ⟨hvs, es⟩, hsl, fun js hjs => ?_⟩
  obtain ⟨h1, h2⟩ := inBlock_catWin d base len hd hjs
  rw [hsget js h1, h2]

theorem slice_of_concatRaw (t0 : Tensor α) (rest : List (Tensor α)) (d : Nat) (hdim : d < t0.dims.length)
    (hwf : ∀ t ∈ t0 :: rest, t.WF)
    (hagree : ∀ t ∈ t0 :: rest, t.dims.length = t0.dims.length ∧ ∀ j, j ≠ d → t.dims[j]? = t0.dims[j]?)
    (r : Tensor α) (hr : concatRaw (t0 :: rest) d = some r) (k : Nat) (tk : Tensor α) (hk : (t0 :: rest)[k]? = some tk) :
    r.WF ∧ vSlice r (concatIndex tk.dims.length d ((((t0 :: rest).take k).map (fun t => t.dims.getD d 0)).sum)
      (tk.dims.getD d 0)) = .ok tk := by
  obtain ⟨data, e, hlen, hroute⟩ := C06.concat_get t0 rest d hdim hwf hagree
  rw [List.map_take]
  generalize hlens : (t0 :: rest).map (fun t => t.dims.getD d 0) = lens at e hlen hroute ⊢
  obtain rfl := Option.some.inj (e.symm.trans hr)
  have wr : (⟨t0.dims.set d lens.sum, data⟩ : Tensor α).WF := ⟨hlen, hlens ▸ C09.concatDims_pos t0 rest d hdim hwf⟩
  refine ⟨wr, ?_⟩
  have hmem : tk ∈ t0 :: rest := List.mem_of_getElem? hk
  have wk := hwf tk hmem
  obtain ⟨hlk, hjk⟩ := hagree tk hmem
  have hl : 0 < tk.dims.getD d 0 := by
    have hdt : d < tk.dims.length := by omega
    rw [List.getD_eq_getElem?_getD, List.getElem?_eq_getElem hdt]
    exact wk.2 _ (List.getElem_mem hdt)
  have hlensk : lens.getD k 0 = tk.dims.getD d 0 := by
    rw [← hlens, List.getD_eq_getElem?_getD, List.getElem?_map, hk]; rfl
  have hb : (lens.take k).sum + tk.dims.getD d 0 ≤ (t0.dims.set d lens.sum).getD d 0 := by
    have hS : (t0.dims.set d lens.sum).getD d 0 = lens.sum := by
      rw [List.getD_eq_getElem?_getD, List.getElem?_set_self hdim]; rfl
    rw [hS, ← hlensk]; exact take_sum_le lens k
  have hdr : d < (t0.dims.set d lens.sum).length := by rw [List.length_set]; exact hdim
  have hdims : (t0.dims.set d lens.sum).set d (tk.dims.getD d 0) = tk.dims := by
    rw [List.set_set, ← rdimsOf_set d t0.dims _ hdim]
    exact (eq_rdimsOf d t0.dims tk.dims hlk hdim hjk).symm
  obtain ⟨sdata, es, hsl, hsget⟩ := slice_catWin _ wr d (lens.take k).sum (tk.dims.getD d 0) hl hdr hb
  simp only [List.length_set, hdims] at es hsl hsget
  rw [hlk, es]
  refine congrArg Out.ok (tensor_ext ⟨tk.dims, sdata⟩ tk ⟨hsl, wk.2⟩ wk rfl (fun js hjs => ?_))
  -- the moved index routes back to operand `k`
  obtain ⟨va, hjd, hdl⟩ := valid_addAt d (lens.take k).sum (tk.dims.getD d 0) hdr (hdims ▸ hjs) hb
  obtain ⟨s, idx', t, r1, r2, r3⟩ := hroute _ va
  rw [route_addAt lens k d js hdl (hlensk ▸ hjd)] at r1
  obtain ⟨rfl, rfl⟩ := Prod.mk.inj (Option.some.inj r1)
  rw [hsget js hjs, r3, Option.some.inj (hk.symm.trans r2)]

/-- **Slicing a concatenation at an operand's block returns that operand** — for every operand count, rank, `dim` and
    all sizes. `concatIndex` is the index `gradtrack.Concat` builds for operand `k` (`Qeep.concatEdges`): whole
    dimensions except `[base_k, base_k + len_k)` along `dim`, `base_k` the sum of the sizes along `dim` of the operands
    before it. -/
theorem slice_of_concat (ts : List (Tensor α)) (r : Tensor α) (dim : Int) (hwf : ∀ t ∈ ts, t.WF)
    (h : vConcat ts dim = .ok r) (k : Nat) (tk : Tensor α) (hk : ts[k]? = some tk) :
    vSlice r (concatIndex tk.dims.length dim.toNat (((ts.take k).map (fun t => t.dims.getD dim.toNat 0)).sum)
      (tk.dims.getD dim.toNat 0)) = .ok tk := by
  obtain ⟨hv, hc⟩ := gate_eq_ok.1 h
  cases ts with
  | nil => exact absurd hv (by simp [validConcat])
  | cons t0 rest =>
    obtain ⟨_, hdim, hagree⟩ := validConcat_shape t0 rest dim hv
    exact (slice_of_concatRaw t0 rest dim.toNat hdim hwf hagree r hc k tk hk).2

/-- non-vacuity (kernel-checked on `Int`): `[2,1] ++ [2,2]` along dim 1; the second operand's block is `{0,0},{1:3}` -/
example : vConcat [(⟨[2, 1], [1, 2]⟩ : Tensor Int), ⟨[2, 2], [3, 4, 5, 6]⟩] 1 = .ok ⟨[2, 3], [1, 3, 4, 2, 5, 6]⟩ ∧
    concatIndex 2 1 1 2 = [(0, 0), (1, 3)] ∧
    vSlice (⟨[2, 3], [1, 3, 4, 2, 5, 6]⟩ : Tensor Int) (concatIndex 2 1 1 2) = .ok ⟨[2, 2], [3, 4, 5, 6]⟩ ∧
    vSlice (⟨[2, 3], [1, 3, 4, 2, 5, 6]⟩ : Tensor Int) (concatIndex 2 1 0 1) = .ok ⟨[2, 1], [1, 2]⟩ := by decide +kernel

/-! ## Matrix identities

The element formulas (`C04.matmul_get`, `vTranspose_get`) are first brought into big-endian form for operands
`bd ++ [m, n]` with a common batch shape `bd` (`bd = []`: plain matrices). The identities need only a few laws of the
scalar domain, collected in `RingLaws`; `ℝ` (what the property is about) and `Int` (kernel-checked witnesses) satisfy
them. IEEE floats do not (`0 · ∞`, rounding), which is why C04 is stated over `ℝ`. -/

theorem valid_split2 : ∀ {bd idx : List Nat} {a b : Nat}, Valid (bd ++ [a, b]) idx →
    ∃ pre i j, idx = pre ++ [i, j] ∧ Valid bd pre ∧ i < a ∧ j < b
  | [], _, _, _, h => by
    cases h with
    | cons hi h' => cases h' with
      | cons hj h'' => cases h''; exact ⟨[], _, _, rfl, .nil, hi, hj⟩
  | d :: bd, _, _, _, h => by
    cases h with
    | cons hs h' =>
      obtain ⟨pre, i, j, e, hv, hi, hj⟩ := valid_split2 h'
      exact ⟨_ :: pre, i, j, by rw [e]; rfl, .cons hs hv, hi, hj⟩

theorem tensor_ext2 (x y : Tensor α) (hx : x.WF) (hy : y.WF) (bd : List Nat) (a b : Nat) (hdx : x.dims = bd ++ [a, b])
    (hdy : y.dims = bd ++ [a, b])
    (h : ∀ pre i j, Valid bd pre → i < a → j < b → x.at? (pre ++ [i, j]) = y.at? (pre ++ [i, j])) : x = y := by
  apply tensor_ext x y hx hy (by rw [hdx, hdy])
  intro idx hidx
  rw [hdx] at hidx
  obtain ⟨pre, i, j, e, hv, hi, hj⟩ := valid_split2 hidx
  rw [e]; exact h pre i j hv hi hj

theorem transposeDims_app (bd : List Nat) (m n : Nat) : transposeDims (bd ++ [m, n]) = bd ++ [n, m] := by
  simp [transposeDims]

theorem foldl_congr' {β γ : Type} (f g : β → γ → β) : ∀ (l : List γ) (z : β), (∀ p ∈ l, ∀ s, f s p = g s p) →
    l.foldl f z = l.foldl g z
  | [], _, _ => rfl
  | p :: l, z, h => by
    simp only [List.foldl_cons]
    rw [h p (by simp) z]
    exact foldl_congr' f g l _ (fun q hq => h q (List.mem_cons_of_mem _ hq))

section
variable [Scalar α]

def el (t : Tensor α) (idx : List Nat) : α := (t.at? idx).getD Scalar.zero

theorem at?_el (t : Tensor α) (hwf : t.WF) {idx : List Nat} (hv : Valid t.dims idx) : t.at? idx = some (el t idx) := by
  obtain ⟨x, hx⟩ := C09.at?_some_of_valid t hwf _ hv
  simp [el, hx]

omit [Scalar α] in
theorem vTranspose_get_be (t r : Tensor α) (hwf : t.WF) (bd : List Nat) (m n : Nat) (hd : t.dims = bd ++ [m, n])
    (h : vTranspose t = .ok r) :
    r.dims = bd ++ [n, m] ∧ r.WF ∧
      ∀ pre i j, Valid bd pre → i < n → j < m → r.at? (pre ++ [i, j]) = t.at? (pre ++ [j, i]) := by
  obtain ⟨_, hdr, wr, hget⟩ := vTranspose_get t r hwf h
  rw [hd, transposeDims_app] at hdr hget
  refine ⟨hdr, wr, ?_⟩
  intro pre i j hv hi hj
  have hu : Valid (bd ++ [n, m]).reverse (pre ++ [i, j]).reverse := valid_reverse (valid_app hv (valid2 hi hj))
  have := hget _ hu
  rw [List.reverse_reverse] at this
  rw [this]
  simp [swap2]

omit [Scalar α] in
theorem vTranspose_ok (t : Tensor α) (hwf : t.WF) (bd : List Nat) (m n : Nat) (hd : t.dims = bd ++ [m, n]) :
    ∃ r, vTranspose t = .ok r := by
  obtain ⟨r, e, _⟩ := (C04.vTranspose_total t hwf).1 (by rw [hd]; simp)
  exact ⟨r, e⟩

theorem targetBroadcastLE_nil_right (l : List Nat) : targetBroadcastLE l [] = l := by cases l <;> rfl

theorem targetBroadcastDims_nil_right (l : List Nat) : targetBroadcastDims l [] = l := by
  simp [targetBroadcastDims, targetBroadcastLE_nil_right]

theorem targetBroadcastDims_nil_left (l : List Nat) : targetBroadcastDims [] l = l := by
  simp [targetBroadcastDims, targetBroadcastLE]

omit [Scalar α] in
theorem vBroadcastPairMM_of {a b a' b' : Tensor α} {ra rb : List Nat} {m n n' k : Nat}
    (hda : a.dims = ra ++ [m, n]) (hdb : b.dims = rb ++ [n', k])
    (ea : vBroadcastN a (targetBroadcastDims ra rb ++ [m, n]) = .ok a')
    (eb : vBroadcastN b (targetBroadcastDims ra rb ++ [n', k]) = .ok b') : vBroadcastPairMM a b = .ok (a', b') := by
  unfold vBroadcastPairMM
  dsimp only
  rw [C09.matMulShape_target hda hdb hda, C09.matMulShape_target hda hdb hdb, ea, Out.ok_bind, eb]
  rfl

theorem vMatMul_get_of {a b a' b' : Tensor α} (wa : a'.WF) (wb : b'.WF) {ra rb T : List Nat} {m n k : Nat}
    (hda : a.dims = ra ++ [m, n]) (hdb : b.dims = rb ++ [n, k]) (hT : targetBroadcastDims ra rb = T)
    (ea : vBroadcastN a (T ++ [m, n]) = .ok a') (eb : vBroadcastN b (T ++ [n, k]) = .ok b')
    (da : a'.dims = T ++ [m, n]) (db : b'.dims = T ++ [n, k]) (A B : List Nat → Nat → Nat → α)
    (hA : ∀ pre i p, Valid T pre → i < m → p < n → a'.at? (pre ++ [i, p]) = some (A pre i p))
    (hB : ∀ pre p j, Valid T pre → p < n → j < k → b'.at? (pre ++ [p, j]) = some (B pre p j)) :
    ∃ c, vMatMul a b = .ok c ∧ c.dims = T ++ [m, k] ∧ c.WF ∧
      ∀ pre i j, Valid T pre → i < m → j < k → c.at? (pre ++ [i, j]) =
        some ((List.range n).foldl (fun s p => Scalar.add s (Scalar.mul (A pre i p) (B pre p j))) Scalar.zero) := by
  subst hT
  obtain ⟨c, ec, r⟩ := C09.matMulRaw_get a' b' wa wb _ m n k da db A B hA hB
  refine ⟨c, ?_, r⟩
  unfold vMatMul
  rw [if_pos (by rw [hda, hdb]; exact C09.validMatMul_append2 ra rb m n k), vBroadcastPairMM_of hda hdb ea eb]
  exact Out.ofOpt_eq_ok.2 ec

/-- **MatMul, public form for operands with a common batch shape**: accepted, dims `bd ++ [m, k]`, well formed, and
    `y[b…, i, j] = Σ_p A[b…, i, p] · B[b…, p, j]` (left fold from 0). -/
theorem vMatMul_get (a b : Tensor α) (ha : a.WF) (hb : b.WF) (bd : List Nat) (m n k : Nat)
    (hda : a.dims = bd ++ [m, n]) (hdb : b.dims = bd ++ [n, k]) :
    ∃ c, vMatMul a b = .ok c ∧ c.dims = bd ++ [m, k] ∧ c.WF ∧
      ∀ pre i j, Valid bd pre → i < m → j < k →
        c.at? (pre ++ [i, j]) = some ((List.range n).foldl
          (fun s p => Scalar.add s (Scalar.mul (el a (pre ++ [i, p])) (el b (pre ++ [p, j])))) Scalar.zero) :=
  vMatMul_get_of ha hb hda hdb (targetBroadcastDims_self bd) (by rw [← hda]; exact vBroadcastN_self a ha)
    (by rw [← hdb]; exact vBroadcastN_self b hb) hda hdb _ _
    (fun pre i p hv hi hp => at?_el a ha (by rw [hda]; exact valid_app hv (valid2 hi hp)))
    (fun pre p j hv hp hj => at?_el b hb (by rw [hdb]; exact valid_app hv (valid2 hp hj)))

/-! ### a plain matrix against a batch (`broadcastForMatMul` expands the matrix over the batch dims) -/

omit [Scalar α] in
theorem bcast_mat_get (b : Tensor α) (hb : b.WF) (bd : List Nat) (hbd : ∀ d ∈ bd, 0 < d) (n k : Nat)
    (hdb : b.dims = [n, k]) :
    ∃ b', vBroadcastN b (bd ++ [n, k]) = .ok b' ∧ b'.dims = bd ++ [n, k] ∧ b'.WF ∧
      ∀ pre p j, Valid bd pre → p < n → j < k → b'.at? (pre ++ [p, j]) = b.at? [p, j] := by
  have hpos := C09.pos_append2 hbd (hb.2 n (by rw [hdb]; simp)) (hb.2 k (by rw [hdb]; simp))
  have hv : validBroadcast b.dims (bd ++ [n, k]) = true := by
    rw [hdb]; simp [validBroadcast, validBroadcastLE]
  obtain ⟨b', e, _, hd', wb'⟩ := (C09.vBroadcastN_total b hb (bd ++ [n, k]) hpos).1 hv
  refine ⟨b', e, hd', wb', ?_⟩
  intro pre p j hvp hp hj
  have hidx : Valid b'.dims (pre ++ [p, j]) := by rw [hd']; exact valid_app hvp (valid2 hp hj)
  have hu : Valid (bd ++ [n, k]).reverse (pre ++ [p, j]).reverse := by rw [← hd']; exact valid_reverse hidx
  rw [b'.at?_of_valid hidx, hd', (C03x.vBroadcastN_get hb e _ hu).1, hdb]
  simp [projLE]

theorem vMatMul_get_matR (a b : Tensor α) (ha : a.WF) (hb : b.WF) (bd : List Nat) (m n k : Nat)
    (hda : a.dims = bd ++ [m, n]) (hdb : b.dims = [n, k]) :
    ∃ c, vMatMul a b = .ok c ∧ c.dims = bd ++ [m, k] ∧ c.WF ∧
      ∀ pre i j, Valid bd pre → i < m → j < k →
        c.at? (pre ++ [i, j]) = some ((List.range n).foldl
          (fun s p => Scalar.add s (Scalar.mul (el a (pre ++ [i, p])) (el b [p, j]))) Scalar.zero) := by
  obtain ⟨b', eb, hdb', wb', hb'⟩ := bcast_mat_get b hb bd (fun d hd => ha.2 d (by rw [hda]; simp [hd])) n k hdb
  exact vMatMul_get_of ha wb' hda (rb := []) hdb (targetBroadcastDims_nil_right bd)
    (by rw [← hda]; exact vBroadcastN_self a ha) eb hda hdb' _ _
    (fun pre i p hv hi hp => at?_el a ha (by rw [hda]; exact valid_app hv (valid2 hi hp)))
    (fun pre p j hv hp hj => (hb' pre p j hv hp hj).trans (at?_el b hb (by rw [hdb]; exact valid2 hp hj)))

theorem vMatMul_get_matL (a b : Tensor α) (ha : a.WF) (hb : b.WF) (bd : List Nat) (m n k : Nat)
    (hda : a.dims = [m, n]) (hdb : b.dims = bd ++ [n, k]) :
    ∃ c, vMatMul a b = .ok c ∧ c.dims = bd ++ [m, k] ∧ c.WF ∧
      ∀ pre i j, Valid bd pre → i < m → j < k →
        c.at? (pre ++ [i, j]) = some ((List.range n).foldl
          (fun s p => Scalar.add s (Scalar.mul (el a [i, p]) (el b (pre ++ [p, j])))) Scalar.zero) := by
  obtain ⟨a', ea, hda', wa', ha'⟩ := bcast_mat_get a ha bd (fun d hd => hb.2 d (by rw [hdb]; simp [hd])) m n hda
  exact vMatMul_get_of wa' hb (ra := []) hda hdb (targetBroadcastDims_nil_left bd) ea
    (by rw [← hdb]; exact vBroadcastN_self b hb) hda' hdb _ _
    (fun pre i p hv hi hp => (ha' pre i p hv hi hp).trans (at?_el a ha (by rw [hda]; exact valid2 hi hp)))
    (fun pre p j hv hp hj => at?_el b hb (by rw [hdb]; exact valid_app hv (valid2 hp hj)))

structure RingLaws (α : Type) [Scalar α] : Prop where
  add_zero : ∀ x : α, Scalar.add x Scalar.zero = x
  zero_add : ∀ x : α, Scalar.add Scalar.zero x = x
  mul_one : ∀ x : α, Scalar.mul x Scalar.one = x
  one_mul : ∀ x : α, Scalar.mul Scalar.one x = x
  mul_zero : ∀ x : α, Scalar.mul x Scalar.zero = Scalar.zero
  zero_mul : ∀ x : α, Scalar.mul Scalar.zero x = Scalar.zero
  mul_comm : ∀ x y : α, Scalar.mul x y = Scalar.mul y x

theorem ringLaws_int : RingLaws Int where
  add_zero x := by show x + ((0 : Nat) : Int) = x; omega
  zero_add x := by show ((0 : Nat) : Int) + x = x; omega
  mul_one x := by show x * ((1 : Nat) : Int) = x; omega
  one_mul x := by show ((1 : Nat) : Int) * x = x; omega
  mul_zero x := by show x * ((0 : Nat) : Int) = ((0 : Nat) : Int); omega
  zero_mul x := by show ((0 : Nat) : Int) * x = ((0 : Nat) : Int); omega
  mul_comm x y := Int.mul_comm x y

theorem ringLaws_real : RingLaws ℝ where
  add_zero x := by simp
  zero_add x := by simp
  mul_one x := by simp
  one_mul x := by simp
  mul_zero x := by simp
  zero_mul x := by simp
  mul_comm x y := by simp [mul_comm]

/-- `Σ_p f(p)·δ(p, j) = f(j)` as the left fold the Go loop computes -/
theorem fold_delta_right (L : RingLaws α) (f : Nat → α) (j : Nat) : ∀ n,
    (List.range n).foldl (fun s p => Scalar.add s (Scalar.mul (f p) (if p = j then Scalar.one else Scalar.zero))) Scalar.zero
      = if j < n then f j else Scalar.zero
  | 0 => by simp
  | n + 1 => by
    rw [List.range_succ, List.foldl_append, fold_delta_right L f j n]
    simp only [List.foldl_cons, List.foldl_nil]
    by_cases h1 : j < n
    · have hne : ¬ n = j := by omega
      rw [if_pos h1, if_neg hne, if_pos (by omega), L.mul_zero, L.add_zero]
    · rw [if_neg h1]
      by_cases h2 : n = j
      · rw [if_pos h2, if_pos (by omega), L.mul_one, L.zero_add, h2]
      · rw [if_neg h2, if_neg (by omega), L.mul_zero, L.add_zero]

theorem fold_delta_left (L : RingLaws α) (f : Nat → α) (i : Nat) (n : Nat) :
    (List.range n).foldl (fun s p => Scalar.add s (Scalar.mul (if i = p then Scalar.one else Scalar.zero) (f p))) Scalar.zero
      = if i < n then f i else Scalar.zero := by
  rw [← fold_delta_right L f i n]
  refine foldl_congr' _ _ _ _ fun p _ s => ?_
  rw [L.mul_comm]
  by_cases h : i = p
  · rw [if_pos h, if_pos h.symm]
  · rw [if_neg h, if_neg (Ne.symm h)]

theorem vEye_ok (n : Nat) (hn : 0 < n) : (vEye (n : Int) : Out (Tensor α)) = .ok (eyeMatrix n) :=
  if_pos (by rw [C09.validInputDims_pair]; exact decide_eq_true (by omega))

theorem eye_el (n i j : Nat) (hi : i < n) (hj : j < n) :
    el (eyeMatrix n : Tensor α) [i, j] = if i = j then Scalar.one else Scalar.zero := by
  have e : (eyeMatrix n : Tensor α) = ⟨[n, n], (eyeMatrix n : Tensor α).data⟩ := rfl
  unfold el
  rw [e, at?_rank2 n n _ i j hi hj, C06.eye_get n i j hi hj]
  rfl

/-- **`A · I = A`** for a scalar domain with the ring laws, for a matrix or a batch `bd ++ [m, n]` of any batch rank
    (`Eye(n)` being expanded over the batch): dims and data. -/
theorem matmul_eye_right_of (L : RingLaws α) (A : Tensor α) (hA : A.WF) (bd : List Nat) (m n : Nat)
    (hd : A.dims = bd ++ [m, n]) : vMatMul A (eyeMatrix n) = .ok A := by
  have hn : 0 < n := hA.2 n (by rw [hd]; simp)
  obtain ⟨c, e, hdc, wc, hget⟩ := vMatMul_get_matR A (eyeMatrix n) hA (C09.eye_wf n hn) bd m n n hd rfl
  rw [e]
  congr 1
  apply tensor_ext2 c A wc hA bd m n hdc hd
  intro pre i j hv hi hj
  rw [hget pre i j hv hi hj, at?_el A hA (by rw [hd]; exact valid_app hv (valid2 hi hj))]
  congr 1
  rw [foldl_congr' _ (fun s p => Scalar.add s (Scalar.mul (el A (pre ++ [i, p])) (if p = j then Scalar.one else Scalar.zero)))
    (List.range n) _ (fun p hp s => by
      have hp' : p < n := List.mem_range.mp hp
      show Scalar.add s (Scalar.mul (el A (pre ++ [i, p])) (el (eyeMatrix n : Tensor α) [p, j])) = _
      rw [eye_el n p j hp' hj])]
  rw [fold_delta_right L (fun p => el A (pre ++ [i, p])) j n, if_pos hj]

theorem matmul_eye_left_of (L : RingLaws α) (A : Tensor α) (hA : A.WF) (bd : List Nat) (m n : Nat)
    (hd : A.dims = bd ++ [m, n]) : vMatMul (eyeMatrix m) A = .ok A := by
  have hm : 0 < m := hA.2 m (by rw [hd]; simp)
  obtain ⟨c, e, hdc, wc, hget⟩ := vMatMul_get_matL (eyeMatrix m) A (C09.eye_wf m hm) hA bd m m n rfl hd
  rw [e]
  congr 1
  apply tensor_ext2 c A wc hA bd m n hdc hd
  intro pre i j hv hi hj
  rw [hget pre i j hv hi hj, at?_el A hA (by rw [hd]; exact valid_app hv (valid2 hi hj))]
  congr 1
  rw [foldl_congr' _ (fun s p => Scalar.add s (Scalar.mul (if i = p then Scalar.one else Scalar.zero) (el A (pre ++ [p, j]))))
    (List.range m) _ (fun p hp s => by
      have hp' : p < m := List.mem_range.mp hp
      show Scalar.add s (Scalar.mul (el (eyeMatrix m : Tensor α) [i, p]) (el A (pre ++ [p, j]))) = _
      rw [eye_el m i p hi hp'])]
  rw [fold_delta_left L (fun p => el A (pre ++ [p, j])) i m, if_pos hi]

/-- **`(A · B)ᵀ = Bᵀ · Aᵀ`** for a commutative scalar multiplication — operands `bd ++ [m, n]` and `bd ++ [n, k]` with
    a common batch shape `bd` of any rank: all five operations are accepted and the two results are equal as tensors. -/
theorem matmul_transpose_of (hcomm : ∀ x y : α, Scalar.mul x y = Scalar.mul y x) (A B : Tensor α) (hA : A.WF) (hB : B.WF)
    (bd : List Nat) (m n k : Nat) (hdA : A.dims = bd ++ [m, n]) (hdB : B.dims = bd ++ [n, k]) :
    ∃ C Ct At Bt, vMatMul A B = .ok C ∧ vTranspose C = .ok Ct ∧ vTranspose A = .ok At ∧ vTranspose B = .ok Bt ∧
      vMatMul Bt At = .ok Ct := by
  obtain ⟨C, eC, hdC, wC, hC⟩ := vMatMul_get A B hA hB bd m n k hdA hdB
  obtain ⟨Ct, eCt⟩ := vTranspose_ok C wC bd m k hdC
  obtain ⟨At, eAt⟩ := vTranspose_ok A hA bd m n hdA
  obtain ⟨Bt, eBt⟩ := vTranspose_ok B hB bd n k hdB
  obtain ⟨hdCt, wCt, hCt⟩ := vTranspose_get_be C Ct wC bd m k hdC eCt
  obtain ⟨hdAt, wAt, hAt⟩ := vTranspose_get_be A At hA bd m n hdA eAt
  obtain ⟨hdBt, wBt, hBt⟩ := vTranspose_get_be B Bt hB bd n k hdB eBt
  obtain ⟨D, eD, hdD, wD, hD⟩ := vMatMul_get Bt At wBt wAt bd k n m hdBt hdAt
  refine ⟨C, Ct, At, Bt, eC, eCt, eAt, eBt, ?_⟩
  rw [eD]
  congr 1
  apply tensor_ext2 D Ct wD wCt bd k m hdD hdCt
  intro pre j i hv hj hi
  rw [hD pre j i hv hj hi, hCt pre j i hv hj hi, hC pre i j hv hi hj]
  congr 1
  apply foldl_congr'
  intro p hp s
  have hp' : p < n := List.mem_range.mp hp
  have e1 : el Bt (pre ++ [j, p]) = el B (pre ++ [p, j]) := by unfold el; rw [hBt pre j p hv hj hp']
  have e2 : el At (pre ++ [p, i]) = el A (pre ++ [i, p]) := by unfold el; rw [hAt pre p i hv hp' hi]
  rw [e1, e2, hcomm]

end

/-- **`A · I = A`** over ℝ, through the public constructors: `Eye(n)` is accepted and `MatMul(A, Eye(n)) = A`, for a
    matrix (`bd = []`) or a batch of matrices of any batch rank -/
theorem matmul_eye_right (A : Tensor ℝ) (hA : A.WF) (bd : List Nat) (m n : Nat) (hd : A.dims = bd ++ [m, n]) :
    (vEye (n : Int) : Out (Tensor ℝ)) = .ok (eyeMatrix n) ∧ vMatMul A (eyeMatrix n) = .ok A :=
  ⟨vEye_ok n (hA.2 n (by rw [hd]; simp)), matmul_eye_right_of ringLaws_real A hA bd m n hd⟩

/-- **`I · A = A`** over ℝ -/
theorem matmul_eye_left (A : Tensor ℝ) (hA : A.WF) (bd : List Nat) (m n : Nat) (hd : A.dims = bd ++ [m, n]) :
    (vEye (m : Int) : Out (Tensor ℝ)) = .ok (eyeMatrix m) ∧ vMatMul (eyeMatrix m) A = .ok A :=
  ⟨vEye_ok m (hA.2 m (by rw [hd]; simp)), matmul_eye_left_of ringLaws_real A hA bd m n hd⟩

/-- the matrix case in the form the property states it: `A · I = A = I · A` for every well-formed `m × n` real matrix -/
theorem matmul_eye (A : Tensor ℝ) (hA : A.WF) (m n : Nat) (hd : A.dims = [m, n]) :
    vMatMul A (eyeMatrix n) = .ok A ∧ vMatMul (eyeMatrix m) A = .ok A :=
  ⟨(matmul_eye_right A hA [] m n hd).2, (matmul_eye_left A hA [] m n hd).2⟩

/-- **`(A · B)ᵀ = Bᵀ · Aᵀ`** over ℝ, for every common batch shape and all sizes -/
theorem matmul_transpose (A B : Tensor ℝ) (hA : A.WF) (hB : B.WF) (bd : List Nat) (m n k : Nat)
    (hdA : A.dims = bd ++ [m, n]) (hdB : B.dims = bd ++ [n, k]) :
    ∃ C Ct At Bt, vMatMul A B = .ok C ∧ vTranspose C = .ok Ct ∧ vTranspose A = .ok At ∧ vTranspose B = .ok Bt ∧
      vMatMul Bt At = .ok Ct :=
  matmul_transpose_of ringLaws_real.mul_comm A B hA hB bd m n k hdA hdB

/-- `(A · B)ᵀ = Bᵀ · Aᵀ` as one equation between the two pipelines (both sides are `ok` of the same tensor) -/
theorem matmul_transpose_eq (A B : Tensor ℝ) (hA : A.WF) (hB : B.WF) (bd : List Nat) (m n k : Nat)
    (hdA : A.dims = bd ++ [m, n]) (hdB : B.dims = bd ++ [n, k]) :
    (vMatMul A B).bind vTranspose = (vTranspose B).bind (fun bt => (vTranspose A).bind (fun at' => vMatMul bt at')) ∧
      ∃ Ct, (vMatMul A B).bind vTranspose = .ok Ct := by
  obtain ⟨C, Ct, At, Bt, e1, e2, e3, e4, e5⟩ := matmul_transpose A B hA hB bd m n k hdA hdB
  refine ⟨?_, Ct, ?_⟩ <;> simp only [e1, e2, e3, e4, e5, Out.bind]

/-- non-vacuity: the generic theorems at a concrete `Int` batch `[2,2,2]`, `Eye(2)` on either side -/
example : vMatMul (⟨[2, 2, 2], [1, 2, 3, 4, 5, 6, 7, 8]⟩ : Tensor Int) (eyeMatrix 2) = .ok ⟨[2, 2, 2], [1, 2, 3, 4, 5, 6, 7, 8]⟩ ∧
    vMatMul (eyeMatrix 2) (⟨[2, 2, 2], [1, 2, 3, 4, 5, 6, 7, 8]⟩ : Tensor Int) = .ok ⟨[2, 2, 2], [1, 2, 3, 4, 5, 6, 7, 8]⟩ :=
  ⟨matmul_eye_right_of ringLaws_int _ (by decide) [2] 2 2 rfl, matmul_eye_left_of ringLaws_int _ (by decide) [2] 2 2 rfl⟩

/-- non-vacuity: `Eye(3)` evaluated by the kernel; a 2×3 `Int` matrix times `Eye(3)`, `Eye(2)` times it -/
example : vEye (3 : Int) = .ok (⟨[3, 3], [1, 0, 0, 0, 1, 0, 0, 0, 1]⟩ : Tensor Int) ∧
    vMatMul (⟨[2, 3], [1, 2, 3, 4, 5, 6]⟩ : Tensor Int) (eyeMatrix 3) = .ok ⟨[2, 3], [1, 2, 3, 4, 5, 6]⟩ ∧
    vMatMul (eyeMatrix 2) (⟨[2, 3], [1, 2, 3, 4, 5, 6]⟩ : Tensor Int) = .ok ⟨[2, 3], [1, 2, 3, 4, 5, 6]⟩ :=
  ⟨by decide +kernel, matmul_eye_right_of ringLaws_int _ (by decide) [] 2 3 rfl,
    matmul_eye_left_of ringLaws_int _ (by decide) [] 2 3 rfl⟩

/-- non-vacuity (kernel-checked on `Int`): `(A·B)ᵀ = Bᵀ·Aᵀ` for a 2×3 times a 3×2 matrix -/
example :
    vMatMul (⟨[2, 3], [1, 2, 3, 4, 5, 6]⟩ : Tensor Int) ⟨[3, 2], [7, 8, 9, 10, 11, 12]⟩ = .ok ⟨[2, 2], [58, 64, 139, 154]⟩ ∧
    vTranspose (⟨[2, 2], [58, 64, 139, 154]⟩ : Tensor Int) = .ok ⟨[2, 2], [58, 139, 64, 154]⟩ ∧
    vTranspose (⟨[2, 3], [1, 2, 3, 4, 5, 6]⟩ : Tensor Int) = .ok ⟨[3, 2], [1, 4, 2, 5, 3, 6]⟩ ∧
    vTranspose (⟨[3, 2], [7, 8, 9, 10, 11, 12]⟩ : Tensor Int) = .ok ⟨[2, 3], [7, 9, 11, 8, 10, 12]⟩ ∧
    vMatMul (⟨[2, 3], [7, 9, 11, 8, 10, 12]⟩ : Tensor Int) ⟨[3, 2], [1, 4, 2, 5, 3, 6]⟩ = .ok ⟨[2, 2], [58, 139, 64, 154]⟩ := by
  decide +kernel

/-- the generic theorems apply to the concrete `Int` witnesses (hypotheses discharged by `decide`) -/
example : vMatMul (⟨[2, 3], [1, 2, 3, 4, 5, 6]⟩ : Tensor Int) (eyeMatrix 3) = .ok ⟨[2, 3], [1, 2, 3, 4, 5, 6]⟩ :=
  matmul_eye_right_of ringLaws_int _ (by decide) [] 2 3 rfl

end C04x
end Qeep
