import QeepProofs.Along
import QeepProofs.Real
/-!
# C05 — reductions return the defined statistic of the whole tensor or of each fibre
-/

namespace Qeep
namespace C05
open RealScalar

variable {α : Type}

/-- **SumAlong … MeanAlong(dim)**: for every rank ≥ 1, every `dim` and all dimension sizes the public call is `ok`
    exactly when `0 ≤ dim < rank`; the result then has the operand's shape with `dim` removed, and element `j`
    (row-major) is the statistic of the `j`-th one-dimensional fibre along `dim` — never a panic. `S j` is the
    `j`-th output index with a 0 inserted at `dim` (see `reduceDim_spec`). -/
theorem along_get [Scalar α] (r : Reducer) (t : Tensor α) (hwf : t.WF) (dim : Int) :
    (validDimLt dim t.dims = true →
      let k := t.dims.length - 1 - dim.toNat
      let S := fun j => (insLE k 0 (iterN (incr (delLE k t.dims.reverse)) j (zerosLike (delLE k t.dims.reverse)))).reverse
      ∃ data', vAlong r t dim = .ok ⟨squeezeDims dim.toNat t.dims, data'⟩ ∧
        data'.length = prod (squeezeDims dim.toNat t.dims) ∧
        ∀ j, j < prod (squeezeDims dim.toNat t.dims) →
          ∃ fib : List α, fib.length = t.dims.getD dim.toNat 0 ∧
            (∀ i, i < t.dims.getD dim.toNat 0 → fib[i]? = t.at? ((S j).set dim.toNat i) ∧ (fib[i]?).isSome) ∧
            data'[j]? = some (r.fn ⟨sliceDims (windowOf dim.toNat t.dims (S j)), fib⟩)) ∧
    (validDimLt dim t.dims = false → vAlong r t dim = .err) := by
  constructor
  · intro hv k S
    have hlt : dim.toNat < t.dims.length := by
      simp only [validDimLt, Bool.and_eq_true, decide_eq_true_eq] at hv
      omega
    obtain ⟨data', h1, h2, h3⟩ := reduceDim_spec t hwf dim.toNat hlt r.fn
    exact ⟨data', by simp [vAlong, vReduceDim, hv, h1, Out.ofOpt], h2, h3⟩
  · intro hv; simp [vAlong, vReduceDim, hv]

/-- the whole-tensor reducers are left folds over the row-major element sequence, starting from the identity -/
theorem fold_def [Scalar α] (t : Tensor α) :
    t.sum = t.data.foldl Scalar.add Scalar.zero ∧ t.avg = Scalar.div t.sum (Scalar.ofNat t.numElems) ∧
    t.mean = t.avg ∧ t.std = Scalar.sqrt t.var := ⟨rfl, rfl, rfl, rfl⟩

/-- **Sum / Avg / Mean over ℝ** -/
theorem sum_real (t : Tensor ℝ) : t.sum = t.data.sum ∧ t.avg = t.data.sum / (prod t.dims : ℝ) ∧ t.mean = t.avg := by
  have hs : t.sum = t.data.sum := by
    unfold Tensor.sum Tensor.fold
    rw [RealScalar.foldl_add, zero_eq, zero_add]
  refine ⟨hs, ?_, rfl⟩
  unfold Tensor.avg
  rw [hs, div_eq, ofNat_eq]; rfl

/-- **Var over ℝ**: the unbiased sample variance, `0` for a single element -/
theorem var_real (t : Tensor ℝ) :
    t.var = if 1 < prod t.dims then (t.data.map (fun x => (x - t.mean) ^ 2)).sum / ((prod t.dims : ℝ) - 1) else 0 := by
  have key : ∀ (l : List ℝ) (a m : ℝ), l.foldl (fun s x => Scalar.add s (Scalar.pow (Scalar.sub x m) Scalar.two)) a
      = a + (l.map (fun x => (x - m) ^ 2)).sum := by
    intro l
    induction l with
    | nil => intro a m; simp
    | cons x xs ih =>
      intro a m
      simp only [List.foldl_cons, List.map_cons, List.sum_cons, ih]
      simp only [add_eq, sub_eq, pow_eq, two_eq, Real.rpow_two]
      rw [add_assoc]
  unfold Tensor.var
  simp only [Tensor.fold, key]
  by_cases h : 1 < prod t.dims
  · have : (1 : ℝ) < (prod t.dims : ℝ) := by exact_mod_cast h
    simp [h, this, Scalar.gt, Tensor.numElems]
  · have : ¬ (1 : ℝ) < (prod t.dims : ℝ) := by
      intro h'; apply h; exact_mod_cast h'
    simp [h, this, Scalar.gt, Tensor.numElems]

/-- `sel` keeps one of its two arguments, and the kept one is `R`-related to both (`R m x`: "`m` is at least as extreme
    as `x`" for an order `R`): the step function of the Max and Min folds -/
structure Selects {β : Type} (R : β → β → Prop) (sel : β → β → β) : Prop where
  refl : ∀ a, R a a
  trans : ∀ {a b c}, R a b → R b c → R a c
  antisymm : ∀ {a b}, R a b → R b a → a = b
  keeps : ∀ a x, sel a x = a ∨ sel a x = x
  left : ∀ a x, R (sel a x) a
  right : ∀ a x, R (sel a x) x

namespace Selects
variable {β : Type} {R : β → β → Prop} {sel : β → β → β} (S : Selects R sel)
include S

theorem fold (l : List β) (b : β) :
    R (l.foldl sel b) b ∧ (∀ x ∈ l, R (l.foldl sel b) x) ∧ (l.foldl sel b = b ∨ l.foldl sel b ∈ l) := by
  induction l generalizing b with
  | nil => exact ⟨S.refl b, fun _ h => absurd h List.not_mem_nil, Or.inl rfl⟩
  | cons y ys ih =>
    obtain ⟨h1, h2, h3⟩ := ih (sel b y)
    refine ⟨S.trans h1 (S.left b y), fun x hx => ?_, ?_⟩
    · rcases List.mem_cons.mp hx with rfl | hx
      · exact S.trans h1 (S.right b x)
      · exact h2 x hx
    · rcases h3 with h3 | h3
      · rcases S.keeps b y with hs | hs
        · exact Or.inl (h3.trans hs)
        · exact Or.inr (by show ys.foldl sel (sel b y) ∈ y :: ys; rw [h3, hs]; exact List.mem_cons_self)
      · exact Or.inr (List.mem_cons_of_mem _ h3)

theorem fold_mem (l : List β) (b : β) (h : ∃ x ∈ l, R x b) : l.foldl sel b ∈ l := by
  obtain ⟨h1, h2, h3⟩ := S.fold l b
  obtain ⟨x, hx, hxb⟩ := h
  rcases h3 with h3 | h3
  · rw [S.antisymm (h2 x hx) (by rw [h3]; exact hxb)]; exact hx
  · exact h3

theorem fold_eq (l : List β) (b : β) (h : ∀ x ∈ l, ¬ R x b) : l.foldl sel b = b :=
  (S.fold l b).2.2.resolve_right fun hm => h _ hm (S.fold l b).1

end Selects

theorem maxSelects : Selects (fun m x : ℝ => x ≤ m) (fun a x => if Scalar.gt a x then a else x) where
  refl := le_refl
  trans h1 h2 := le_trans h2 h1
  antisymm h1 h2 := le_antisymm h2 h1
  keeps a x := ite_eq_or_eq _ a x
  left a x := by
    simp only [Scalar.gt, lt_eq, decide_eq_true_eq]
    split
    · exact le_refl a
    · exact not_lt.mp ‹_›
  right a x := by
    simp only [Scalar.gt, lt_eq, decide_eq_true_eq]
    split
    · exact le_of_lt ‹_›
    · exact le_refl x

/-- **Max over ℝ** (Min symmetric): the fold from an identity `b` is an upper bound of `b` and of every element
    and is attained (it is `b` or one of the elements) — hence the maximum whenever `b` is below every element, which
    holds for `math.Inf(-1)`; the ℝ instance itself has `negInf = 0` (see `C05x`) -/
theorem max_fold_real (l : List ℝ) (b : ℝ) :
    let m := l.foldl (fun a x => if Scalar.gt a x then a else x) b
    b ≤ m ∧ (∀ x ∈ l, x ≤ m) ∧ (m = b ∨ m ∈ l) :=
  maxSelects.fold l b

/-- non-vacuity: SumAlong on a [2,3] tensor, both dims (kernel-checked on `Int`) -/
example : (vAlong .sum (⟨[2, 3], [1, 2, 3, 4, 5, 6]⟩ : Tensor Int) 0 = .ok ⟨[3], [5, 7, 9]⟩) ∧
    (vAlong .sum (⟨[2, 3], [1, 2, 3, 4, 5, 6]⟩ : Tensor Int) 1 = .ok ⟨[2], [6, 15]⟩) := by decide +kernel

end C05
end Qeep
