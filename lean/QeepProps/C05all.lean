import QeepProps.C05x
import QeepProps.C14y
/-! `C05` together with the real-number statistics of `C05x` and the index-level `…Along` statements of `C14y`
(`along_el`); the check of C05 builds this module (`lake build QeepProps.C05all`) and then prints the axioms of each
theorem (`work/audit_C05.lean`). -/
