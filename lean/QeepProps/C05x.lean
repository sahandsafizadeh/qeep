import QeepProps.C05
/-!
# C05 (extension) — Min, Std, Avg / Mean over ℝ

## Min / Max and the fold identity — what the model computes over ℝ

`Tensor.min` is the left fold of `fun a x => if a < x then a else x` from `Scalar.posInf` (`math.Inf(+1)` in the code),
`Tensor.max` the fold of `fun a x => if a > x then a else x` from `Scalar.negInf`. `ℝ` has no infinities: the instance in
`QeepProofs/Real.lean` sets `negInf := 0`, `posInf := 0`. Consequently "over ℝ, `Tensor.min` of a non-empty data list is
the minimum of the list" is FALSE for the model as written: `(⟨[2], [1, 2]⟩ : Tensor ℝ).min = 0`
(`min_real_counterexample`; symmetrically `max_real_counterexample`). This is an artefact of the ℝ instance, not of the
code (for `Float` the identity is the real `+Inf`). What is proved instead: for EVERY identity the fold is a bound that is
attained (`min_fold_real`); with an identity beyond every element — the property `math.Inf(±1)` has — the fold of a
non-empty list IS its minimum / maximum (`min_fold_is_min`, `max_fold_is_max`); on the ℝ instance itself `Tensor.min` /
`Tensor.max` is the minimum / maximum of `0 :: data`, hence the true one exactly when some element is `≤ 0` / `≥ 0`
(`min_real_partial`, `max_real_partial`).
-/

namespace Qeep
namespace C05x
open RealScalar

theorem minSelects : C05.Selects (fun m x : ℝ => m ≤ x) (fun a x => if Scalar.lt a x then a else x) where
  refl := le_refl
  trans := le_trans
  antisymm := le_antisymm
  keeps a x := ite_eq_or_eq _ a x
  left a x := by
    simp only [lt_eq, decide_eq_true_eq]
    split
    · exact le_refl a
    · exact not_lt.mp ‹_›
  right a x := by
    simp only [lt_eq, decide_eq_true_eq]
    split
    · exact le_of_lt ‹_›
    · exact le_refl x

/-- **Min over ℝ, any fold identity** (mirror of `C05.max_fold_real`): the fold from an identity `b` is a lower bound of
    `b` and of every element and is attained (it is `b` or one of the elements) -/
theorem min_fold_real (l : List ℝ) (b : ℝ) :
    let m := l.foldl (fun a x => if Scalar.lt a x then a else x) b
    m ≤ b ∧ (∀ x ∈ l, m ≤ x) ∧ (m = b ∨ m ∈ l) :=
  minSelects.fold l b

/-- **with an identity above every element (`math.Inf(1)`), the Min fold of a non-empty list is its minimum**:
    one of the elements, and `≤` every element -/
theorem min_fold_is_min (l : List ℝ) (b : ℝ) (hne : l ≠ []) (hb : ∀ x ∈ l, x ≤ b) :
    let m := l.foldl (fun a x => if Scalar.lt a x then a else x) b
    m ∈ l ∧ ∀ x ∈ l, m ≤ x :=
  have ⟨x0, hx0⟩ := List.exists_mem_of_ne_nil l hne
  ⟨minSelects.fold_mem l b ⟨x0, hx0, hb x0 hx0⟩, (minSelects.fold l b).2.1⟩

/-- the same for Max, with an identity below every element (`math.Inf(-1)`) -/
theorem max_fold_is_max (l : List ℝ) (b : ℝ) (hne : l ≠ []) (hb : ∀ x ∈ l, b ≤ x) :
    let m := l.foldl (fun a x => if Scalar.gt a x then a else x) b
    m ∈ l ∧ ∀ x ∈ l, x ≤ m :=
  have ⟨x0, hx0⟩ := List.exists_mem_of_ne_nil l hne
  ⟨C05.maxSelects.fold_mem l b ⟨x0, hx0, hb x0 hx0⟩, (C05.maxSelects.fold l b).2.1⟩

theorem min_unfold (t : Tensor ℝ) : t.min = t.data.foldl (fun a x => if Scalar.lt a x then a else x) 0 := rfl
theorem max_unfold (t : Tensor ℝ) : t.max = t.data.foldl (fun a x => if Scalar.gt a x then a else x) 0 := rfl

/-- **COUNTEREXAMPLE to "`Tensor.min` over ℝ is the minimum of the data"**: the ℝ instance models `+Inf` as `0`, so the Min
    of `[1, 2]` is `0` -/
theorem min_real_counterexample : (⟨[2], [1, 2]⟩ : Tensor ℝ).min = 0 := by
  rw [min_unfold]
  simp only [List.foldl_cons, List.foldl_nil, lt_eq]
  norm_num

theorem max_real_counterexample : (⟨[2], [-1, -2]⟩ : Tensor ℝ).max = 0 := by
  rw [max_unfold]
  simp only [List.foldl_cons, List.foldl_nil, Scalar.gt, lt_eq]
  norm_num

/-- **`Tensor.min` on the ℝ instance, exactly**: the minimum of `0 :: data`; it is the minimum of the data (a member
    bounding every member) as soon as some element is `≤ 0`, and it is `0` — NOT the minimum — when every element is
    positive. -/
theorem min_real_partial (t : Tensor ℝ) :
    t.min ≤ 0 ∧ (∀ x ∈ t.data, t.min ≤ x) ∧ (t.min = 0 ∨ t.min ∈ t.data) ∧
    ((∃ x ∈ t.data, x ≤ 0) → t.min ∈ t.data) ∧ ((∀ x ∈ t.data, 0 < x) → t.min = 0) := by
  obtain ⟨h1, h2, h3⟩ := minSelects.fold t.data 0
  exact ⟨h1, h2, h3, minSelects.fold_mem t.data 0,
    fun hpos => minSelects.fold_eq t.data 0 fun x hx => not_le.mpr (hpos x hx)⟩

/-- **`Tensor.max` on the ℝ instance, exactly**: the maximum of `0 :: data` -/
theorem max_real_partial (t : Tensor ℝ) :
    0 ≤ t.max ∧ (∀ x ∈ t.data, x ≤ t.max) ∧ (t.max = 0 ∨ t.max ∈ t.data) ∧
    ((∃ x ∈ t.data, 0 ≤ x) → t.max ∈ t.data) ∧ ((∀ x ∈ t.data, x < 0) → t.max = 0) := by
  obtain ⟨h1, h2, h3⟩ := C05.maxSelects.fold t.data 0
  exact ⟨h1, h2, h3, C05.maxSelects.fold_mem t.data 0,
    fun hneg => C05.maxSelects.fold_eq t.data 0 fun x hx => not_le.mpr (hneg x hx)⟩

/-- **Avg over ℝ**: the sum of the elements divided by the number of elements `n = prod dims` (`0` when `n = 0`:
    Mathlib's `x / 0 = 0`; a well-formed tensor has `n ≥ 1`) -/
theorem avg_real (t : Tensor ℝ) : t.avg = t.data.sum / (prod t.dims : ℝ) := (C05.sum_real t).2.1

theorem mean_real (t : Tensor ℝ) : t.mean = t.data.sum / (prod t.dims : ℝ) := by
  rw [(C05.sum_real t).2.2]; exact avg_real t

theorem mean_real_wf (t : Tensor ℝ) (hl : t.data.length = prod t.dims) (hn : 0 < prod t.dims) :
    t.mean = t.data.sum / (t.data.length : ℝ) ∧ t.avg = t.mean ∧ (t.data.length : ℝ) * t.mean = t.data.sum := by
  have hpos : (prod t.dims : ℝ) ≠ 0 := Nat.cast_ne_zero.mpr (Nat.pos_iff_ne_zero.mp hn)
  refine ⟨by rw [mean_real, hl], ((C05.sum_real t).2.2).symm, ?_⟩
  rw [mean_real, hl, mul_div_cancel₀ _ hpos]

theorem sum_map_sub_const (l : List ℝ) (m : ℝ) : (l.map (fun x => x - m)).sum = l.sum - (l.length : ℝ) * m := by
  induction l with
  | nil => simp
  | cons x xs ih =>
    simp only [List.map_cons, List.sum_cons, List.length_cons, ih]
    push_cast
    ring

theorem mean_centres_real (t : Tensor ℝ) (hl : t.data.length = prod t.dims) (hn : 0 < prod t.dims) :
    (t.data.map (fun x => x - t.mean)).sum = 0 := by
  rw [sum_map_sub_const, (mean_real_wf t hl hn).2.2, sub_self]

/-- **Var is never negative** (whatever `n`: it is `0` for `n ≤ 1`, and a sum of squares over `n - 1 > 0` otherwise) -/
theorem var_nonneg_real (t : Tensor ℝ) : 0 ≤ t.var := by
  rw [C05.var_real]
  split
  · rename_i h
    have hn : (1 : ℝ) < (prod t.dims : ℝ) := Nat.one_lt_cast.mpr h
    refine div_nonneg (List.sum_nonneg fun y hy => ?_) (sub_nonneg.mpr hn.le)
    obtain ⟨x, _, rfl⟩ := List.mem_map.mp hy
    exact sq_nonneg _
  · exact le_refl _

/-- **Std over ℝ** is the non-negative square root of Var: `std = √var`, `std² = var`, `std ≥ 0`; for `n ≥ 2` it is the
    root of the unbiased sample variance (denominator `n - 1`); for `n ≤ 1` it is `0` -/
theorem std_real (t : Tensor ℝ) :
    t.std = Real.sqrt t.var ∧ t.std ^ 2 = t.var ∧ 0 ≤ t.std ∧
    (1 < prod t.dims →
      t.std = Real.sqrt ((t.data.map (fun x => (x - t.mean) ^ 2)).sum / ((prod t.dims : ℝ) - 1))) ∧
    (prod t.dims ≤ 1 → t.var = 0 ∧ t.std = 0) := by
  have hs : t.std = Real.sqrt t.var := rfl
  refine ⟨hs, ?_, ?_, ?_, ?_⟩
  · rw [hs]; exact Real.sq_sqrt (var_nonneg_real t)
  · rw [hs]; exact Real.sqrt_nonneg _
  · intro h
    rw [hs, C05.var_real, if_pos h]
  · intro h
    have hv : t.var = 0 := by rw [C05.var_real, if_neg (by omega)]
    exact ⟨hv, by rw [hs, hv, Real.sqrt_zero]⟩

theorem std_eq_iff_var_eq (s t : Tensor ℝ) : s.std = t.std ↔ s.var = t.var := by
  constructor
  · intro h
    rw [← (std_real s).2.1, ← (std_real t).2.1, h]
  · intro h
    rw [(std_real s).1, (std_real t).1, h]

/-- non-vacuity over ℝ: Avg / Var / Std of `[1, 3]` are `2`, `2`, `√2`; Var / Std of a single element are `0` -/
example : (⟨[2], [1, 3]⟩ : Tensor ℝ).avg = 2 ∧ (⟨[2], [1, 3]⟩ : Tensor ℝ).var = 2 ∧
    (⟨[2], [1, 3]⟩ : Tensor ℝ).std = Real.sqrt 2 ∧ (⟨[1], [5]⟩ : Tensor ℝ).var = 0 := by
  have ha : (⟨[2], [1, 3]⟩ : Tensor ℝ).avg = 2 := by
    rw [avg_real]; simp only [prod, List.sum_cons, List.sum_nil]; norm_num
  have hm : (⟨[2], [1, 3]⟩ : Tensor ℝ).mean = 2 := by rw [(C05.sum_real _).2.2, ha]
  have hv : (⟨[2], [1, 3]⟩ : Tensor ℝ).var = 2 := by
    rw [C05.var_real, hm, if_pos (by decide)]
    simp only [prod, List.map_cons, List.map_nil, List.sum_cons, List.sum_nil]; norm_num
  exact ⟨ha, hv, by rw [(std_real _).1, hv], by rw [C05.var_real, if_neg (by decide)]⟩

/-- non-vacuity on the executable instance (`Int`, where the identities are ∓10¹²): Min / Max are the extrema -/
example : (⟨[3], [4, -7, 5]⟩ : Tensor Int).min = -7 ∧ (⟨[3], [4, -7, 5]⟩ : Tensor Int).max = 5 ∧
    (⟨[3], [4, 7, 5]⟩ : Tensor Int).min = 4 := by decide +kernel

end C05x
end Qeep
