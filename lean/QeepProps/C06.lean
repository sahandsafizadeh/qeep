import QeepProofs.Index
import QeepProofs.Slice
import QeepProofs.Patch
import QeepProofs.Concat
import QeepProofs.Gates
/-!
# C06 — indexing, reshaping and construction move elements without changing them

Statements are about the Model (`Qeep.Forward`), for every rank and every positive dimension size.
-/

namespace Qeep
namespace C06

variable {α : Type}

/-- **Reshape preserves the row-major element sequence** — for every well-formed tensor and every target
    shape with the same element count, the generator-driven `reshape` (Go: `linearElemGenerator` +
    `initWith`) succeeds and returns exactly the source data under the new dims. -/
theorem reshape_data (t : Tensor α) (hwf : t.WF) (shape : List Nat) (h : prod shape = prod t.dims) :
    t.reshapeRaw shape = some ⟨shape, t.data⟩ := by
  unfold Tensor.reshapeRaw
  rw [genData_linear t hwf (prod shape) (by omega), h, ← hwf.1, List.take_length]
  rfl

/-- the public `Reshape`: accepted exactly when the target is positive and element-count preserving, and
    then the result is the same data under the requested shape (never a panic) -/
theorem vReshape_total (t : Tensor α) (hwf : t.WF) (shape : List Int) :
    (validInputDims shape = true ∧ prod (natDims shape) = prod t.dims →
      vReshape t shape = .ok ⟨natDims shape, t.data⟩) ∧
    (¬ (validInputDims shape = true ∧ prod (natDims shape) = prod t.dims) → vReshape t shape = .err) := by
  unfold vReshape
  constructor
  · rintro ⟨h1, h2⟩
    exact gate_eq_ok.2 ⟨by rw [h1, validReshape, h2]; simp, reshape_data t hwf _ h2⟩
  · intro h
    exact gate_err (by simpa [validReshape] using h)

theorem prod_take_drop (n : Nat) (l : List Nat) : prod (l.take n) * prod (l.drop n) = prod l := by
  rw [← prod_append, List.take_append_drop]

theorem prod_unsqueezeDims (dim : Nat) (dims : List Nat) : prod (unsqueezeDims dim dims) = prod dims := by
  unfold unsqueezeDims
  rw [prod_append]; simp only [prod, Nat.one_mul]; exact prod_take_drop dim dims

theorem prod_flattenDims (dim : Nat) (dims : List Nat) : prod (flattenDims dim dims) = prod dims := by
  unfold flattenDims
  rw [prod_append]; simp only [prod, Nat.mul_one]; exact prod_take_drop dim dims

theorem prod_squeezeDims (dim : Nat) (dims : List Nat) (h : dims[dim]? = some 1) :
    prod (squeezeDims dim dims) = prod dims := by
  unfold squeezeDims
  have hlt : dim < dims.length := by
    rcases Nat.lt_or_ge dim dims.length with h' | h'
    · exact h'
    · rw [List.getElem?_eq_none h'] at h; simp at h
  have hd : dims.drop dim = 1 :: dims.drop (dim + 1) := by
    rw [List.drop_eq_getElem_cons hlt]
    have : dims[dim] = 1 := by rw [List.getElem?_eq_getElem hlt] at h; simpa using h
    rw [this]
  rw [prod_append, ← prod_take_drop dim dims, hd]; simp [prod]

/-- UnSqueeze / Flatten / Squeeze are reshapes: same data, dims as defined -/
theorem unsqueeze_data (t : Tensor α) (hwf : t.WF) (dim : Nat) :
    t.unSqueezeRaw dim = some ⟨unsqueezeDims dim t.dims, t.data⟩ :=
  reshape_data t hwf _ (prod_unsqueezeDims dim t.dims)

theorem flatten_data (t : Tensor α) (hwf : t.WF) (dim : Nat) :
    t.flattenRaw dim = some ⟨flattenDims dim t.dims, t.data⟩ :=
  reshape_data t hwf _ (prod_flattenDims dim t.dims)

theorem squeeze_data (t : Tensor α) (hwf : t.WF) (dim : Nat) (h : t.dims[dim]? = some 1) :
    t.squeezeRaw dim = some ⟨squeezeDims dim t.dims, t.data⟩ :=
  reshape_data t hwf _ (prod_squeezeDims dim t.dims h)

/-- Full / Zeros / Ones hold exactly the requested value at every position, and are well formed -/
theorem full_data (v : α) (dims : List Nat) (hpos : ∀ d ∈ dims, 0 < d) :
    (constTensor v dims).WF ∧ ∀ x ∈ (constTensor v dims).data, x = v := by
  refine ⟨⟨by simp [constTensor], hpos⟩, ?_⟩
  intro x hx
  simp [constTensor] at hx
  exact hx.2

/-- NElems is the product of Shape (definitionally) and equals the number of stored elements -/
theorem nelems_eq (t : Tensor α) (hwf : t.WF) : t.numElems = prod t.dims ∧ t.numElems = t.data.length :=
  ⟨rfl, hwf.1.symm⟩

/-- `n ≡ -1 (mod n+1)`: position `i*n + j` of an `n × n` grid is a multiple of `n + 1` exactly on the diagonal -/
theorem diag_iff {n i j : Nat} (hi : i < n) (hj : j < n) : (i * n + j) % (n + 1) = 0 ↔ i = j := by
  constructor
  · intro h
    have h1 : (i * n + j + i) % (n + 1) = j := by
      rw [show i * n + j + i = j + i * (n + 1) by rw [Nat.mul_add]; omega, Nat.add_mul_mod_self_right,
        Nat.mod_eq_of_lt (by omega)]
    rwa [Nat.add_mod, h, Nat.zero_add, Nat.mod_mod, Nat.mod_eq_of_lt (by omega)] at h1
  · rintro rfl
    rw [show i * n + i = i * (n + 1) by rw [Nat.mul_add]; omega]
    exact Nat.mul_mod_left _ _

/-- Eye holds δ_ij: position `i*n + j` is one exactly on the diagonal -/
theorem eye_get [Scalar α] (n i j : Nat) (hi : i < n) (hj : j < n) :
    (eyeMatrix n : Tensor α).data[i * n + j]? = some (if i = j then Scalar.one else Scalar.zero) := by
  simp only [eyeMatrix, List.getElem?_map, List.getElem?_range (add_mul_lt hi hj), Option.map_some, diag_iff hi hj]

/-- non-vacuity: a concrete rank-3 tensor is well formed and reshapes as stated -/
example : (⟨[2, 1, 3], [1, 2, 3, 4, 5, 6]⟩ : Tensor Nat).WF ∧
    (⟨[2, 1, 3], [1, 2, 3, 4, 5, 6]⟩ : Tensor Nat).reshapeRaw [3, 2] = some ⟨[3, 2], [1, 2, 3, 4, 5, 6]⟩ :=
  ⟨by decide, reshape_data _ (by decide) _ rfl⟩

end C06
end Qeep

namespace Qeep
namespace C06
variable {α : Type}

/-- what the validator guarantees about a Slice index, on natural numbers: at most one range per dimension, each
    either `{0,0}` (whole dimension) or a non-empty half-open range inside the dimension -/
inductive RangesOK : List (Nat × Nat) → List Nat → Prop
  | nil (ds) : RangesOK [] ds
  | cons {f t idx d ds} : ((f = 0 ∧ t = 0) ∨ (f < t ∧ t ≤ d)) → RangesOK idx ds → RangesOK ((f, t) :: idx) (d :: ds)

theorem fits_nil : ∀ ds : List Nat, Fits (completeIndex [] ds) ds
  | [] => .nil
  | _ :: ds => .cons (Nat.le_refl _) (fits_nil ds)

theorem fits_complete {idx ds} (h : RangesOK idx ds) : Fits (completeIndex idx ds) ds := by
  induction h with
  | nil ds => exact fits_nil ds
  | @cons f t idx d ds h _ ih =>
    show Fits ((if f = 0 ∧ t = 0 then (0, d) else (f, t)) :: completeIndex idx ds) (d :: ds)
    split
    · exact .cons (Nat.le_refl _) ih
    · exact .cons (h.resolve_left ‹_›).2 ih

/-- **Slice returns the selected block** — for every rank, every mix of explicit, omitted and `{0,0}` ranges:
    the copy succeeds (no panic), the result has one dimension per source dimension with size `To - From` (the
    whole size where omitted), and its element at local index `j` is the source element at `j + From`. -/
theorem slice_get (t : Tensor α) (hwf : t.WF) (index : List (Nat × Nat)) (hok : RangesOK index t.dims) :
    ∃ data, t.sliceRaw index = some ⟨sliceDims (completeIndex index t.dims), data⟩ ∧
      data.length = prod (sliceDims (completeIndex index t.dims)) ∧
      ∀ js, InBlock (completeIndex index t.dims) js →
        (⟨sliceDims (completeIndex index t.dims), data⟩ : Tensor α).at? js = t.at? (shiftIdx (completeIndex index t.dims) js) := by
  obtain ⟨out, h1, h2, h3⟩ := sliceData_get (completeIndex index t.dims) t.dims t.data (fits_complete hok) hwf.1
  exact ⟨out, by simp [Tensor.sliceRaw, h1], h2, h3⟩

/-- non-vacuity: rows 0..2, columns 1..3 of a [2,3] tensor; partial index with an omitted second range -/
example : (⟨[2, 3], [1, 2, 3, 4, 5, 6]⟩ : Tensor Nat).sliceRaw [(0, 0), (1, 3)] = some ⟨[2, 2], [2, 3, 5, 6]⟩ ∧
    (⟨[2, 3], [1, 2, 3, 4, 5, 6]⟩ : Tensor Nat).sliceRaw [(1, 2)] = some ⟨[1, 3], [4, 5, 6]⟩ := by decide +kernel

end C06
end Qeep

namespace Qeep
namespace C06
variable {α : Type}

theorem valid_of_validAt (index : List Int) (dims : List Nat) (h : validAtIndex index dims = true) :
    Valid dims (natDims index) := by
  induction index generalizing dims with
  | nil =>
    cases dims with
    | nil => exact .nil
    | cons _ _ => cases h
  | cons i is ih =>
    cases dims with
    | nil => cases h
    | cons d ds =>
      simp only [validAtIndex, List.length_cons, List.zip_cons_cons, List.all_cons, Bool.and_eq_true,
        decide_eq_true_eq, beq_iff_eq] at h
      obtain ⟨hl, ⟨h0, h1⟩, hrest⟩ := h
      refine .cons ((Int.toNat_lt h0).mpr h1) (ih ds ?_)
      simp only [validAtIndex, Bool.and_eq_true, beq_iff_eq]
      exact ⟨Nat.succ.inj hl, hrest⟩

/-- **At returns the element at a multi-index**: `ok` exactly when the index has one in-range entry per dimension —
    then it is the element at the row-major position of the index — and an error otherwise; never a panic. -/
theorem vAt_total (t : Tensor α) (hwf : t.WF) (index : List Int) :
    (validAtIndex index t.dims = true → ∃ x, vAt t index = .ok x ∧
        t.data[val t.dims.reverse (natDims index).reverse]? = some x) ∧
    (validAtIndex index t.dims = false → vAt t index = .err) :=
  gate_total fun h => by
    have hv := valid_of_validAt index t.dims h
    obtain ⟨x, e⟩ := Option.isSome_iff_exists.mp (at?_valid t hwf hv)
    exact ⟨x, e, by rw [← t.at?_of_valid hv]; exact e⟩

end C06
end Qeep

namespace Qeep
namespace C06
variable {α : Type}

/-- what the validator guarantees about a Patch (natural numbers): equal ranks, source not larger than target,
    each given range either `{0,0}` or a non-empty range inside the target that exactly covers the source -/
inductive PatchOK : List (Nat × Nat) → List Nat → List Nat → Prop
  | nil : PatchOK [] [] []
  | omit {sd sds dd dds} : sd ≤ dd → PatchOK [] sds dds → PatchOK [] (sd :: sds) (dd :: dds)
  | cons {f t idx sd sds dd dds} : sd ≤ dd → ((f = 0 ∧ t = 0) ∨ (f < t ∧ t ≤ dd ∧ t - f = sd)) →
      PatchOK idx sds dds → PatchOK ((f, t) :: idx) (sd :: sds) (dd :: dds)

theorem fitsP_complete {idx sds dds} (h : PatchOK idx sds dds) : FitsP (completeIndex idx sds) sds dds := by
  induction h with
  | nil => exact .nil
  | «omit» h _ ih => exact .cons (by omega) ih
  | @cons f t idx sd sds dd dds h hrange _ ih =>
    show FitsP ((if f = 0 ∧ t = 0 then (0, sd) else (f, t)) :: completeIndex idx sds) (sd :: sds) (dd :: dds)
    split
    · exact .cons (by omega) ih
    · have := hrange.resolve_left ‹_›
      exact .cons (by omega) ih

/-- **Patch writes the source block at the indexed position and leaves every other element unchanged** — for every
    rank and every mix of explicit / omitted / `{0,0}` ranges (an omitted or `{0,0}` range places the source at
    offset 0): no panic, the target's dims, and at every target index `js` the source element (index shifted back by
    `From`) inside the block, the target element outside. -/
theorem patch_get (t u : Tensor α) (ht : t.WF) (hu : u.WF) (index : List (Nat × Nat)) (hok : PatchOK index u.dims t.dims) :
    ∃ data, t.patchRaw index u = some ⟨t.dims, data⟩ ∧ data.length = prod t.dims ∧
      ∀ js, Valid t.dims js →
        (⟨t.dims, data⟩ : Tensor α).at? js =
          if insideP (completeIndex index u.dims) u.dims js then u.at? (unshiftP (completeIndex index u.dims) js)
          else t.at? js := by
  obtain ⟨out, h1, h2, h3⟩ := patchData_get (completeIndex index u.dims) u.dims t.dims u.data t.data
    (fitsP_complete hok) hu.1 ht.1
  exact ⟨out, by simp [Tensor.patchRaw, h1], h2, h3⟩

/-- non-vacuity: a [2,2] source into a [3,3] target with the partial index {1:3} (offset 0 along the omitted dim) -/
example : (⟨[3, 3], [1, 2, 3, 4, 5, 6, 7, 8, 9]⟩ : Tensor Nat).patchRaw [(1, 3)] ⟨[2, 2], [10, 20, 30, 40]⟩
    = some ⟨[3, 3], [1, 2, 3, 10, 20, 6, 30, 40, 9]⟩ := by decide +kernel

end C06
end Qeep

namespace Qeep
namespace C06
variable {α : Type}

/-- **Concat lays its operands end to end along one dimension** — for every operand count ≥ 1, every rank ≥ 1,
    every `dim` and all sizes: whenever the operands agree with the first one on every dimension except `dim`
    (what the validator checks), the concatenation succeeds (no panic), has the first operand's dims with `dim`
    replaced by the sum of the operands' sizes, and every result index is routed (`route`) to exactly one operand
    and an operand-local index, where the result holds that operand's element. -/
theorem concat_get (t0 : Tensor α) (ts : List (Tensor α)) (dim : Nat) (hdim : dim < t0.dims.length)
    (hwf : ∀ t ∈ t0 :: ts, t.WF)
    (hagree : ∀ t ∈ t0 :: ts, t.dims.length = t0.dims.length ∧ ∀ j, j ≠ dim → t.dims[j]? = t0.dims[j]?) :
    let lens := (t0 :: ts).map (fun t => t.dims.getD dim 0)
    ∃ data, concatRaw (t0 :: ts) dim = some ⟨t0.dims.set dim lens.sum, data⟩ ∧
      data.length = prod (t0.dims.set dim lens.sum) ∧
      ∀ idx, Valid (t0.dims.set dim lens.sum) idx →
        ∃ s idx' t, route dim lens idx = some (s, idx') ∧ (t0 :: ts)[s]? = some t ∧
          (⟨t0.dims.set dim lens.sum, data⟩ : Tensor α).at? idx = t.at? idx' := by
  intro lens
  let seeds : List (List Nat × List α) := (t0 :: ts).map (fun t => (t.dims, t.data))
  have hlens : lensAt dim seeds = lens := List.map_map
  have hok : SeedsOK dim (delAt dim t0.dims) seeds := by
    apply seedsOK_of dim _ seeds (by have := delAt_length dim t0.dims hdim; omega)
    intro s hs
    obtain ⟨t, ht, rfl⟩ := List.mem_map.mp hs
    obtain ⟨hl, hj⟩ := hagree t ht
    refine ⟨t.dims.getD dim 0, ?_, (hwf t ht).1⟩
    have e := eq_rdimsOf dim t0.dims t.dims hl hdim hj
    exact e
  obtain ⟨out, h1, h2, h3⟩ := concatData_get dim (delAt dim t0.dims) seeds hok
  rw [hlens, rdimsOf_set dim t0.dims _ hdim] at h1 h2 h3
  have hcd : concatDims (t0 :: ts) dim = t0.dims.set dim lens.sum := rfl
  refine ⟨out, by simp only [concatRaw, hcd]; rw [h1]; rfl, h2, ?_⟩
  intro idx hidx
  obtain ⟨s, idx', r1, r2, _, r4⟩ := h3 idx hidx
  have r2' : s < (t0 :: ts).length := by simpa [seeds] using r2
  refine ⟨s, idx', (t0 :: ts)[s], r1, List.getElem?_eq_getElem r2', ?_⟩
  rw [r4]
  have hsel : seeds[s]! = (((t0 :: ts)[s]).dims, ((t0 :: ts)[s]).data) := by
    simp only [seeds, List.getElem!_eq_getElem?_getD, List.getElem?_map, List.getElem?_eq_getElem r2']
    rfl
  rw [hsel]

/-- non-vacuity: two [2,·] blocks along dim 1 -/
example : concatRaw [(⟨[2, 1], [1, 2]⟩ : Tensor Nat), ⟨[2, 2], [3, 4, 5, 6]⟩] 1 = some ⟨[2, 3], [1, 3, 4, 2, 5, 6]⟩ := by decide +kernel

end C06
end Qeep
