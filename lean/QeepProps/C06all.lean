import QeepProps.C04x
import QeepProps.C06y
/-! `C06` together with the round trips and extensionality of `C04x` and the `TensorOf` statements of `C06y`; the check
of C06 builds this module (`lake build QeepProps.C06all`) and then prints the axioms of each theorem (`work/audit_C06.lean`). -/
