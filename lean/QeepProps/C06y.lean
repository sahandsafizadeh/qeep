import QeepProps.C09
/-!
# C06 (extension) — `TensorOf` holds exactly the caller's values

`vTensorOf depth x` models `tensor.TensorOf(data, conf)` for the static Go types `float64` (`depth = 0`),
`[]float64`, … `[][][][]float64` (`depth = 4`); `NData` is a generic rose tree, so everything here is proved for
every depth. Accepted data give a well-formed tensor whose dims are the nesting lengths `shapeOf x` (the length of
*every* branch at that level, not only the first), whose element at `[i₁, …, i_d]` is `data[i₁]…[i_d]` (`lookup?`,
a structural walk through the nested value) and whose data list is the left-to-right flattening of the leaves.
Ragged data, an empty level, or a nesting depth other than the static one give an error (never a panic, never a
tensor).
-/

namespace Qeep
namespace C06y

variable {α : Type}

open NData

/-! Specification-side definitions, independent of the model's `validData` / `flat`. -/

mutual
/-- nesting lengths along the first branch: `len(v)`, `len(v[0])`, `len(v[0][0])`, … down to the first leaf -/
def shapeOf : NData α → List Nat
  | leaf _ => []
  | node xs => xs.length :: shapeOfHead xs
def shapeOfHead : List (NData α) → List Nat
  | [] => []
  | x :: _ => shapeOf x
end

mutual
/-- `data[i₁]…[i_k]` for a prefix index (a sub-slice, or a number when the index is complete); `none` = out of range
    or indexing into a number -/
def sub? : NData α → List Nat → Option (NData α)
  | leaf v, [] => some (leaf v)
  | node xs, [] => some (node xs)
  | leaf _, _ :: _ => none
  | node xs, i :: is => subList? xs i is
def subList? : List (NData α) → Nat → List Nat → Option (NData α)
  | [], _, _ => none
  | x :: _, 0, is => sub? x is
  | _ :: xs, i + 1, is => subList? xs i is
end

/-- the number `data[i₁]…[i_d]`; `none` when the index is out of range, too short or too long -/
def lookup? (x : NData α) (idx : List Nat) : Option α :=
  match sub? x idx with
  | some (leaf v) => some v
  | _ => none

/-- all multi-indices of a shape, in lexicographic (= row-major) order -/
def indices : List Nat → List (List Nat)
  | [] => [[]]
  | d :: ds => (List.range d).flatMap (fun i => (indices ds).map (i :: ·))

/-- `x` is rectangular with level sizes `ds`: every sub-value reached by `k < |ds|` index steps is a slice of exactly
    `ds[k] > 0` entries (the same for **every** branch), every sub-value reached by `|ds|` steps is a number, and
    nothing lies deeper. -/
def Rect (ds : List Nat) (x : NData α) : Prop :=
  ∀ p y, sub? x p = some y →
    p.length ≤ ds.length ∧
    (∀ d, ds[p.length]? = some d → ∃ xs, y = node xs ∧ xs.length = d ∧ 0 < d) ∧
    (p.length = ds.length → ∃ v, y = leaf v)

/-- two slices at the same nesting level have different lengths -/
def Ragged (x : NData α) : Prop :=
  ∃ p q a b, p.length = q.length ∧ sub? x p = some (node a) ∧ sub? x q = some (node b) ∧ a.length ≠ b.length

/-- some slice (at any level) is empty -/
def HasEmpty (x : NData α) : Prop := ∃ p, sub? x p = some (node [])

/-- a number and a slice at the same nesting level (impossible for a Go static type; `NData` allows it) -/
def Uneven (x : NData α) : Prop :=
  ∃ p q v b, p.length = q.length ∧ sub? x p = some (leaf v) ∧ sub? x q = some (node b)

theorem sub?_nil (x : NData α) : sub? x [] = some x := by
  cases x <;> simp only [sub?]

theorem subList?_eq : ∀ (xs : List (NData α)) (i : Nat) (is : List Nat),
    subList? xs i is = xs[i]?.bind (fun y => sub? y is)
  | [], i, is => by simp only [subList?]; simp
  | x :: xs, 0, is => by simp only [subList?]; simp
  | x :: xs, i + 1, is => by simp only [subList?]; rw [subList?_eq xs i is]; simp

theorem sub?_cons (xs : List (NData α)) (i : Nat) (is : List Nat) :
    sub? (node xs) (i :: is) = xs[i]?.bind (fun y => sub? y is) := by
  simp only [sub?]; exact subList?_eq xs i is

theorem sub?_leaf_cons (v : α) (i : Nat) (is : List Nat) : sub? (leaf v) (i :: is) = none := by
  simp only [sub?]

theorem lookup?_leaf_nil (v : α) : lookup? (leaf v) [] = some v := by
  simp only [lookup?, sub?]

theorem lookup?_node_cons (xs : List (NData α)) (i : Nat) (is : List Nat) :
    lookup? (node xs) (i :: is) = xs[i]?.bind (fun y => lookup? y is) := by
  unfold lookup?
  rw [sub?_cons]
  cases xs[i]? with
  | none => rfl
  | some y => rfl

theorem allHaveShape_iff (ds : List Nat) : ∀ xs : List (NData α),
    allHaveShape ds xs = true ↔ ∀ y ∈ xs, hasShape ds y = true
  | [] => by simp [allHaveShape]
  | x :: xs => by simp [allHaveShape, allHaveShape_iff ds xs]

theorem noEmptyList_iff : ∀ xs : List (NData α), noEmptyList xs = true ↔ ∀ y ∈ xs, noEmpty y = true
  | [] => by simp [noEmptyList]
  | x :: xs => by simp [noEmptyList, noEmptyList_iff xs]

theorem hasShape_nil_inv {x : NData α} (h : hasShape [] x = true) : ∃ v, x = leaf v := by
  cases x with
  | leaf v => exact ⟨v, rfl⟩
  | node xs => simp [hasShape] at h

theorem hasShape_cons_inv {d : Nat} {ds : List Nat} {x : NData α} (h : hasShape (d :: ds) x = true) :
    ∃ xs, x = node xs ∧ xs.length = d ∧ ∀ y ∈ xs, hasShape ds y = true := by
  cases x with
  | leaf v => simp [hasShape] at h
  | node xs =>
    simp only [hasShape, Bool.and_eq_true, beq_iff_eq] at h
    exact ⟨xs, rfl, h.1, (allHaveShape_iff ds xs).1 h.2⟩

theorem noEmpty_node_inv {xs : List (NData α)} (h : noEmpty (node xs) = true) :
    xs ≠ [] ∧ ∀ y ∈ xs, noEmpty y = true := by
  simp only [noEmpty, Bool.and_eq_true] at h
  refine ⟨?_, (noEmptyList_iff xs).1 h.2⟩
  intro e; rw [e] at h; simp at h

theorem flatList_eq : ∀ xs : List (NData α), flatList xs = (xs.map flat).flatten
  | [] => rfl
  | x :: xs => by simp [flatList, flatList_eq xs]

theorem flatList_length (P : Nat) (xs : List (NData α)) (h : ∀ y ∈ xs, (flat y).length = P) :
    (flatList xs).length = xs.length * P := by
  rw [flatList_eq, flatten_length_const _ P (by simpa using h), List.length_map]

theorem flat_length : ∀ (ds : List Nat) (x : NData α), hasShape ds x = true → (flat x).length = prod ds
  | [], x, h => by
    obtain ⟨v, hx⟩ := hasShape_nil_inv h
    rw [hx]; simp [flat, prod]
  | d :: ds, x, h => by
    obtain ⟨xs, hx, hl, hall⟩ := hasShape_cons_inv h
    rw [hx]
    simp only [flat, prod]
    rw [flatList_length (prod ds) xs (fun y hy => flat_length ds y (hall y hy)), hl]

theorem flatList_getElem? (P : Nat) (xs : List (NData α)) (i o : Nat) (y : NData α)
    (h : ∀ z ∈ xs, (flat z).length = P) (hy : xs[i]? = some y) (ho : o < P) :
    (flatList xs)[i * P + o]? = (flat y)[o]? := by
  have hi := (List.getElem?_eq_some_iff.1 hy).1
  rw [flatList_eq, ← chunk_getElem? _ P i o ho,
    chunk_flatten _ P i (flat y) (by simpa using h) (by simp [hy])]

theorem offset_cons_valid {d i : Nat} {ds is : List Nat} (hi : i < d) (hl : is.length = ds.length) :
    offset (d :: ds) (i :: is) = (offset ds is).map (fun o => i * prod ds + o) := by
  simp only [offset, hi, if_true, hl, List.take_length]

theorem offset_valid {ds is : List Nat} (h : Valid ds is) : ∃ o, offset ds is = some o ∧ o < prod ds :=
  ⟨_, offset_full (valid_reverse h), prod_reverse ds ▸ val_lt (valid_reverse h)⟩

/-- the core induction: walking a valid index and reading the flattening at its row-major offset reach the same leaf -/
theorem flat_get : ∀ (idx ds : List Nat) (x : NData α), hasShape ds x = true → Valid ds idx →
    ∃ o v, offset ds idx = some o ∧ (flat x)[o]? = some v ∧ lookup? x idx = some v
  | [], [], x, h, .nil => by
    obtain ⟨v, hx⟩ := hasShape_nil_inv h
    rw [hx]
    exact ⟨0, v, by simp [offset], by simp [flat], lookup?_leaf_nil v⟩
  | i :: is, d :: ds, x, h, .cons hi hv => by
    obtain ⟨xs, hx, hl, hall⟩ := hasShape_cons_inv h
    have hix : i < xs.length := by omega
    have hy : xs[i]? = some xs[i] := List.getElem?_eq_getElem hix
    have hmem : xs[i] ∈ xs := List.mem_of_getElem? hy
    obtain ⟨o, v, ho, hv1, hv2⟩ := flat_get is ds xs[i] (hall _ hmem) hv
    obtain ⟨o', ho', hlt⟩ := offset_valid hv
    have hoo : o' = o := by rw [ho] at ho'; exact (Option.some.inj ho').symm
    rw [hoo] at hlt
    refine ⟨i * prod ds + o, v, by rw [offset_cons_valid hi hv.length_eq, ho]; rfl, ?_, ?_⟩
    · rw [hx]
      simp only [flat]
      rw [flatList_getElem? (prod ds) xs i o xs[i] (fun z hz => flat_length ds z (hall z hz)) hy hlt]
      exact hv1
    · rw [hx, lookup?_node_cons, hy]
      exact hv2

theorem hasShape_cons_noEmpty_inv {d : Nat} {ds : List Nat} {x : NData α} (h : hasShape (d :: ds) x = true)
    (hne : noEmpty x = true) :
    ∃ y ys, x = node (y :: ys) ∧ ys.length + 1 = d ∧ ∀ z ∈ y :: ys, hasShape ds z = true ∧ noEmpty z = true := by
  obtain ⟨xs, rfl, hl, hall⟩ := hasShape_cons_inv h
  obtain ⟨hnil, hne'⟩ := noEmpty_node_inv hne
  cases xs with
  | nil => exact absurd rfl hnil
  | cons y ys => exact ⟨y, ys, rfl, hl, fun z hz => ⟨hall z hz, hne' z hz⟩⟩

theorem hasShape_pos : ∀ (ds : List Nat) (x : NData α), hasShape ds x = true → noEmpty x = true → ∀ d ∈ ds, 0 < d
  | [], _, _, _ => by simp
  | d :: ds, x, h, hne => by
    obtain ⟨y, ys, _, hl, hall⟩ := hasShape_cons_noEmpty_inv h hne
    intro e he
    rcases List.mem_cons.1 he with rfl | he
    · omega
    · exact hasShape_pos ds y (hall y (by simp)).1 (hall y (by simp)).2 e he

theorem shapeOf_of_hasShape : ∀ (ds : List Nat) (x : NData α), hasShape ds x = true → noEmpty x = true →
    shapeOf x = ds
  | [], x, h, _ => by
    obtain ⟨v, hx⟩ := hasShape_nil_inv h
    rw [hx]; simp only [shapeOf]
  | d :: ds, x, h, hne => by
    obtain ⟨y, ys, rfl, hl, hall⟩ := hasShape_cons_noEmpty_inv h hne
    simp only [shapeOf, shapeOfHead, shapeOf_of_hasShape ds y (hall y (by simp)).1 (hall y (by simp)).2, List.length_cons, hl]

theorem firstDims_of_hasShape : ∀ (ds : List Nat) (x : NData α), hasShape ds x = true → noEmpty x = true →
    firstDims ds.length x = some ds
  | [], x, _, _ => by simp [firstDims]
  | d :: ds, x, h, hne => by
    obtain ⟨y, ys, rfl, hl, hall⟩ := hasShape_cons_noEmpty_inv h hne
    simp only [List.length_cons, firstDims, firstDims_of_hasShape ds y (hall y (by simp)).1 (hall y (by simp)).2,
      Option.map_some, hl]

theorem firstDims_length : ∀ (k : Nat) (x : NData α) (ds : List Nat), firstDims k x = some ds → ds.length = k
  | 0, x, ds, h => by
    simp only [firstDims, Option.some.injEq] at h
    rw [← h]; rfl
  | k + 1, leaf _, ds, h => by simp [firstDims] at h
  | k + 1, node [], ds, h => by
    simp only [firstDims] at h
    split at h
    · next hk => simp only [Option.some.injEq] at h; rw [← h, hk]; rfl
    · simp at h
  | k + 1, node (y :: ys), ds, h => by
    simp only [firstDims, Option.map_eq_some_iff] at h
    obtain ⟨ds', h1, h2⟩ := h
    rw [← h2]
    simp [firstDims_length k y ds' h1]

theorem validData_iff_hasShape (depth : Nat) (x : NData α) :
    validData depth x = true ↔ ∃ ds, ds.length = depth ∧ hasShape ds x = true ∧ noEmpty x = true := by
  constructor
  · intro h
    unfold validData at h
    cases hf : firstDims depth x with
    | none => rw [hf] at h; simp at h
    | some dims =>
      rw [hf] at h
      simp only [Bool.and_eq_true] at h
      exact ⟨dims, firstDims_length depth x dims hf, h.2, h.1⟩
  · rintro ⟨ds, hlen, hs, hne⟩
    unfold validData
    rw [← hlen, firstDims_of_hasShape ds x hs hne]
    simp [hs, hne]

theorem sub?_shaped : ∀ (p ds : List Nat) (x y : NData α), hasShape ds x = true → noEmpty x = true →
    sub? x p = some y → p.length ≤ ds.length ∧ hasShape (ds.drop p.length) y = true ∧ noEmpty y = true
  | [], ds, x, y, h, hne, hs => by
    obtain rfl := Option.some.inj ((sub?_nil x).symm.trans hs)
    exact ⟨Nat.zero_le _, h, hne⟩
  | i :: is, [], x, y, h, _, hs => by
    obtain ⟨v, rfl⟩ := hasShape_nil_inv h
    rw [sub?_leaf_cons] at hs
    cases hs
  | i :: is, d :: ds, x, y, h, hne, hs => by
    obtain ⟨z, zs, rfl, _, hall⟩ := hasShape_cons_noEmpty_inv h hne
    rw [sub?_cons] at hs
    obtain ⟨w, hw, hs⟩ := Option.bind_eq_some_iff.1 hs
    have hw' := hall w (List.mem_of_getElem? hw)
    obtain ⟨h1, h2⟩ := sub?_shaped is ds w y hw'.1 hw'.2 hs
    exact ⟨Nat.succ_le_succ h1, h2⟩

theorem rect_of_hasShape (ds : List Nat) (x : NData α) (h : hasShape ds x = true) (hne : noEmpty x = true) :
    Rect ds x := by
  intro p y hs
  obtain ⟨hle, hy, hney⟩ := sub?_shaped p ds x y h hne hs
  refine ⟨hle, ?_, ?_⟩
  · intro d hd
    have hlt : p.length < ds.length := by
      rcases Nat.lt_or_ge p.length ds.length with h' | h'
      · exact h'
      · rw [List.getElem?_eq_none h'] at hd; simp at hd
    have hdrop : ds.drop p.length = d :: ds.drop (p.length + 1) := by
      rw [List.getElem?_eq_getElem hlt] at hd
      simp only [Option.some.injEq] at hd
      rw [← hd]
      exact List.drop_eq_getElem_cons hlt
    rw [hdrop] at hy
    obtain ⟨z, zs, hx, hl, _⟩ := hasShape_cons_noEmpty_inv hy hney
    exact ⟨_, hx, hl, by omega⟩
  · intro he
    rw [he, List.drop_length] at hy
    exact hasShape_nil_inv hy

theorem hasShape_of_rect : ∀ (ds : List Nat) (x : NData α), Rect ds x → hasShape ds x = true ∧ noEmpty x = true
  | [], x, hr => by
    obtain ⟨v, hx⟩ := (hr [] x (sub?_nil x)).2.2 rfl
    rw [hx]; simp [hasShape, noEmpty]
  | d :: ds, x, hr => by
    obtain ⟨xs, hx, hl, hpos⟩ := (hr [] x (sub?_nil x)).2.1 d (by simp)
    have hsub : ∀ y ∈ xs, Rect ds y := by
      intro y hy q z hq
      obtain ⟨i, hi⟩ := List.getElem?_of_mem hy
      have h1 := hr (i :: q) z (by rw [hx, sub?_cons, hi, Option.bind_some]; exact hq)
      simp only [List.length_cons, List.getElem?_cons_succ, Nat.add_le_add_iff_right,
        Nat.add_right_cancel_iff] at h1
      exact h1
    have ih : ∀ y ∈ xs, hasShape ds y = true ∧ noEmpty y = true :=
      fun y hy => hasShape_of_rect ds y (hsub y hy)
    rw [hx]
    constructor
    · simp only [hasShape, hl, beq_self_eq_true, Bool.true_and]
      exact (allHaveShape_iff ds xs).2 (fun y hy => (ih y hy).1)
    · simp only [noEmpty, Bool.and_eq_true]
      refine ⟨?_, (noEmptyList_iff xs).2 (fun y hy => (ih y hy).2)⟩
      cases xs with
      | nil => simp at hl; omega
      | cons z zs => rfl

theorem rect_iff (ds : List Nat) (x : NData α) : Rect ds x ↔ (hasShape ds x = true ∧ noEmpty x = true) :=
  ⟨hasShape_of_rect ds x, fun h => rect_of_hasShape ds x h.1 h.2⟩

theorem rect_shapeOf {ds : List Nat} {x : NData α} (h : Rect ds x) : shapeOf x = ds :=
  shapeOf_of_hasShape ds x (hasShape_of_rect ds x h).1 (hasShape_of_rect ds x h).2

theorem validData_iff (depth : Nat) (x : NData α) :
    validData depth x = true ↔ (Rect (shapeOf x) x ∧ (shapeOf x).length = depth) := by
  rw [validData_iff_hasShape]
  constructor
  · rintro ⟨ds, hlen, hs, hne⟩
    rw [shapeOf_of_hasShape ds x hs hne]
    exact ⟨rect_of_hasShape ds x hs hne, hlen⟩
  · rintro ⟨hr, hlen⟩
    exact ⟨shapeOf x, hlen, (hasShape_of_rect _ x hr).1, (hasShape_of_rect _ x hr).2⟩

theorem rect_node {ds : List Nat} {x : NData α} {p : List Nat} {xs : List (NData α)} (h : Rect ds x)
    (hp : sub? x p = some (node xs)) : ds[p.length]? = some xs.length ∧ 0 < xs.length := by
  obtain ⟨h1, h2, h3⟩ := h p _ hp
  rcases Nat.lt_or_ge p.length ds.length with hlt | hge
  · obtain ⟨xs', e, hl, hpos⟩ := h2 _ (List.getElem?_eq_getElem hlt)
    cases e
    exact ⟨by rw [List.getElem?_eq_getElem hlt, hl], hl ▸ hpos⟩
  · obtain ⟨v, hv⟩ := h3 (by omega)
    cases hv

theorem rect_leaf {ds : List Nat} {x : NData α} {p : List Nat} {v : α} (h : Rect ds x)
    (hp : sub? x p = some (leaf v)) : p.length = ds.length := by
  obtain ⟨h1, h2, _⟩ := h p _ hp
  rcases Nat.lt_or_ge p.length ds.length with hlt | hge
  · obtain ⟨xs, e, _⟩ := h2 _ (List.getElem?_eq_getElem hlt)
    cases e
  · omega

theorem rect_not_ragged {ds : List Nat} {x : NData α} (h : Rect ds x) : ¬ Ragged x := by
  rintro ⟨p, q, a, b, hpq, hp, hq, hab⟩
  have ha := (rect_node h hp).1
  rw [hpq, (rect_node h hq).1] at ha
  exact hab (Option.some.inj ha).symm

theorem rect_not_hasEmpty {ds : List Nat} {x : NData α} (h : Rect ds x) : ¬ HasEmpty x :=
  fun ⟨_, hp⟩ => Nat.lt_irrefl 0 (rect_node h hp).2

theorem rect_not_uneven {ds : List Nat} {x : NData α} (h : Rect ds x) : ¬ Uneven x := by
  rintro ⟨p, q, v, b, hpq, hp, hq⟩
  have hb := (rect_node h hq).1
  rw [← hpq, rect_leaf h hp, List.getElem?_eq_none (Nat.le_refl _)] at hb
  cases hb

theorem mem_indices : ∀ (ds idx : List Nat), idx ∈ indices ds ↔ Valid ds idx
  | [], idx => by
    simp only [indices, List.mem_singleton]
    constructor
    · intro h; rw [h]; exact .nil
    · intro h; cases h; rfl
  | d :: ds, idx => by
    simp only [indices, List.mem_flatMap, List.mem_range, List.mem_map]
    constructor
    · rintro ⟨i, hi, q, hq, hidx⟩
      rw [← hidx]
      exact .cons hi ((mem_indices ds q).1 hq)
    · intro h
      cases h with
      | cons hi hv => exact ⟨_, hi, _, (mem_indices ds _).2 hv, rfl⟩

theorem flatMap_range_getElem? {β γ : Type} : ∀ (xs : List β) (F : Nat → List γ) (g : β → List γ),
    (∀ i y, xs[i]? = some y → F i = g y) → (List.range xs.length).flatMap F = xs.flatMap g
  | [], F, g, _ => by simp
  | x :: xs, F, g, h => by
    rw [List.length_cons, List.range_succ_eq_map, List.flatMap_cons, List.flatMap_map, List.flatMap_cons,
      h 0 x (by simp)]
    congr 1
    exact flatMap_range_getElem? xs (fun i => F (i + 1)) g (fun i y hy => h (i + 1) y (by simpa using hy))

theorem flatList_map_some (xs : List (NData α)) : (flatList xs).map some = xs.flatMap (fun y => (flat y).map some) := by
  rw [flatList_eq, List.map_flatten, List.map_map, List.flatMap_def]
  rfl

theorem flat_lex : ∀ (ds : List Nat) (x : NData α), hasShape ds x = true →
    (indices ds).map (lookup? x) = (flat x).map some
  | [], x, h => by
    obtain ⟨v, hx⟩ := hasShape_nil_inv h
    rw [hx]; simp [indices, lookup?_leaf_nil, flat]
  | d :: ds, x, h => by
    obtain ⟨xs, hx, hl, hall⟩ := hasShape_cons_inv h
    rw [hx]
    simp only [indices, List.map_flatMap, List.map_map, flat]
    rw [flatList_map_some, ← hl]
    apply flatMap_range_getElem?
    intro i y hy
    rw [← flat_lex ds y (hall y (List.mem_of_getElem? hy))]
    apply List.map_congr_left
    intro q _
    simp only [Function.comp, lookup?_node_cons, hy, Option.bind_some]

theorem vTensorOf_ok {depth : Nat} {x : NData α} (h : validData depth x = true) :
    vTensorOf depth x = .ok ⟨shapeOf x, x.flat⟩ := by
  obtain ⟨ds, hlen, hs, hne⟩ := (validData_iff_hasShape depth x).1 h
  unfold vTensorOf tensorOfRaw
  rw [if_pos h, ← hlen, firstDims_of_hasShape ds x hs hne, shapeOf_of_hasShape ds x hs hne]
  simp [hs, Out.ofOpt]

/-- **C06, `TensorOf` holds exactly the requested values** (every depth): accepted data give a well-formed tensor
    whose dims are the nesting lengths and whose element at every valid `[i₁, …, i_d]` is `data[i₁]…[i_d]`. -/
theorem tensorOf_get (depth : Nat) (x : NData α) (h : validData depth x = true) :
    ∃ t, vTensorOf depth x = .ok t ∧ t.WF ∧ t.dims = shapeOf x ∧ t.dims.length = depth ∧
      ∀ idx, Valid t.dims idx → ∃ v, lookup? x idx = some v ∧ t.at? idx = some v := by
  obtain ⟨ds, hlen, hs, hne⟩ := (validData_iff_hasShape depth x).1 h
  have hsh : shapeOf x = ds := shapeOf_of_hasShape ds x hs hne
  refine ⟨⟨shapeOf x, x.flat⟩, vTensorOf_ok h, ?_, rfl, by simp only []; rw [hsh]; exact hlen, ?_⟩
  · rw [hsh]
    exact ⟨flat_length ds x hs, hasShape_pos ds x hs hne⟩
  · simp only []
    rw [hsh]
    intro idx hv
    obtain ⟨o, v, ho, h1, h2⟩ := flat_get idx ds x hs hv
    refine ⟨v, h2, ?_⟩
    unfold Tensor.at?
    simp only []
    rw [if_pos hv.length_eq, ho, Option.bind_some]
    exact h1

/-- `shapeOf` (lengths along the first branch) is the length of **every** branch at that level: an accepted value
    is rectangular (`Rect`) with level sizes `shapeOf x`. -/
theorem tensorOf_branch_len (depth : Nat) (x : NData α) (h : validData depth x = true) :
    Rect (shapeOf x) x ∧ (shapeOf x).length = depth :=
  (validData_iff depth x).1 h

/-- **row-major data**: the data list of the result is `NData.flat`, which lists `data[i₁]…[i_d]` over all
    multi-indices of the result's shape in lexicographic order. -/
theorem tensorOf_data_rowmajor (depth : Nat) (x : NData α) (h : validData depth x = true) :
    ∃ t, vTensorOf depth x = .ok t ∧ t.data = x.flat ∧
      (indices t.dims).map (lookup? x) = t.data.map some ∧
      ∀ idx, idx ∈ indices t.dims ↔ Valid t.dims idx := by
  obtain ⟨ds, hlen, hs, hne⟩ := (validData_iff_hasShape depth x).1 h
  have hsh : shapeOf x = ds := shapeOf_of_hasShape ds x hs hne
  refine ⟨⟨shapeOf x, x.flat⟩, vTensorOf_ok h, rfl, ?_, fun idx => mem_indices _ idx⟩
  simp only []
  rw [hsh]
  exact flat_lex ds x hs

/-- **ragged, empty or wrongly nested data are an error** (never a panic, never a tensor) -/
theorem tensorOf_rejects_ragged (depth : Nat) (x : NData α)
    (h : Ragged x ∨ HasEmpty x ∨ Uneven x ∨ (shapeOf x).length ≠ depth) : vTensorOf depth x = .err := by
  apply (C09.vTensorOf_total depth x).2
  cases hv : validData depth x with
  | false => rfl
  | true =>
    obtain ⟨hr, hlen⟩ := (validData_iff depth x).1 hv
    rcases h with h | h | h | h
    · exact absurd h (rect_not_ragged hr)
    · exact absurd h (rect_not_hasEmpty hr)
    · exact absurd h (rect_not_uneven hr)
    · exact absurd hlen h

/-- `TensorOf` succeeds iff the data are rectangular of the static depth, and is an error otherwise; a panic is
    impossible -/
theorem tensorOf_rejects_iff (depth : Nat) (x : NData α) :
    (vTensorOf depth x = .err ↔ ¬ (Rect (shapeOf x) x ∧ (shapeOf x).length = depth)) ∧
    ((∃ t, vTensorOf depth x = .ok t) ↔ (Rect (shapeOf x) x ∧ (shapeOf x).length = depth)) ∧
    vTensorOf depth x ≠ .panic := by
  rw [← validData_iff]
  cases hv : validData depth x with
  | false =>
    have he := (C09.vTensorOf_total depth x).2 hv
    rw [he]
    simp
  | true =>
    rw [vTensorOf_ok hv]
    simp

section Examples

private def m23 : NData Int := .node [.node [.leaf 1, .leaf 2, .leaf 3], .node [.leaf 4, .leaf 5, .leaf 6]]
private def c312 : NData Int :=
  .node [.node [.node [.leaf 1, .leaf 2]], .node [.node [.leaf 3, .leaf 4]], .node [.node [.leaf 5, .leaf 6]]]
private def ragged2 : NData Int := .node [.node [.leaf 1, .leaf 2], .node [.leaf 3]]
/-- ragged only at the innermost level of the *second* branch, `[][][]float64{{{1,2}},{{1,2,3}}}` (finding D7) -/
private def ragged3 : NData Int := .node [.node [.node [.leaf 1, .leaf 2]], .node [.node [.leaf 1, .leaf 2, .leaf 3]]]

example : validData 2 m23 = true ∧ shapeOf m23 = [2, 3] ∧
    vTensorOf 2 m23 = .ok ⟨[2, 3], [1, 2, 3, 4, 5, 6]⟩ := by decide +kernel
example : lookup? m23 [1, 2] = some 6 ∧ lookup? m23 [0, 1] = some 2 ∧ lookup? m23 [2, 0] = none ∧
    lookup? m23 [1] = none ∧ lookup? m23 [1, 2, 0] = none := by decide +kernel
example : (⟨[2, 3], [1, 2, 3, 4, 5, 6]⟩ : Tensor Int).at? [1, 2] = some 6 := by decide +kernel
example : indices [2, 3] = [[0, 0], [0, 1], [0, 2], [1, 0], [1, 1], [1, 2]] := by decide +kernel
example : validData 3 c312 = true ∧ shapeOf c312 = [3, 1, 2] ∧ lookup? c312 [2, 0, 1] = some 6 ∧
    vTensorOf 3 c312 = .ok ⟨[3, 1, 2], [1, 2, 3, 4, 5, 6]⟩ := by decide +kernel
example : validData 0 (.leaf (7 : Int)) = true ∧ vTensorOf 0 (.leaf (7 : Int)) = .ok ⟨[], [7]⟩ ∧
    lookup? (.leaf (7 : Int)) [] = some 7 := by decide +kernel
example : validData 4 (.node [.node [.node [.node [.leaf (1 : Int), .leaf 2]]]]) = true ∧
    vTensorOf 4 (.node [.node [.node [.node [.leaf (1 : Int), .leaf 2]]]]) = .ok ⟨[1, 1, 1, 2], [1, 2]⟩ := by decide +kernel

-- the hypotheses of `tensorOf_rejects_ragged` are satisfiable, and the outcomes are errors
example : Ragged ragged2 := ⟨[0], [1], _, _, rfl, rfl, rfl, by decide⟩
example : Ragged ragged3 := ⟨[0, 0], [1, 0], _, _, rfl, rfl, rfl, by decide⟩
example : HasEmpty (.node [.node [.leaf (1 : Int)], .node []]) := ⟨[1], rfl⟩
example : Uneven (.node [.leaf (1 : Int), .node [.leaf 2]]) := ⟨[0], [1], _, _, rfl, rfl, rfl⟩
example : vTensorOf 2 ragged2 = .err ∧ vTensorOf 3 ragged3 = .err ∧
    vTensorOf 2 (.node [.node [.leaf (1 : Int)], .node []]) = .err ∧
    vTensorOf 1 (.node ([] : List (NData Int))) = .err ∧
    vTensorOf 2 (.node [.leaf (1 : Int), .node [.leaf 2]]) = .err ∧
    vTensorOf 1 m23 = .err ∧ vTensorOf 3 m23 = .err ∧ vTensorOf 0 m23 = .err := by decide +kernel

end Examples

end C06y
end Qeep
