import QeepProps.C08
import QeepProps.C03
import QeepProofs.Vals
import QeepProofs.BcastSum
import QeepProofs.BcastCopies
/-!
# C07 — the gradient of a broadcast operand is the sum over its expanded copies

The tree VIOLATES this property (finding D2, `known_findings.json`): the `Broadcast` backward rule reduces with
`AvgAlong`. The Model carries the rule with a switch `BMode ∈ {mean, sum}`; the correspondence run shows that the
real code equals the `mean` instance on every program.

Proved here:
* the violation, on a kernel-checked witness (exact integers): `[2] → [3,2]` with an all-ones upstream gradient; the
  sum over the three copies is 3 per element, the rule with `mean` delivers 1;
* Add / Sub / Mul / Div, Dot and MatMul expand BOTH operands through the public `Broadcast`, so the rule sits on every
  implicit expansion (the result's back edges target the two broadcast results, whose own back edge is the
  `Broadcast` rule towards the original operand);
* for EVERY accepted shape pair and every upstream gradient, the rule in `sum` mode succeeds, delivers a gradient of
  the operand's own shape, and its element at `idx` is the iterated sum of the upstream gradient over every position
  `idx` was copied to (`copiesSum`), nested in the order the code adds, so the statement is exact for any scalar
  type; over ℝ it is the unordered sum over the duplicate-free list `copies` of exactly the target positions that
  project to `idx` (`broadcast_fills_from_projection` is the matching forward statement); the same holds for the
  back edge of an actual `Broadcast` result in a heap.
-/

namespace Qeep
namespace C07

/-- the witness graph: x of shape [2] (tracked leaf), y = Broadcast(x, [3,2]) -/
def witness : Option (Heap Int × Nat) :=
  match ((do
      let x ← hLeaf ⟨[2], [10, 20]⟩ true
      hBroadcast x [3, 2]) : HM Int Nat) #[] with
  | .ok (y, H) => some (H, y)
  | _ => none

/-- **the rule of the tree is not the sum over the copies** (and the `sum` instance is): kernel-checked -/
theorem bcast_mean_is_not_sum :
    witness.map (fun (H, y) => (((backprop .sum H y).heap.grad 0).map Tensor.data,
                                ((backprop .mean H y).heap.grad 0).map Tensor.data))
      = some (some [3, 3], some [1, 1]) := by decide +kernel

variable {α : Type} [Scalar α]

theorem hBroadcast_ctx {x : Nat} {s : List Int} {H H' : Heap α} {y : Nat} (h : hBroadcast x s H = .ok (y, H')) :
    H'.ctx y = mkCtx H [x] [⟨x, .bcastX x y⟩] := by
  obtain ⟨_, _, rfl, rfl⟩ := hBroadcast_iff.1 h
  exact ctx_push_self _ _

/-- **implicit expansion goes through `Broadcast`**: a successful Add / Sub / Mul / Div allocates the broadcast of
    each operand (context: one back edge with the `Broadcast` rule towards the operand, when tracked) and its result's
    back edges target exactly those two nodes -/
theorem arith_routes_through_broadcast (o : Arith) (a b : Nat) (H H' : Heap α) (r : Nat)
    (h : hArith o a b H = .ok (r, H')) :
    ∃ a' b' Ha Hb shape,
      hBroadcast a shape H = .ok (a', Ha) ∧ hBroadcast b shape Ha = .ok (b', Hb) ∧
      Ha.ctx a' = mkCtx H [a] [⟨a, .bcastX a a'⟩] ∧ Hb.ctx b' = mkCtx Ha [b] [⟨b, .bcastX b b'⟩] ∧
      ∃ edges : List (Edge α), H'.ctx r = mkCtx Hb [a', b'] edges ∧ edges.map (·.target) = [a', b'] := by
  obtain ⟨a', b', Hb, t, h1, _, rfl, rfl⟩ := hArith_iff.1 h
  obtain ⟨Ha, g1, g2⟩ := hBroadcastPair_iff.1 h1
  exact ⟨a', b', Ha, Hb, _, g1, g2, hBroadcast_ctx g1, hBroadcast_ctx g2, _, ctx_push_self _ _, by cases o <;> rfl⟩

/-- **Dot expands its operands through `Broadcast`**: the result's back edges target the two broadcast results -/
theorem dot_routes_through_broadcast (a b : Nat) (H H' : Heap α) (r : Nat) (h : hDot a b H = .ok (r, H')) :
    ∃ a' b' Ha Hb sa sb,
      hBroadcast a sa H = .ok (a', Ha) ∧ hBroadcast b sb Ha = .ok (b', Hb) ∧
      Ha.ctx a' = mkCtx H [a] [⟨a, .bcastX a a'⟩] ∧ Hb.ctx b' = mkCtx Ha [b] [⟨b, .bcastX b b'⟩] ∧
      H'.ctx r = mkCtx Hb [a', b'] [⟨a', .dotG b'⟩, ⟨b', .dotG a'⟩] := by
  obtain ⟨_, a', b', Hb, t, h1, _, rfl, rfl⟩ := hDot_iff.1 h
  obtain ⟨Ha, g1, g2⟩ := hBroadcastPair_iff.1 h1
  exact ⟨a', b', Ha, Hb, _, _, g1, g2, hBroadcast_ctx g1, hBroadcast_ctx g2, ctx_push_self _ _⟩

/-- **MatMul expands its operands through `Broadcast`** (batch dims) -/
theorem matmul_routes_through_broadcast (a b : Nat) (H H' : Heap α) (r : Nat) (h : hMatMul a b H = .ok (r, H')) :
    ∃ a' b' Ha Hb sa sb,
      hBroadcast a sa H = .ok (a', Ha) ∧ hBroadcast b sb Ha = .ok (b', Hb) ∧
      Ha.ctx a' = mkCtx H [a] [⟨a, .bcastX a a'⟩] ∧ Hb.ctx b' = mkCtx Ha [b] [⟨b, .bcastX b b'⟩] ∧
      H'.ctx r = mkCtx Hb [a', b'] [⟨a', .matmulA b'⟩, ⟨b', .matmulB a'⟩] := by
  obtain ⟨_, a', b', Hb, t, h1, _, rfl, rfl⟩ := hMatMul_iff.1 h
  obtain ⟨Ha, g1, g2⟩ := hBroadcastPairMM_iff.1 h1
  exact ⟨a', b', Ha, Hb, _, _, g1, g2, hBroadcast_ctx g1, hBroadcast_ctx g2, ctx_push_self _ _⟩

/-- **The `Broadcast` backward rule in `sum` mode is the sum over the expanded copies** — every accepted shape pair,
    every well-formed upstream gradient of the target shape. -/
theorem bcast_rule_sum_is_sum_over_copies (H : Heap α) (x y : Nat) (gy : Tensor α) (hwf : gy.WF)
    (hd : gy.dims = (H.val y).dims) (hv : validBroadcast (H.val x).dims (H.val y).dims = true) :
    ∃ g, evalRule .sum H gy (.bcastX x y) = .ok g ∧ g.WF ∧ g.dims = (H.val x).dims ∧
      ∀ idx, Valid (H.val x).dims idx → g.el idx = copiesSum (H.val x).dims (H.val y).dims idx gy := by
  exact bcastRule_sum_spec _ _ gy hwf hd hv

/-- the rule on the back edge of an actual `Broadcast` result: the forward call having succeeded is enough -/
theorem broadcast_node_rule (x : Nat) (shape : List Int) (H H' : Heap α) (y : Nat) (hx : x < H.size) (hxw : (H.val x).WF)
    (h : hBroadcast x shape H = .ok (y, H')) (gy : Tensor α) (hwf : gy.WF) (hd : gy.dims = (H'.val y).dims) :
    (H'.val y).dims = natDims shape ∧
    ∃ g, evalRule .sum H' gy (.bcastX x y) = .ok g ∧ g.WF ∧ g.dims = (H.val x).dims ∧
      ∀ idx, Valid (H.val x).dims idx → g.el idx = copiesSum (H.val x).dims (natDims shape) idx gy := by
  obtain ⟨hv, _, hext⟩ := hBroadcast_val h
  have hvx : H'.val x = H.val x := hext.val hx
  have hvalid : validInputDims shape = true ∧ validBroadcast (H.val x).dims (natDims shape) = true := by
    apply Classical.byContradiction
    intro hn
    have := (C03.vBroadcast_total (H.val x) hxw shape).2 hn
    rw [this] at hv
    cases hv
  obtain ⟨r, hr, hrd, _⟩ := (C03.vBroadcast_total (H.val x) hxw shape).1 hvalid
  rw [hr] at hv
  have hry : H'.val y = r := by cases hv; rfl
  have hyd : (H'.val y).dims = natDims shape := by rw [hry, hrd]
  refine ⟨hyd, ?_⟩
  have := bcast_rule_sum_is_sum_over_copies H' x y gy hwf hd (by rw [hvx, hyd]; exact hvalid.2)
  rw [hvx, hyd] at this
  exact this

/-- **Over the reals: the gradient delivered to element `idx` of the operand is the sum of the upstream gradient over
    exactly the positions that element was copied to.** `copies` has no duplicates and contains precisely the valid
    target positions whose projection (`projBE`: drop the extra leading coordinates, expanded coordinates → 0) is `idx`. -/
theorem bcast_rule_sum_real (H : Heap ℝ) (x y : Nat) (gy : Tensor ℝ) (hwf : gy.WF)
    (hd : gy.dims = (H.val y).dims) (hv : validBroadcast (H.val x).dims (H.val y).dims = true) :
    ∃ g, evalRule .sum H gy (.bcastX x y) = .ok g ∧ g.WF ∧ g.dims = (H.val x).dims ∧
      (∀ idx, Valid (H.val x).dims idx →
        g.el idx = ((copies (H.val x).dims (H.val y).dims idx).map gy.el).sum ∧
        (copies (H.val x).dims (H.val y).dims idx).Nodup ∧
        ∀ j, j ∈ copies (H.val x).dims (H.val y).dims idx ↔
          Valid (H.val y).dims j ∧ projBE (H.val x).dims (H.val y).dims j = idx) := by
  obtain ⟨g, h1, h2, h3, h4⟩ := bcast_rule_sum_is_sum_over_copies H x y gy hwf hd hv
  refine ⟨g, h1, h2, h3, ?_⟩
  intro idx hi
  exact ⟨by rw [h4 idx hi, copiesSum_real], copies_nodup _ _ _, fun j => mem_copies hv idx hi j⟩

/-- the forward side: `Broadcast` fills target position `j` from the operand's element `projBE src dst j` -/
theorem broadcast_fills_from_projection (x : Tensor ℝ) (hwf : x.WF) (dst : List Nat) (hpos : ∀ h ∈ dst, 0 < h)
    (hv : validBroadcast x.dims dst = true) :
    ∃ y, x.broadcastRaw dst = some y ∧ y.dims = dst ∧ y.WF ∧ ∀ j, Valid dst j → y.at? j = x.at? (projBE x.dims dst j) :=
  broadcast_el x hwf dst hpos hv

/-- non-vacuity and a reading of `copiesSum`: `[2] → [3,2]`, element 1 receives gy[0][1] + gy[1][1] + gy[2][1] -/
example : copiesSum [2] [3, 2] [1] (⟨[3, 2], [1, 10, 2, 20, 3, 30]⟩ : Tensor Int) = 60 := by decide +kernel

/-- `[2,1] → [2,3]`: element [1,0] receives the sum of row 1 -/
example : copiesSum [2, 1] [2, 3] [1, 0] (⟨[2, 3], [1, 2, 3, 10, 20, 30]⟩ : Tensor Int) = 60 := by decide +kernel

end C07
end Qeep
