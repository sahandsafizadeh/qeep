import QeepProofs.Heap
import QeepProps.C20
/-!
# C08 — gradient tracking propagates, isolates and retires exactly as specified

The flag state machine of the Model: the three-way head of every constructor (`mkCtx`), comparisons, reset,
and what back-propagation does to the flags.
-/

namespace Qeep
namespace C08

variable {α : Type}

/-- **A result is tracked exactly when some operand is tracked and no operand is spent.** -/
theorem mkCtx_tracked_iff (H : Heap α) (ops : List Nat) (edges : List (Edge α)) :
    (mkCtx H ops edges).tracked = true ↔ (∃ n ∈ ops, H.tracked n = true) ∧ (∀ n ∈ ops, H.dirty n = false) := by
  rcases mkCtx_cases H ops edges with ⟨⟨n, hn, hd⟩, h⟩ | ⟨hd, ht, h⟩ | ⟨hd, ht, h⟩ <;> rw [h]
  · exact ⟨nofun, fun ⟨_, h2⟩ => by rw [h2 n hn] at hd; cases hd⟩
  · exact ⟨nofun, fun ⟨⟨n, hn, h1⟩, _⟩ => by rw [ht n hn] at h1; cases h1⟩
  · exact ⟨fun _ => ⟨ht, hd⟩, fun _ => rfl⟩

/-- **A result is spent exactly when some operand is spent** (anything computed from a spent tensor is spent,
    hence — previous theorem — untracked). -/
theorem mkCtx_dirty_iff (H : Heap α) (ops : List Nat) (edges : List (Edge α)) :
    (mkCtx H ops edges).dirty = true ↔ ∃ n ∈ ops, H.dirty n = true := by
  rcases mkCtx_cases H ops edges with ⟨hd, h⟩ | ⟨hd, _, h⟩ | ⟨hd, _, h⟩ <;> rw [h]
  · exact ⟨fun _ => hd, fun _ => rfl⟩
  · exact ⟨nofun, fun ⟨n, hn, h1⟩ => by rw [hd n hn] at h1; cases h1⟩
  · exact ⟨nofun, fun ⟨n, hn, h1⟩ => by rw [hd n hn] at h1; cases h1⟩

/-- a fresh result never carries a gradient, and has back edges only when it is tracked: results computed from
    spent tensors cannot reach the old graph -/
theorem mkCtx_isolated (H : Heap α) (ops : List Nat) (edges : List (Edge α)) :
    (mkCtx H ops edges).grad = none ∧ ((mkCtx H ops edges).tracked = false → (mkCtx H ops edges).edges = []) := by
  rcases mkCtx_cases H ops edges with ⟨_, h⟩ | ⟨_, _, h⟩ | ⟨_, _, h⟩ <;> rw [h]
  · exact ⟨rfl, fun _ => rfl⟩
  · exact ⟨rfl, fun _ => rfl⟩
  · exact ⟨rfl, nofun⟩

section
variable [Scalar α]

/-- the context every one-operand public operation attaches (Slice, Transpose, Reshape, UnSqueeze, Squeeze,
    Flatten, Broadcast, the seven reductions, Scale, Pow and the eight unary functions all go through `hOp1`) -/
theorem op1_ctx (x : Nat) (v : Out (Tensor α)) (rule : Nat → Rule α) (H H' : Heap α) (r : Nat)
    (h : hOp1 x v rule H = .ok (r, H')) :
    r = H.size ∧ H'.ctx r = mkCtx H [x] [⟨x, rule H.size⟩] ∧ Extends H H' := by
  obtain ⟨t, _, rfl, rfl⟩ := hOp1_ok h
  exact ⟨rfl, by rw [ctx_push, if_pos rfl], extends_push _ _⟩

/-- **Unary results**: tracked iff the operand is tracked and not spent; spent iff the operand is spent. -/
theorem op1_tracked_iff (x : Nat) (v : Out (Tensor α)) (rule : Nat → Rule α) (H H' : Heap α) (r : Nat)
    (h : hOp1 x v rule H = .ok (r, H')) :
    (H'.tracked r = true ↔ H.tracked x = true ∧ H.dirty x = false) ∧ (H'.dirty r = true ↔ H.dirty x = true) := by
  obtain ⟨_, hc, _⟩ := op1_ctx x v rule H H' r h
  unfold Heap.tracked Heap.dirty
  rw [hc]
  constructor
  · rw [mkCtx_tracked_iff]; simp [Heap.tracked, Heap.dirty]
  · rw [mkCtx_dirty_iff]; simp [Heap.dirty]

/-- **Comparison results are untracked, unspent leaves** whatever the operands are -/
theorem cmp_untracked (c : Cmp) (hc : c ≠ .elmax ∧ c ≠ .elmin) (a b : Nat) (H H' : Heap α) (r : Nat)
    (h : hCmp c a b H = .ok (r, H')) : H'.ctx r = freshCtx false := by
  obtain ⟨t, _, rfl, rfl⟩ := hCmp_iff.1 h
  rw [ctx_push_self, if_neg fun h => h.elim hc.1 hc.2]

/-- **Gradient tensors handed to the caller are spent and untracked** -/
theorem gradients_untracked (n : Nat) (H H' : Heap α) (g : Nat) (h : hGradNode n H = .ok (some g, H')) :
    H'.ctx g = dirtyCtx := by
  unfold hGradNode at h
  simp only [getHeap, bind, StateT.bind, Out.bind] at h
  cases hg : H.grad n with
  | none => simp [hg, pure, StateT.pure] at h
  | some t =>
    simp only [hg, pure] at h
    cases h
    simp [Heap.ctx]

/-- **Back-propagating from an untracked root changes nothing** -/
theorem bp_untracked_root_noop (bm : BMode) (H : Heap α) (root : Nat) (h : H.tracked root = false) :
    (backprop bm H root).heap = H ∧ (backprop bm H root).status = .ok () ∧ (backprop bm H root).calls = 0 :=
  C01.backprop_untracked_root bm H root h

/-- **ResetGradContext turns a tensor into a fresh leaf** with the requested tracking, no gradient, no edges,
    not spent; every other tensor's context and every value is untouched -/
theorem reset_is_fresh_leaf (H : Heap α) (n : Nat) (b : Bool) (hn : n < H.size) :
    (resetCtx H n b).ctx n = { tracked := b, dirty := false, grad := none, edges := [] } ∧
    (∀ m, m ≠ n → (resetCtx H n b).ctx m = H.ctx m) ∧ (∀ m, (resetCtx H n b).val m = H.val m) :=
  ⟨by unfold resetCtx; rw [setCtx_ctx_eq _ _ _ hn]; rfl, (resetCtx_frame H n b).2.2, (resetCtx_frame H n b).2.1⟩

/-- tracking never changes forward values: the value of every public one-operand operation is the value-level
    function of the operand value alone (the context is computed separately) -/
theorem forward_value_ignores_flags (x : Nat) (v : Out (Tensor α)) (rule : Nat → Rule α) (H H' : Heap α) (r : Nat)
    (h : hOp1 x v rule H = .ok (r, H')) : v = .ok (H'.val r) := by
  obtain ⟨t, rfl, rfl, rfl⟩ := hOp1_ok h
  rw [push_val_new]

end

/-! ### what a back-propagation leaves behind (uses the graph theorems of C01/C20) -/
section
variable {α : Type} [Scalar α]
open C01 C20

theorem markDirty_dirty_inside (ns : List Nat) (H : Heap α) (n : Nat) (hn : n ∈ ns) (hlt : n < H.size) :
    (markDirty H ns).dirty n = true := by
  rw [Heap.dirty, markDirty_ctx, if_pos ⟨hn, hlt⟩]

theorem writeBack_dirty (H : Heap α) (G : Nat → Option (Tensor α)) (n : Nat) :
    (writeBack H G).dirty n = H.dirty n := by
  rw [Heap.dirty, writeBack_ctx]; split <;> rfl

/-- **Every tensor of the walk is spent afterwards**, whatever the outcome of the walk -/
theorem bp_marks_spent (bm : BMode) (H : Heap α) (root : Nat) (htr : H.tracked root = true) (n : Nat)
    (hn : n ∈ backwardOrder H root) (hlt : n < H.size) : (backprop bm H root).heap.dirty n = true := by
  rw [backprop_eq bm H root htr]
  split
  · exact (writeBack_dirty _ _ n).trans (markDirty_dirty_inside _ H n hn hlt)
  · exact markDirty_dirty_inside _ H n hn hlt
  · exact markDirty_dirty_inside _ H n hn hlt

theorem sums_some {D : Type} {add : D → D → Out D} : ∀ {a : Option D} {l : List D} {b : Option D},
    Sums add a l b → (a ≠ none ∨ l ≠ []) → b ≠ none := by
  intro a l b h
  induction h with
  | nil a => intro h; rcases h with h | h; exact h; exact absurd rfl h
  | first _ ih => intro _; exact ih (Or.inl (by simp))
  | next _ _ ih => intro _; exact ih (Or.inl (by simp))

/-- **A successful back-propagation from a tracked root gives a gradient to the root and to every tracked tensor
    it was computed from** (the members of the walk: the root, and tracked targets of back edges of members) … -/
theorem bp_gives_gradients (bm : BMode) (H : Heap α) (root : Nat) (hdag : HeapDag H) (htr : H.tracked root = true)
    (hok : (backprop bm H root).status = .ok ()) (n : Nat) (hn : n ∈ backwardOrder H root) (hlt : n < H.size) :
    (backprop bm H root).heap.grad n ≠ none := by
  obtain ⟨seedG, final, hseed, hfin, hsums, hdef, _⟩ := backprop_adjoint bm H root hdag htr hok
  rw [hfin n hlt]
  apply sums_some (hsums n)
  rcases order_members_tracked H root hdag n hn with rfl | ⟨u, hu, hsu⟩
  · left
    obtain ⟨s, rfl, _⟩ := accumG_ok _ hseed
    simp
  · right
    obtain ⟨ht, e, he, rfl⟩ := mem_succs.mp hsu
    have hp : (u, (e.target, e.rule)) ∈ bpPairs H root := mem_bpPairs.mpr ⟨hu, e, he, rfl⟩
    obtain ⟨gy, g, hgy, hg⟩ := hdef _ hp ht
    exact List.ne_nil_of_mem ((mem_contrib _ _).mpr ⟨_, hp, ht, rfl, gy, hgy, hg⟩)

/-- … **and to nothing else**: a tensor outside the walk keeps its whole context (gradient, flags, edges) -/
theorem bp_touches_nothing_else (bm : BMode) (H : Heap α) (root : Nat) (hdag : HeapDag H) (n : Nat)
    (hn : n ∉ backwardOrder H root) : (backprop bm H root).heap.ctx n = H.ctx n :=
  backprop_footprint bm H root hdag n hn

/-- **A result computed from a spent tensor is untracked and cannot reach the old graph**: after the walk, any
    one-operand operation on a member of the walk gets the isolated spent context — no back edge at all -/
theorem spent_results_isolated (bm : BMode) (H : Heap α) (root : Nat) (htr : H.tracked root = true) (n : Nat)
    (hn : n ∈ backwardOrder H root) (hlt : n < H.size) (edges : List (Edge α)) :
    mkCtx (backprop bm H root).heap [n] edges = dirtyCtx := by
  have := bp_marks_spent bm H root htr n hn hlt
  rcases mkCtx_cases (backprop bm H root).heap [n] edges with ⟨_, h⟩ | ⟨hd, _⟩ | ⟨hd, _⟩
  · exact h
  · rw [hd n (by simp)] at this; cases this
  · rw [hd n (by simp)] at this; cases this

end

/-- non-vacuity: a tracked clean operand and a spent operand -/
example : (mkCtx (#[⟨⟨[], [1]⟩, { tracked := true }⟩] : Heap Nat) [0] []).tracked = true ∧
    (mkCtx (#[⟨⟨[], [1]⟩, { tracked := true }⟩, ⟨⟨[], [1]⟩, { dirty := true }⟩] : Heap Nat) [0, 1] []).tracked = false := by
  decide

end C08
end Qeep
