import QeepProps.C08x
import QeepProps.C08z
/-! `C08`, `C08x` and `C08z`; the check of C08 builds this module (`lake build QeepProps.C08all`) and then prints the
axioms of each theorem (`work/audit_C08.lean`). -/
