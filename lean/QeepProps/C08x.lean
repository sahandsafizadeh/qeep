import QeepProofs.Dag
import QeepProps.C08
/-!
# C08 (extension) — the tracking flags of the two-operand and n-operand public operations

`QeepProps.C08` characterises the three-way head `mkCtx` and the one-operand operations. Here: Patch, Concat,
ElMax / ElMin, Add / Sub / Mul / Div, Dot and MatMul, for every heap.

* Patch, Concat, ElMax / ElMin attach `mkCtx H operands …` directly.
* Add / Sub / Mul / Div / Dot / MatMul first send BOTH operands through the public `Broadcast`; the operands of the result
  are the two intermediate nodes `a'`, `b'`. Flags of an intermediate node: tracked ⇔ (operand tracked ∧ operand not
  spent), spent ⇔ operand spent (`bcast_flags`). Chaining these through the second `mkCtx` gives, for the result,

      tracked ⇔ (a tracked ∨ b tracked) ∧ a not spent ∧ b not spent          spent ⇔ a spent ∨ b spent

  i.e. the naive statement of the property IS true for the model, in every corner of the truth table (in particular
  "a tracked and clean, b spent" gives an untracked, spent result with no back edge). The only side condition the proofs
  use is that the second operand exists (`b < H.size`, true of every public call — `Reach.arith` etc.): the first
  `Broadcast` allocates a node, so for a dangling id `b = H.size` the intermediate fact "flags of `b'` = flags of `b` in
  `H`" (`pair_flags`) would be about the wrong node. `a < H.size` is not needed.
-/
set_option linter.unusedSectionVars false

namespace Qeep
namespace C08x

variable {α : Type}

/-! ### Bool-valued form of the head, for one and two operands -/

/-- flags of `mkCtx` with one operand, as Bool equations -/
theorem mkCtx_one_flags (H : Heap α) (x : Nat) (edges : List (Edge α)) :
    (mkCtx H [x] edges).tracked = (H.tracked x && !H.dirty x) ∧ (mkCtx H [x] edges).dirty = H.dirty x := by
  rw [mkCtx_eq]
  simp only [List.any_cons, List.any_nil, Bool.or_false]
  cases H.dirty x <;> cases H.tracked x <;> exact ⟨rfl, rfl⟩

/-- the whole context of a two-operand head: three cases -/
theorem mkCtx_two_cases (H : Heap α) (x p : Nat) (edges : List (Edge α)) :
    mkCtx H [x, p] edges =
      if (H.dirty x || H.dirty p) = true then dirtyCtx
      else if (H.tracked x || H.tracked p) = true then { tracked := true, edges := edges }
      else freshCtx false := by
  rw [mkCtx_eq]
  simp only [List.any_cons, List.any_nil, Bool.or_false]
  rfl

/-- flags of `mkCtx` with two operands, as Bool equations -/
theorem mkCtx_two_flags (H : Heap α) (x p : Nat) (edges : List (Edge α)) :
    (mkCtx H [x, p] edges).tracked = ((H.tracked x || H.tracked p) && !H.dirty x && !H.dirty p) ∧
    (mkCtx H [x, p] edges).dirty = (H.dirty x || H.dirty p) := by
  rw [mkCtx_two_cases]
  cases H.dirty x <;> cases H.dirty p <;> cases H.tracked x <;> cases H.tracked p <;> exact ⟨rfl, rfl⟩

/-- Bool equations → the `iff` form used by `C08.mkCtx_tracked_iff` / `C08.mkCtx_dirty_iff` -/
theorem flags_iff {t d ta tb da db : Bool} (ht : t = ((ta || tb) && !da && !db)) (hd : d = (da || db)) :
    (t = true ↔ (ta = true ∨ tb = true) ∧ da = false ∧ db = false) ∧ (d = true ↔ da = true ∨ db = true) := by
  subst ht hd
  cases ta <;> cases tb <;> cases da <;> cases db <;> decide

/-- a context `mkCtx H [x, p] edges` read through `Heap.tracked` / `Heap.dirty` -/
theorem two_flags_of_ctx {H H' : Heap α} {x p r : Nat} {edges : List (Edge α)} (hc : H'.ctx r = mkCtx H [x, p] edges) :
    (H'.tracked r = true ↔ (H.tracked x = true ∨ H.tracked p = true) ∧ H.dirty x = false ∧ H.dirty p = false) ∧
    (H'.dirty r = true ↔ H.dirty x = true ∨ H.dirty p = true) := by
  have h := mkCtx_two_flags H x p edges
  apply flags_iff
  · show (H'.ctx r).tracked = _; rw [hc]; exact h.1
  · show (H'.ctx r).dirty = _; rw [hc]; exact h.2

section
variable [Scalar α]

/-! ### Patch -/

/-- the context `Patch` attaches -/
theorem patch_ctx (x : Nat) (index : List IRange) (p : Nat) (H H' : Heap α) (r : Nat)
    (h : hPatch x index p H = .ok (r, H')) :
    r = H.size ∧ H'.ctx r = mkCtx H [x, p] [⟨x, .patchX p index⟩, ⟨p, .patchP p index⟩] ∧ Extends H H' := by
  obtain ⟨t, _, rfl, rfl⟩ := hPatch_iff.1 h
  exact ⟨rfl, ctx_push_self _ _, extends_push _ _⟩

/-- **Patch**: the result is tracked exactly when the target or the source is tracked and neither is spent;
    it is spent exactly when one of them is. Every heap, every index, no side condition. -/
theorem patch_tracked_iff (x : Nat) (index : List IRange) (p : Nat) (H H' : Heap α) (r : Nat)
    (h : hPatch x index p H = .ok (r, H')) :
    (H'.tracked r = true ↔ (H.tracked x = true ∨ H.tracked p = true) ∧ H.dirty x = false ∧ H.dirty p = false) ∧
    (H'.dirty r = true ↔ H.dirty x = true ∨ H.dirty p = true) :=
  two_flags_of_ctx (patch_ctx x index p H H' r h).2.1

/-! ### ElMax / ElMin (the two comparisons that do attach a rule) -/

theorem elext_ctx (c : Cmp) (hc : c = .elmax ∨ c = .elmin) (a b : Nat) (H H' : Heap α) (r : Nat)
    (h : hCmp c a b H = .ok (r, H')) :
    r = H.size ∧ H'.ctx r = mkCtx H [a, b] [⟨a, .elext H.size a b⟩, ⟨b, .elext H.size b a⟩] ∧ Extends H H' := by
  obtain ⟨t, _, rfl, rfl⟩ := hCmp_iff.1 h
  exact ⟨rfl, by rw [ctx_push_self, if_pos hc], extends_push _ _⟩

/-- **ElMax / ElMin** follow the two-operand rule (unlike Eq … Le, which are always untracked: `C08.cmp_untracked`) -/
theorem elext_tracked_iff (c : Cmp) (hc : c = .elmax ∨ c = .elmin) (a b : Nat) (H H' : Heap α) (r : Nat)
    (h : hCmp c a b H = .ok (r, H')) :
    (H'.tracked r = true ↔ (H.tracked a = true ∨ H.tracked b = true) ∧ H.dirty a = false ∧ H.dirty b = false) ∧
    (H'.dirty r = true ↔ H.dirty a = true ∨ H.dirty b = true) :=
  two_flags_of_ctx (elext_ctx c hc a b H H' r h).2.1

/-! ### Concat -/

/-- the context `Concat` attaches -/
theorem concat_ctx (xs : List Nat) (dim : Int) (H H' : Heap α) (r : Nat) (h : hConcat xs dim H = .ok (r, H')) :
    r = H.size ∧ H'.ctx r = mkCtx H xs (concatEdges H dim.toNat xs 0) ∧ Extends H H' := by
  obtain ⟨t, _, rfl, rfl⟩ := hConcat_iff.1 h
  exact ⟨rfl, ctx_push_self _ _, extends_push _ _⟩

/-- **Concat**: tracked exactly when some operand is tracked and no operand is spent; spent exactly when some
    operand is. Every heap, every operand list, every `dim`. -/
theorem concat_tracked_iff (xs : List Nat) (dim : Int) (H H' : Heap α) (r : Nat) (h : hConcat xs dim H = .ok (r, H')) :
    (H'.tracked r = true ↔ (∃ n ∈ xs, H.tracked n = true) ∧ (∀ n ∈ xs, H.dirty n = false)) ∧
    (H'.dirty r = true ↔ ∃ n ∈ xs, H.dirty n = true) := by
  obtain ⟨_, hc, _⟩ := concat_ctx xs dim H H' r h
  constructor
  · show (H'.ctx r).tracked = true ↔ _
    rw [hc]; exact C08.mkCtx_tracked_iff H xs _
  · show (H'.ctx r).dirty = true ↔ _
    rw [hc]; exact C08.mkCtx_dirty_iff H xs _

/-! ### the implicit `Broadcast` of each operand -/

/-- flags of a `Broadcast` result (any one-operand result has the same): tracked ⇔ operand tracked and not spent,
    spent ⇔ operand spent — as Bool equations -/
theorem bcast_flags {x : Nat} {s : List Int} {H H' : Heap α} {r : Nat} (h : hBroadcast x s H = .ok (r, H')) :
    r = H.size ∧ H'.ctx r = mkCtx H [x] [⟨x, .bcastX x r⟩] ∧ Extends H H' ∧
    H'.tracked r = (H.tracked x && !H.dirty x) ∧ H'.dirty r = H.dirty x := by
  obtain ⟨t, _, rfl, rfl⟩ := hBroadcast_iff.1 h
  have hf := mkCtx_one_flags H x [⟨x, Rule.bcastX x H.size⟩]
  have ec := ctx_push_self H ⟨t, mkCtx H [x] [⟨x, Rule.bcastX x H.size⟩]⟩
  refine ⟨rfl, ec, extends_push _ _, ?_, ?_⟩
  · show (Heap.ctx _ _).tracked = _; rw [ec]; exact hf.1
  · show (Heap.ctx _ _).dirty = _; rw [ec]; exact hf.2

/-- both broadcasting helpers (`hBroadcastPair`, `hBroadcastPairMM`): the flags of the two intermediate nodes in
    the heap the result is built in -/
theorem pair_flags {a b : Nat} {s1 s2 : Heap α → List Int} {H H1 : Heap α} {a' b' : Nat} (hb : b < H.size)
    (h : (do let H ← getHeap; let a' ← hBroadcast a (s1 H); let b' ← hBroadcast b (s2 H); pure (a', b') : HM α (Nat × Nat)) H
        = .ok ((a', b'), H1)) :
    H1.tracked a' = (H.tracked a && !H.dirty a) ∧ H1.dirty a' = H.dirty a ∧
    H1.tracked b' = (H.tracked b && !H.dirty b) ∧ H1.dirty b' = H.dirty b ∧
    Extends H H1 ∧ a' = H.size ∧ b' = H.size + 1 := by
  obtain ⟨Ha, g1, g2⟩ := pair_ok h
  obtain ⟨ra, _, xa, ta, da⟩ := bcast_flags g1
  obtain ⟨rb, _, xb, tb, db⟩ := bcast_flags g2
  have hlt : a' < Ha.size := alloc_size_lt g1
  have hsz : Ha.size = H.size + 1 := by
    obtain ⟨t, _, _, rfl⟩ := hBroadcast_iff.1 g1; simp
  refine ⟨?_, ?_, ?_, ?_, xa.trans xb, ra, by rw [rb, hsz]⟩
  · rw [xb.tracked hlt]; exact ta
  · rw [xb.dirty hlt]; exact da
  · rw [tb, xa.tracked hb, xa.dirty hb]
  · rw [db, xa.dirty hb]

/-- chaining: a result whose context is `mkCtx H1 [a', b'] edges`, with `a'`, `b'` the two intermediate nodes -/
theorem chained_flags {H H1 H' : Heap α} {a b a' b' r : Nat} {edges : List (Edge α)}
    (ta : H1.tracked a' = (H.tracked a && !H.dirty a)) (da : H1.dirty a' = H.dirty a)
    (tb : H1.tracked b' = (H.tracked b && !H.dirty b)) (db : H1.dirty b' = H.dirty b)
    (cr : H'.ctx r = mkCtx H1 [a', b'] edges) :
    ((H'.tracked r = true ↔ (H.tracked a = true ∨ H.tracked b = true) ∧ H.dirty a = false ∧ H.dirty b = false) ∧
     (H'.dirty r = true ↔ H.dirty a = true ∨ H.dirty b = true)) ∧
    H'.ctx r = (if (H.dirty a || H.dirty b) = true then dirtyCtx
      else if (H.tracked a || H.tracked b) = true then { tracked := true, edges := edges }
      else freshCtx false) := by
  have hf := mkCtx_two_flags H1 a' b' edges
  have hc := mkCtx_two_cases H1 a' b' edges
  rw [ta, da, tb, db] at hf hc
  constructor
  · apply flags_iff
    · show (H'.ctx r).tracked = _; rw [cr, hf.1]
      cases H.tracked a <;> cases H.tracked b <;> cases H.dirty a <;> cases H.dirty b <;> rfl
    · show (H'.ctx r).dirty = _; rw [cr, hf.2]
  · rw [cr, hc]
    cases H.tracked a <;> cases H.tracked b <;> cases H.dirty a <;> cases H.dirty b <;> rfl

/-! ### Add / Sub / Mul / Div -/

/-- **the exact context of an arithmetic result**, in terms of the flags of the ORIGINAL operands: spent if either is
    spent; otherwise tracked, with two back edges to the two `Broadcast` nodes `H.size`, `H.size + 1`, if either is
    tracked; otherwise a fresh untracked leaf -/
theorem arith_ctx (o : Arith) (a b : Nat) (H H' : Heap α) (r : Nat) (hb : b < H.size)
    (h : hArith o a b H = .ok (r, H')) :
    ((H'.tracked r = true ↔ (H.tracked a = true ∨ H.tracked b = true) ∧ H.dirty a = false ∧ H.dirty b = false) ∧
     (H'.dirty r = true ↔ H.dirty a = true ∨ H.dirty b = true)) ∧
    H'.ctx r = (if (H.dirty a || H.dirty b) = true then dirtyCtx
      else if (H.tracked a || H.tracked b) = true then { tracked := true, edges := arithEdges o H.size (H.size + 1) }
      else freshCtx false) := by
  obtain ⟨a', b', H1, t, h1, _, rfl, rfl⟩ := hArith_iff.1 h
  obtain ⟨ta, da, tb, db, _, rfl, rfl⟩ := pair_flags hb h1
  exact chained_flags ta da tb db (ctx_push_self _ _)

/-- **Add / Sub / Mul / Div**: the result is tracked exactly when one of the two operands is tracked and neither is
    spent; it is spent exactly when one of them is. (The result's own operands are the two intermediate `Broadcast`
    nodes; the statement is about the operands the caller passed.) -/
theorem arith_tracked_iff (o : Arith) (a b : Nat) (H H' : Heap α) (r : Nat) (hb : b < H.size)
    (h : hArith o a b H = .ok (r, H')) :
    (H'.tracked r = true ↔ (H.tracked a = true ∨ H.tracked b = true) ∧ H.dirty a = false ∧ H.dirty b = false) ∧
    (H'.dirty r = true ↔ H.dirty a = true ∨ H.dirty b = true) :=
  (arith_ctx o a b H H' r hb h).1

/-! ### Dot -/

theorem dot_ctx (a b : Nat) (H H' : Heap α) (r : Nat) (hb : b < H.size) (h : hDot a b H = .ok (r, H')) :
    ((H'.tracked r = true ↔ (H.tracked a = true ∨ H.tracked b = true) ∧ H.dirty a = false ∧ H.dirty b = false) ∧
     (H'.dirty r = true ↔ H.dirty a = true ∨ H.dirty b = true)) ∧
    H'.ctx r = (if (H.dirty a || H.dirty b) = true then dirtyCtx
      else if (H.tracked a || H.tracked b) = true then
        { tracked := true, edges := [⟨H.size, .dotG (H.size + 1)⟩, ⟨H.size + 1, .dotG H.size⟩] }
      else freshCtx false) := by
  obtain ⟨_, a', b', H1, t, h1, _, rfl, rfl⟩ := hDot_iff.1 h
  obtain ⟨ta, da, tb, db, _, rfl, rfl⟩ := pair_flags hb h1
  exact chained_flags ta da tb db (ctx_push_self _ _)

/-- **Dot**: tracked exactly when one of the operands is tracked and neither is spent; spent exactly when one is -/
theorem dot_tracked_iff (a b : Nat) (H H' : Heap α) (r : Nat) (hb : b < H.size) (h : hDot a b H = .ok (r, H')) :
    (H'.tracked r = true ↔ (H.tracked a = true ∨ H.tracked b = true) ∧ H.dirty a = false ∧ H.dirty b = false) ∧
    (H'.dirty r = true ↔ H.dirty a = true ∨ H.dirty b = true) :=
  (dot_ctx a b H H' r hb h).1

/-! ### MatMul -/

theorem matmul_ctx (a b : Nat) (H H' : Heap α) (r : Nat) (hb : b < H.size) (h : hMatMul a b H = .ok (r, H')) :
    ((H'.tracked r = true ↔ (H.tracked a = true ∨ H.tracked b = true) ∧ H.dirty a = false ∧ H.dirty b = false) ∧
     (H'.dirty r = true ↔ H.dirty a = true ∨ H.dirty b = true)) ∧
    H'.ctx r = (if (H.dirty a || H.dirty b) = true then dirtyCtx
      else if (H.tracked a || H.tracked b) = true then
        { tracked := true, edges := [⟨H.size, .matmulA (H.size + 1)⟩, ⟨H.size + 1, .matmulB H.size⟩] }
      else freshCtx false) := by
  obtain ⟨_, a', b', H1, t, h1, _, rfl, rfl⟩ := hMatMul_iff.1 h
  obtain ⟨ta, da, tb, db, _, rfl, rfl⟩ := pair_flags hb h1
  exact chained_flags ta da tb db (ctx_push_self _ _)

/-- **MatMul**: tracked exactly when one of the operands is tracked and neither is spent; spent exactly when one is -/
theorem matmul_tracked_iff (a b : Nat) (H H' : Heap α) (r : Nat) (hb : b < H.size) (h : hMatMul a b H = .ok (r, H')) :
    (H'.tracked r = true ↔ (H.tracked a = true ∨ H.tracked b = true) ∧ H.dirty a = false ∧ H.dirty b = false) ∧
    (H'.dirty r = true ↔ H.dirty a = true ∨ H.dirty b = true) :=
  (matmul_ctx a b H H' r hb h).1

/-! ### results computed from a spent operand are isolated -/

/-- **If any operand is spent, the result of every two-operand / n-operand operation is the isolated spent context**
    (`dirtyCtx`: untracked, spent, no gradient, NO back edge — it cannot reach the old graph, and a back-propagation
    from it is a no-op by `C08.bp_untracked_root_noop`). -/
theorem two_operand_results_isolated_when_spent (H H' : Heap α) (r : Nat) :
    (∀ x index p, (H.dirty x = true ∨ H.dirty p = true) → hPatch x index p H = .ok (r, H') → H'.ctx r = dirtyCtx) ∧
    (∀ xs dim, (∃ n ∈ xs, H.dirty n = true) → hConcat xs dim H = .ok (r, H') → H'.ctx r = dirtyCtx) ∧
    (∀ c a b, (c = .elmax ∨ c = .elmin) → (H.dirty a = true ∨ H.dirty b = true) → hCmp c a b H = .ok (r, H') →
      H'.ctx r = dirtyCtx) ∧
    (∀ o a b, b < H.size → (H.dirty a = true ∨ H.dirty b = true) → hArith o a b H = .ok (r, H') → H'.ctx r = dirtyCtx) ∧
    (∀ a b, b < H.size → (H.dirty a = true ∨ H.dirty b = true) → hDot a b H = .ok (r, H') → H'.ctx r = dirtyCtx) ∧
    (∀ a b, b < H.size → (H.dirty a = true ∨ H.dirty b = true) → hMatMul a b H = .ok (r, H') → H'.ctx r = dirtyCtx) := by
  have two : ∀ {x p : Nat}, (H.dirty x = true ∨ H.dirty p = true) → ∃ n ∈ [x, p], H.dirty n = true := by
    intro x p hs
    rcases hs with hs | hs
    · exact ⟨x, by simp, hs⟩
    · exact ⟨p, by simp, hs⟩
  have orb : ∀ {a b : Nat}, (H.dirty a = true ∨ H.dirty b = true) → (H.dirty a || H.dirty b) = true := by
    intro a b hs
    rcases hs with hs | hs <;> simp [hs]
  refine ⟨?_, ?_, ?_, ?_, ?_, ?_⟩
  · intro x index p hs h
    rw [(patch_ctx x index p H H' r h).2.1]; exact mkCtx_spent _ _ _ (two hs)
  · intro xs dim hs h
    rw [(concat_ctx xs dim H H' r h).2.1]; exact mkCtx_spent _ _ _ hs
  · intro c a b hc hs h
    rw [(elext_ctx c hc a b H H' r h).2.1]; exact mkCtx_spent _ _ _ (two hs)
  · intro o a b hb hs h
    rw [(arith_ctx o a b H H' r hb h).2, if_pos (orb hs)]
  · intro a b hb hs h
    rw [(dot_ctx a b H H' r hb h).2, if_pos (orb hs)]
  · intro a b hb hs h
    rw [(matmul_ctx a b H H' r hb h).2, if_pos (orb hs)]

/-- the edge-level reading of the previous theorem for the arithmetic operations: no back edges, no gradient, untracked -/
theorem arith_no_edges_when_spent (o : Arith) (a b : Nat) (H H' : Heap α) (r : Nat) (hb : b < H.size)
    (hs : H.dirty a = true ∨ H.dirty b = true) (h : hArith o a b H = .ok (r, H')) :
    (H'.ctx r).edges = [] ∧ H'.tracked r = false ∧ H'.dirty r = true ∧ H'.grad r = none := by
  have := (two_operand_results_isolated_when_spent H H' r).2.2.2.1 o a b hb hs h
  unfold Heap.tracked Heap.dirty Heap.grad
  rw [this]
  exact ⟨rfl, rfl, rfl, rfl⟩

/-- a tracked arithmetic result has exactly two back edges, to the two `Broadcast` nodes, each of which has exactly
    the flags of its operand; the edge towards an untracked operand's broadcast is skipped by the walk (`succs`
    filters on `tracked`) -/
theorem arith_tracked_edges (o : Arith) (a b : Nat) (H H' : Heap α) (r : Nat) (hb : b < H.size)
    (h : hArith o a b H = .ok (r, H')) (ht : H'.tracked r = true) :
    (H'.ctx r).edges.map (·.target) = [H.size, H.size + 1] := by
  obtain ⟨⟨hti, _⟩, hc⟩ := arith_ctx o a b H H' r hb h
  obtain ⟨hor, hda, hdb⟩ := hti.mp ht
  have h1 : (H.dirty a || H.dirty b) = false := by simp [hda, hdb]
  have h2 : (H.tracked a || H.tracked b) = true := by
    rcases hor with h | h <;> simp [h]
  rw [hc, h1, h2]
  simp only [Bool.false_eq_true, if_false, if_true]
  cases o <;> rfl

end

/-! ### non-vacuity (kernel-checked on `Heap Int`) -/

/-- operand heap: 0 tracked & clean, 1 untracked & clean, 2 spent, 3 tracked & clean (a matrix) -/
def H0 : Heap Int :=
  #[⟨⟨[2], [1, 2]⟩, { tracked := true }⟩, ⟨⟨[2], [3, 4]⟩, {}⟩, ⟨⟨[2], [5, 6]⟩, { dirty := true }⟩,
    ⟨⟨[2, 2], [1, 0, 0, 1]⟩, { tracked := true }⟩]

/-- (tracked, spent, number of back edges) of the result of a heap computation started in `H0` -/
def probe (m : HM Int Nat) : Option (Bool × Bool × Nat) :=
  match m H0 with
  | .ok (r, H) => some (H.tracked r, H.dirty r, (H.ctx r).edges.length)
  | _ => none

/-- tracked ∘ untracked → tracked, two back edges; untracked ∘ untracked → untracked leaf;
    tracked ∘ spent → untracked, spent, no back edge (in both operand orders) -/
example : probe (hArith .mul 0 1) = some (true, false, 2) ∧ probe (hArith .add 1 1) = some (false, false, 0) ∧
    probe (hArith .sub 0 2) = some (false, true, 0) ∧ probe (hArith .div 2 0) = some (false, true, 0) := by decide

example : probe (hPatch 0 [] 1) = some (true, false, 2) ∧ probe (hPatch 1 [] 0) = some (true, false, 2) ∧
    probe (hPatch 0 [] 2) = some (false, true, 0) ∧ probe (hPatch 1 [] 1) = some (false, false, 0) := by decide

example : probe (hConcat [1, 0, 1] 0) = some (true, false, 3) ∧ probe (hConcat [1, 0, 2] 0) = some (false, true, 0) ∧
    probe (hConcat [1, 1] 0) = some (false, false, 0) := by decide

example : probe (hDot 0 1) = some (true, false, 2) ∧ probe (hDot 0 2) = some (false, true, 0) ∧
    probe (hMatMul 3 3) = some (true, false, 2) := by decide

example : probe (hCmp .elmax 1 0) = some (true, false, 2) ∧ probe (hCmp .elmin 0 2) = some (false, true, 0) ∧
    probe (hCmp .le 0 0) = some (false, false, 0) := by decide

/-- spent-ness produced by an actual back-propagation: y = a * b, back-propagate from y, then a + b is isolated -/
example :
    (match ((do let a ← hLeaf ⟨[2], [1, 2]⟩ true; let b ← hLeaf ⟨[2], [3, 4]⟩ false; hArith .mul a b) : HM Int Nat) #[] with
     | .ok (y, H) =>
       (match hArith .add 0 1 (backprop .sum H y).heap with
        | .ok (r, H') => some (H'.tracked r, H'.dirty r, (H'.ctx r).edges.length)
        | _ => none)
     | _ => none) = some (false, true, 0) := by decide

end C08x
end Qeep
