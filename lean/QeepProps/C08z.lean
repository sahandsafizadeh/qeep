import QeepProps.C08
import QeepProofs.Dag
/-!
# C08 — a tensor carries a gradient only if it took part in a back-propagation

`Fresh m`: every tensor the step `m` allocates starts without a gradient, and existing tensors are untouched (`Frame`).
It is `Allocs` (QeepProofs/Heap) for the property "no gradient" (`fresh_iff_allocs`), so it holds of every public
operation and component (`fresh_*`) by the decomposition done there once.

`reach_clean_nograd`: in EVERY heap the public API can build, a tensor that is not spent has no gradient — gradients
are assigned by `BackPropagate` only, to tensors it marks spent, and `ResetGradContext` clears both.
-/
set_option linter.unusedSectionVars false

namespace Qeep
variable {α : Type}

def Fresh {β : Type} (m : HM α β) : Prop :=
  ∀ H r H', m H = .ok (r, H') → Extends H H' ∧ ∀ n, H.size ≤ n → H'.grad n = none

theorem grad_beyond (H : Heap α) (n : Nat) (h : H.size ≤ n) : H.grad n = none := by
  rw [Heap.grad, ctx_of_size_le H h]

/-- `Fresh` is `Allocs` for "no gradient": beyond the new heap there is no gradient anyway -/
theorem fresh_iff_allocs {β : Type} {m : HM α β} : Fresh m ↔ Allocs (fun c => c.grad = none) m := by
  constructor
  · intro h
    exact ⟨fun H r H' e => ⟨(h H r H' e).1, fun n hn _ => (h H r H' e).2 n hn⟩⟩
  · intro h H r H' e
    refine ⟨(h.run H r H' e).1, fun n hn => ?_⟩
    by_cases hlt : n < H'.size
    · exact (h.run H r H' e).2 n hn hlt
    · exact grad_beyond H' n (Nat.le_of_not_lt hlt)

theorem fresh_pure {β : Type} (b : β) : Fresh (pure b : HM α β) := fresh_iff_allocs.mpr (allocs_pure b)
theorem fresh_liftOut {β : Type} (o : Out β) : Fresh (liftOut o : HM α β) := fresh_iff_allocs.mpr (allocs_liftOut o)
theorem fresh_getHeap : Fresh (getHeap : HM α (Heap α)) := fresh_iff_allocs.mpr allocs_getHeap
theorem fresh_alloc (v : Tensor α) (c : Ctx α) (hc : c.grad = none) : Fresh (alloc v c) :=
  fresh_iff_allocs.mpr (allocs_alloc v hc)
theorem fresh_bind {β γ : Type} {m : HM α β} {f : β → HM α γ} (hm : Fresh m) (hf : ∀ b, Fresh (f b)) :
    Fresh (m >>= f) :=
  fresh_iff_allocs.mpr (allocs_bind (fresh_iff_allocs.mp hm) fun b => fresh_iff_allocs.mp (hf b))

theorem ctxOK_nograd : CtxOK (fun c : Ctx α => c.grad = none) := ⟨rfl, fun _ => rfl, fun _ => rfl⟩

section
variable [Scalar α]

theorem fresh_hLeaf (v : Tensor α) (b : Bool) : Fresh (hLeaf v b) := fresh_iff_allocs.mpr (allocs_hLeaf ctxOK_nograd v b)
theorem fresh_hOp1 (x : Nat) (v : Out (Tensor α)) (rule : Nat → Rule α) : Fresh (hOp1 x v rule) := fresh_iff_allocs.mpr (allocs_hOp1 ctxOK_nograd x v rule)
theorem fresh_hSlice (x : Nat) (i : List IRange) : Fresh (hSlice (α := α) x i) := fresh_iff_allocs.mpr (allocs_hSlice ctxOK_nograd x i)
theorem fresh_hTranspose (x : Nat) : Fresh (hTranspose (α := α) x) := fresh_iff_allocs.mpr (allocs_hTranspose ctxOK_nograd x)
theorem fresh_hReshape (x : Nat) (s : List Int) : Fresh (hReshape (α := α) x s) := fresh_iff_allocs.mpr (allocs_hReshape ctxOK_nograd x s)
theorem fresh_hUnSqueeze (x : Nat) (d : Int) : Fresh (hUnSqueeze (α := α) x d) := fresh_iff_allocs.mpr (allocs_hUnSqueeze ctxOK_nograd x d)
theorem fresh_hSqueeze (x : Nat) (d : Int) : Fresh (hSqueeze (α := α) x d) := fresh_iff_allocs.mpr (allocs_hSqueeze ctxOK_nograd x d)
theorem fresh_hFlatten (x : Nat) (d : Int) : Fresh (hFlatten (α := α) x d) := fresh_iff_allocs.mpr (allocs_hFlatten ctxOK_nograd x d)
theorem fresh_hBroadcast (x : Nat) (s : List Int) : Fresh (hBroadcast (α := α) x s) := fresh_iff_allocs.mpr (allocs_hBroadcast ctxOK_nograd x s)
theorem fresh_hAlong (r : Reducer) (x : Nat) (d : Int) : Fresh (hAlong (α := α) r x d) := fresh_iff_allocs.mpr (allocs_hAlong ctxOK_nograd r x d)
theorem fresh_hScale (x : Nat) (a : α) : Fresh (hScale x a) := fresh_iff_allocs.mpr (allocs_hScale ctxOK_nograd x a)
theorem fresh_hPow (x : Nat) (a : α) : Fresh (hPow x a) := fresh_iff_allocs.mpr (allocs_hPow ctxOK_nograd x a)
theorem fresh_hUnary (f : Unary) (x : Nat) : Fresh (hUnary (α := α) f x) := fresh_iff_allocs.mpr (allocs_hUnary ctxOK_nograd f x)
theorem fresh_hPatch (x : Nat) (i : List IRange) (p : Nat) : Fresh (hPatch (α := α) x i p) := fresh_iff_allocs.mpr (allocs_hPatch ctxOK_nograd x i p)
theorem fresh_hCmp (c : Cmp) (a b : Nat) : Fresh (hCmp (α := α) c a b) := fresh_iff_allocs.mpr (allocs_hCmp ctxOK_nograd c a b)
theorem fresh_hBroadcastPair (a b : Nat) : Fresh (hBroadcastPair (α := α) a b) := fresh_iff_allocs.mpr (allocs_hBroadcastPair ctxOK_nograd a b)
theorem fresh_hBroadcastPairMM (a b : Nat) : Fresh (hBroadcastPairMM (α := α) a b) := fresh_iff_allocs.mpr (allocs_hBroadcastPairMM ctxOK_nograd a b)
theorem fresh_hArith (o : Arith) (a b : Nat) : Fresh (hArith (α := α) o a b) := fresh_iff_allocs.mpr (allocs_hArith ctxOK_nograd o a b)
theorem fresh_hDot (a b : Nat) : Fresh (hDot (α := α) a b) := fresh_iff_allocs.mpr (allocs_hDot ctxOK_nograd a b)
theorem fresh_hMatMul (a b : Nat) : Fresh (hMatMul (α := α) a b) := fresh_iff_allocs.mpr (allocs_hMatMul ctxOK_nograd a b)
theorem fresh_hConcat (xs : List Nat) (d : Int) : Fresh (hConcat (α := α) xs d) := fresh_iff_allocs.mpr (allocs_hConcat ctxOK_nograd xs d)
theorem fresh_hGradNode (n : Nat) : Fresh (hGradNode (α := α) n) := fresh_iff_allocs.mpr (allocs_hGradNode ctxOK_nograd n)
theorem fresh_clip (x : Nat) (l u : α) : Fresh (clip x l u) := fresh_iff_allocs.mpr (allocs_clip ctxOK_nograd x l u)
theorem fresh_actForward (a : Activation α) (xs : List (Option Nat)) : Fresh (actForward a xs) := fresh_iff_allocs.mpr (allocs_actForward ctxOK_nograd a xs)
theorem fresh_lossCompute (l : Loss) (yp yt : Option Nat) : Fresh (lossCompute (α := α) l yp yt) := fresh_iff_allocs.mpr (allocs_lossCompute ctxOK_nograd l yp yt)
theorem fresh_fcForward (c : FC) (xs : List (Option Nat)) : Fresh (fcForward (α := α) c xs) := fresh_iff_allocs.mpr (allocs_fcForward ctxOK_nograd c xs)
theorem fresh_sgdUpdate (lr : α) (w : Option Nat) : Fresh (sgdUpdate lr w) := fresh_iff_allocs.mpr (allocs_sgdUpdate ctxOK_nograd lr w)
theorem fresh_accAccumulate (c : Accuracy) (yp yt : Option Nat) : Fresh (accAccumulate (α := α) c yp yt) := fresh_iff_allocs.mpr (allocs_accAccumulate ctxOK_nograd c yp yt)

def CleanNoGrad (H : Heap α) : Prop := ∀ n, H.dirty n = false → H.grad n = none

theorem cng_step {β : Type} {m : HM α β} (hm : Fresh m) {H H' : Heap α} {r : β} (hc : CleanNoGrad H)
    (h : m H = .ok (r, H')) : CleanNoGrad H' := by
  obtain ⟨e, g⟩ := hm H r H' h
  intro n hn
  by_cases hlt : n < H.size
  · rw [e.grad hlt]; exact hc n (e.dirty hlt ▸ hn)
  · exact g n (Nat.le_of_not_lt hlt)

/-- **in every reachable heap a tensor that is not spent has no gradient** -/
theorem reach_clean_nograd {bm : BMode} {H : Heap α} (h : Reach bm H) : CleanNoGrad H := by
  induction h with
  | empty => intro n _; exact grad_beyond _ n (by simp)
  | leaf _ h ih => exact cng_step (fresh_hLeaf _ _) ih h
  | slice _ _ h ih => exact cng_step (fresh_hSlice _ _) ih h
  | transpose _ _ h ih => exact cng_step (fresh_hTranspose _) ih h
  | reshape _ _ h ih => exact cng_step (fresh_hReshape _ _) ih h
  | unsqueeze _ _ h ih => exact cng_step (fresh_hUnSqueeze _ _) ih h
  | squeeze _ _ h ih => exact cng_step (fresh_hSqueeze _ _) ih h
  | flatten _ _ h ih => exact cng_step (fresh_hFlatten _ _) ih h
  | broadcast _ _ h ih => exact cng_step (fresh_hBroadcast _ _) ih h
  | along _ _ h ih => exact cng_step (fresh_hAlong _ _ _) ih h
  | scale _ _ h ih => exact cng_step (fresh_hScale _ _) ih h
  | pow _ _ h ih => exact cng_step (fresh_hPow _ _) ih h
  | unary _ _ h ih => exact cng_step (fresh_hUnary _ _) ih h
  | patch _ _ _ h ih => exact cng_step (fresh_hPatch _ _ _) ih h
  | cmp _ _ _ h ih => exact cng_step (fresh_hCmp _ _ _) ih h
  | arith _ _ _ h ih => exact cng_step (fresh_hArith _ _ _) ih h
  | dot _ _ _ h ih => exact cng_step (fresh_hDot _ _) ih h
  | matmul _ _ _ h ih => exact cng_step (fresh_hMatMul _ _) ih h
  | concat _ _ h ih => exact cng_step (fresh_hConcat _ _) ih h
  | gradNode _ h ih => exact cng_step (fresh_hGradNode _) ih h
  | @backprop H root hr ih =>
    intro n hn
    by_cases hmem : n ∈ backwardOrder H root
    · by_cases hlt : n < H.size
      · have htr : H.tracked root = true := by
          by_cases ht : H.tracked root = true
          · exact ht
          · unfold backwardOrder at hmem; simp [ht] at hmem
        have := C08.bp_marks_spent bm H root htr n hmem hlt
        rw [this] at hn; cases hn
      · have hs : (backprop bm H root).heap.size = H.size := (backprop_val bm H root 0).2
        exact grad_beyond _ n (by omega)
    · have hctx := C20.backprop_footprint bm H root (reach_dag hr) n hmem
      rw [Heap.dirty, hctx] at hn
      rw [Heap.grad, hctx]; exact ih n hn
  | @reset H n b _ ih =>
    intro m hm
    by_cases hmn : m = n
    · subst hmn
      by_cases hlt : m < H.size
      · have := (C08.reset_is_fresh_leaf H m b hlt).1
        simp [Heap.grad, this]
      · have hs : (resetCtx H m b).size = H.size := (resetCtx_frame H m b).1
        exact grad_beyond _ m (by omega)
    · have hctx := (resetCtx_frame H n b).2.2 m hmn
      rw [Heap.dirty, hctx] at hm
      rw [Heap.grad, hctx]; exact ih m hm

end
end Qeep
