import QeepProps.C03
import QeepProps.C04
import QeepProps.C06
import QeepProofs.Along
import QeepProofs.ValueOps
import QeepProofs.Gates
/-!
# C09 — every public call is total: a well-formed result or an error, never a panic

For each public value operation `v*` of the Model (validator, then the raw data-layer primitive in which every
out-of-range access is an explicit `panic`): the outcome is `ok` exactly when the documented precondition holds —
then with the defined shape and a well-formed result — and `err` otherwise; `panic` is impossible.

Here: Full/Zeros/Ones, Eye, TensorOf (incl. ragged data), UnSqueeze, Squeeze, Flatten, Slice, Patch, the `…Along`
reductions, the element-wise comparisons/ElMax/ElMin, Add/Sub/Mul/Div on equal shapes. Reshape and At: `C06`; Broadcast:
`C03`; Transpose: `C04`; broadcasting arithmetic, Dot, MatMul, Concat and the component constructors: `C09x`.
-/

namespace Qeep
namespace C09

variable {α : Type}

/-- **Full / Zeros / Ones**: `ok` iff every requested size is positive; then the requested dims, well formed. -/
theorem vFull_total (dims : List Int) (v : α) :
    (validInputDims dims = true → ∃ r, vFull dims v = .ok r ∧ r.dims = natDims dims ∧ r.WF) ∧
    (validInputDims dims = false → vFull dims v = .err) :=
  ⟨fun h => ⟨_, if_pos h, rfl, (C06.full_data v _ (natDims_pos h)).1⟩, gate_err⟩

theorem eye_wf [Scalar α] (n : Nat) (hn : 0 < n) : (eyeMatrix n : Tensor α).WF :=
  ⟨by simp [eyeMatrix, prod], fun d hd => by
    simp only [eyeMatrix, List.mem_cons, List.not_mem_nil, or_false, or_self] at hd
    rw [hd]; exact hn⟩

theorem validInputDims_pair (n : Int) : validInputDims [n, n] = decide (0 < n) := by simp [validInputDims]

/-- **Eye**: `ok` iff `n > 0`; then `[n, n]`, well formed. -/
theorem vEye_total [Scalar α] (n : Int) :
    (0 < n → ∃ r : Tensor α, vEye n = .ok r ∧ r.dims = [n.toNat, n.toNat] ∧ r.WF) ∧
    (n ≤ 0 → (vEye n : Out (Tensor α)) = .err) :=
  ⟨fun h => ⟨_, if_pos (by rw [validInputDims_pair]; exact decide_eq_true h), rfl, eye_wf _ (by omega)⟩,
    fun h => gate_err (by rw [validInputDims_pair]; exact decide_eq_false (by omega))⟩

/-- **TensorOf**: `ok` iff the nested data are nowhere empty and rectangular at every depth (what `validData` says:
    `C06y.validData_iff`); never a panic, whatever the (possibly ragged) data. -/
theorem vTensorOf_total (depth : Nat) (x : NData α) :
    (validData depth x = true → ∃ r, vTensorOf depth x = .ok r) ∧
    (validData depth x = false → vTensorOf depth x = .err) := by
  refine ⟨fun h => ?_, gate_err⟩
  have h' := h
  simp only [validData, Bool.and_eq_true] at h'
  cases hf : NData.firstDims depth x with
  | none => rw [hf] at h'; exact absurd h'.2 Bool.false_ne_true
  | some dims =>
    rw [hf] at h'
    exact ⟨⟨dims, x.flat⟩, gate_eq_ok.2 ⟨h, by simp [tensorOfRaw, hf, h'.2]⟩⟩

/-- **UnSqueeze / Squeeze / Flatten**: `ok` iff the dimension argument is admissible; then a reshape. -/
theorem vUnSqueeze_total (t : Tensor α) (hwf : t.WF) (dim : Int) :
    (validUnSqueeze dim t.dims = true → vUnSqueeze t dim = .ok ⟨unsqueezeDims dim.toNat t.dims, t.data⟩) ∧
    (validUnSqueeze dim t.dims = false → vUnSqueeze t dim = .err) :=
  ⟨fun h => gate_eq_ok.2 ⟨h, C06.unsqueeze_data t hwf _⟩, gate_err⟩

theorem vFlatten_total (t : Tensor α) (hwf : t.WF) (dim : Int) :
    (validDimLt dim t.dims = true → vFlatten t dim = .ok ⟨flattenDims dim.toNat t.dims, t.data⟩) ∧
    (validDimLt dim t.dims = false → vFlatten t dim = .err) :=
  ⟨fun h => gate_eq_ok.2 ⟨h, C06.flatten_data t hwf _⟩, gate_err⟩

theorem vSqueeze_total (t : Tensor α) (hwf : t.WF) (dim : Int) :
    (validSqueeze dim t.dims = true → vSqueeze t dim = .ok ⟨squeezeDims dim.toNat t.dims, t.data⟩) ∧
    (validSqueeze dim t.dims = false → vSqueeze t dim = .err) := by
  refine ⟨fun h => gate_eq_ok.2 ⟨h, C06.squeeze_data t hwf _ ?_⟩, gate_err⟩
  simp only [validSqueeze, Bool.and_eq_true, beq_iff_eq] at h
  exact h.2

/-- **Eq … Le, ElMax, ElMin**: `ok` iff the dims are equal; then the operands' dims, well formed. -/
theorem vCmp_total [Scalar α] (c : Cmp) (a b : Tensor α) (ha : a.WF) (hb : b.WF) :
    (a.dims = b.dims → ∃ r, vCmp c a b = .ok r ∧ r.dims = a.dims ∧ r.WF) ∧
    (a.dims ≠ b.dims → vCmp c a b = .err) :=
  ⟨fun hd => ⟨_, vCmp_same c a b ha hb hd, rfl, zip_wf _ a b ha hb hd⟩,
    fun hd => gate_err (by simpa [validDimsMatch] using hd)⟩

/-- **Add / Sub / Mul / Div** on operands of equal shape never fail (the broadcast-compatible general case:
    `C09.vArith_total`). -/
theorem vArith_same_total [Scalar α] (o : Arith) (a b : Tensor α) (ha : a.WF) (hb : b.WF) (hd : a.dims = b.dims) :
    ∃ r, vArith o a b = .ok r ∧ r.dims = a.dims ∧ r.WF :=
  ⟨_, vArith_same o a b ha hb hd, rfl, zip_wf _ a b ha hb hd⟩

theorem natRange_of_valid {f t : Int} {d : Nat} (h : validRange (f, t) d = true) :
    (f.toNat = 0 ∧ t.toNat = 0) ∨ (f.toNat < t.toNat ∧ t.toNat ≤ d) := by
  rcases validRange_iff.1 h with h | h
  · left; rw [h.1, h.2]; exact ⟨rfl, rfl⟩
  · right; omega

/-- the validator's Slice rule on integers implies the natural-number side conditions used by `C06.slice_get` -/
theorem rangesOK_of_valid : ∀ (index : List IRange) (dims : List Nat), validSliceIndex index dims = true →
    C06.RangesOK (natRanges index) dims
  | [], dims, _ => .nil dims
  | _ :: _, [], h => by simp [validSliceIndex] at h
  | (f, t) :: rest, d :: ds, h => by
    have h' : validRange (f, t) d = true ∧ validSliceIndex rest ds = true := (validSliceIndex_cons_iff _ _ _ _).1 h
    exact .cons (natRange_of_valid h'.1) (rangesOK_of_valid rest ds h'.2)

/-- **Slice**: an index the validator accepts never makes the copy fail -/
theorem vSlice_total (t : Tensor α) (hwf : t.WF) (index : List IRange) :
    (validSliceIndex index t.dims = true → ∃ r, vSlice t index = .ok r ∧
        r.dims = sliceDims (completeIndex (natRanges index) t.dims)) ∧
    (validSliceIndex index t.dims = false → vSlice t index = .err) :=
  gate_total fun h =>
    have ⟨_, e, _⟩ := C06.slice_get t hwf (natRanges index) (rangesOK_of_valid index t.dims h)
    ⟨_, e, rfl⟩

/-- non-vacuity / boundary examples (kernel-checked): reversed, oversized and negative ranges are errors; the
    ragged data of the kind in finding D7 (cousins, not siblings, differ in length) are rejected -/
example : validSliceIndex [(1, 3)] [3] = true ∧ validSliceIndex [(2, 1)] [3] = false ∧
    validSliceIndex [(0, 4)] [3] = false ∧ validSliceIndex [(-1, 2)] [3] = false ∧ validSliceIndex [(0, 0), (0, 0)] [3] = false := by
  decide +kernel

example : validData 3 (NData.node [NData.node [NData.node [NData.leaf (1 : Int), .leaf 2]],
    NData.node [NData.node [NData.leaf 1, .leaf 2, .leaf 3]]]) = false := by decide +kernel

end C09
end Qeep

namespace Qeep
namespace C09
variable {α : Type}

/-- the validator's Patch rule implies the natural-number side conditions of `C06.patch_get` -/
theorem patchOK_of_valid : ∀ (index : List IRange) (sds dds : List Nat), validPatchIndex index sds dds = true →
    C06.PatchOK (natRanges index) sds dds
  | [], [], [], _ => .nil
  | [], sd :: sds, dd :: dds, h =>
    have ⟨hle, hrest⟩ := validPatchIndex_nil_cons.1 h
    .omit hle (patchOK_of_valid [] sds dds hrest)
  | (f, t) :: rest, sd :: sds, dd :: dds, h => by
    obtain ⟨hle, hr, hc, hrest⟩ := validPatchIndex_cons.1 h
    refine .cons hle ?_ (patchOK_of_valid rest sds dds hrest)
    rcases validRange_iff.1 hr with h0 | h1
    · left; rw [h0.1, h0.2]; exact ⟨rfl, rfl⟩
    · right
      have hcov : t - f = (sd : Int) := hc.resolve_left (by omega)
      omega
  | _ :: _, [], _, h => by simp [validPatchIndex, validSliceIndex] at h; omega
  | [], [], _ :: _, h | [], _ :: _, [], h | _ :: _, _ :: _, [], h => by simp [validPatchIndex] at h

/-- **Patch**: an index / source the validator accepts never makes the copy fail; the result has the target's dims -/
theorem vPatch_total (t u : Tensor α) (ht : t.WF) (hu : u.WF) (index : List IRange) :
    (validPatchIndex index u.dims t.dims = true → ∃ data, vPatch t index u = .ok ⟨t.dims, data⟩) ∧
    (validPatchIndex index u.dims t.dims = false → vPatch t index u = .err) :=
  ⟨fun h =>
    have ⟨data, e, _⟩ := C06.patch_get t u ht hu (natRanges index) (patchOK_of_valid index u.dims t.dims h)
    ⟨data, gate_eq_ok.2 ⟨h, e⟩⟩, gate_err⟩

/-- **SumAlong … MeanAlong**: `ok` iff `0 ≤ dim < rank` (the totality part of `C05.along_get`, which also gives the
    elements) -/
theorem vAlong_total [Scalar α] (r : Reducer) (t : Tensor α) (hwf : t.WF) (dim : Int) :
    (validDimLt dim t.dims = true → ∃ data, vAlong r t dim = .ok ⟨squeezeDims dim.toNat t.dims, data⟩) ∧
    (validDimLt dim t.dims = false → vAlong r t dim = .err) :=
  ⟨fun h =>
    have ⟨data, e, _⟩ := reduceDim_spec t hwf dim.toNat (validDimLt_iff.1 h).2 r.fn
    ⟨data, gate_eq_ok.2 ⟨h, e⟩⟩, gate_err⟩

end C09
end Qeep
