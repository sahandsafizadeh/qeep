import QeepProps.C09
import QeepProofs.MatMul
import QeepProofs.Run
/-!
# C09 (continued) — totality of the broadcasting binary operations, Dot, MatMul, Concat and the component validators

As in `QeepProps/C09.lean`: for well-formed operands the outcome of the public value operation is `ok` of a
well-formed tensor exactly when the documented gates accept, `err` otherwise, and `panic` never.

"`validDot = true → ok`" (and likewise MatMul) is FALSE, for the model and for the Go code alike. `Dot`/`MatMul` have
TWO gates: `ValidateDotProductDims`/`ValidateMatMulDims` and then `broadcastForBinaryOp`/`broadcastForMatMul`, whose
`Broadcast` calls run their own validator and return an `error` when the batch dimensions are not
broadcast-compatible. E.g. dims `[2,3]·[4,3]`: `validDot = true`, the outcome is `err` (kernel-checked below). So the
theorems here are three-way and exhaustive: validator rejects → `err`; validator accepts, broadcast validator
rejects → `err`; both accept → `ok`, well formed.
The Go library does the same: `Dot` on `[2,3]·[4,3]`, `MatMul` on `[2,1,1]×[3,1,1]` and `Add` on `[2]+[3]` all return
"… tensors' broadcasting failed: …" errors, no panic; `FC.Forward` with `Weight = nil` panics and with `Bias = nil`
returns an error (`fcForward_nil_weight_panics`).
-/
set_option linter.unusedSectionVars false

namespace Qeep
namespace C09

variable {α : Type}

/-- `broadcastForBinaryOp`'s two `Broadcast` validations: both operands must be broadcastable to the common target -/
def bcastPairOK (d1 d2 : List Nat) : Bool :=
  validBroadcast d1 (targetBroadcastDims d1 d2) && validBroadcast d2 (targetBroadcastDims d1 d2)

/-- `broadcastForMatMul`'s two `Broadcast` validations (each operand keeps its own trailing two dims) -/
def bcastPairMMOK (d1 d2 : List Nat) : Bool :=
  validBroadcast d1 (matMulShape (targetBroadcastDims d1 d2) d1) &&
  validBroadcast d2 (matMulShape (targetBroadcastDims d1 d2) d2)

theorem targetBroadcastLE_pos : ∀ (l1 l2 : List Nat), (∀ d ∈ l1, 0 < d) → (∀ d ∈ l2, 0 < d) →
    ∀ d ∈ targetBroadcastLE l1 l2, 0 < d
  | [], l2, _, h2 => by simpa [targetBroadcastLE] using h2
  | a :: as, [], h1, _ => by simpa [targetBroadcastLE] using h1
  | a :: as, b :: bs, h1, h2 => by
    intro d hd
    simp only [targetBroadcastLE, List.mem_cons] at hd
    rcases hd with hd | hd
    · have ha := h1 a (by simp)
      have hb := h2 b (by simp)
      rw [hd]; split <;> assumption
    · exact targetBroadcastLE_pos as bs (fun x hx => h1 x (by simp [hx])) (fun x hx => h2 x (by simp [hx])) d hd

theorem targetBroadcastDims_pos (d1 d2 : List Nat) (h1 : ∀ d ∈ d1, 0 < d) (h2 : ∀ d ∈ d2, 0 < d) :
    ∀ d ∈ targetBroadcastDims d1 d2, 0 < d := by
  intro d hd
  simp only [targetBroadcastDims, List.mem_reverse] at hd
  exact targetBroadcastLE_pos _ _ (fun x hx => h1 x (by simpa using hx)) (fun x hx => h2 x (by simpa using hx)) d hd

theorem pos_append2 {bd : List Nat} {x y : Nat} (hbd : ∀ d ∈ bd, 0 < d) (hx : 0 < x) (hy : 0 < y) :
    ∀ d ∈ bd ++ [x, y], 0 < d := by
  intro d hd
  simp only [List.mem_append, List.mem_cons, List.not_mem_nil, or_false] at hd
  rcases hd with hd | rfl | rfl
  · exact hbd d hd
  · exact hx
  · exact hy

theorem vBroadcastN_total (t : Tensor α) (hwf : t.WF) (shape : List Nat) (hpos : ∀ d ∈ shape, 0 < d) :
    (validBroadcast t.dims shape = true →
      ∃ r, vBroadcastN t shape = .ok r ∧ t.broadcastRaw shape = some r ∧ r.dims = shape ∧ r.WF) ∧
    (validBroadcast t.dims shape = false → vBroadcastN t shape = .err) := by
  unfold vBroadcastN vBroadcast
  rw [validInputDims_ofNat _ hpos, natDims_ofNat, Bool.true_and]
  exact gate_total fun hv =>
    have ⟨_, h1, h2, _⟩ := broadcastRaw_spec t hwf shape hpos hv
    ⟨_, h1, h1, rfl, h2, hpos⟩

/-- two `Broadcast`s in sequence, each to a shape of its own, so that one lemma serves `broadcastForBinaryOp` (the same
    shape twice) and `broadcastForMatMul` (each operand keeps its trailing two dims) -/
theorem bcast2_total (a b : Tensor α) (ha : a.WF) (hb : b.WF) (sa sb : List Nat) (hpa : ∀ d ∈ sa, 0 < d)
    (hpb : ∀ d ∈ sb, 0 < d) :
    ((validBroadcast a.dims sa && validBroadcast b.dims sb) = true →
      ∃ a' b', (vBroadcastN a sa >>= fun a' => vBroadcastN b sb >>= fun b' => pure (a', b')) = .ok (a', b') ∧
        a'.dims = sa ∧ b'.dims = sb ∧ a'.WF ∧ b'.WF) ∧
    ((validBroadcast a.dims sa && validBroadcast b.dims sb) = false →
      (vBroadcastN a sa >>= fun a' => vBroadcastN b sb >>= fun b' => pure (a', b')) = .err) := by
  obtain ⟨a1, a2⟩ := vBroadcastN_total a ha sa hpa
  obtain ⟨b1, b2⟩ := vBroadcastN_total b hb sb hpb
  constructor
  · intro h
    rw [Bool.and_eq_true] at h
    obtain ⟨a', ea, _, da, wa⟩ := a1 h.1
    obtain ⟨b', eb, _, db, wb⟩ := b1 h.2
    exact ⟨a', b', by rw [ea, Out.ok_bind, eb]; rfl, da, db, wa, wb⟩
  · intro h
    cases hva : validBroadcast a.dims sa with
    | false => rw [a2 hva]; rfl
    | true =>
      rw [hva, Bool.true_and] at h
      obtain ⟨a', ea, _⟩ := a1 hva
      rw [ea, Out.ok_bind, b2 h]; rfl

/-- **`broadcastForBinaryOp`** is total -/
theorem vBroadcastPair_total (a b : Tensor α) (ha : a.WF) (hb : b.WF) :
    (bcastPairOK a.dims b.dims = true → ∃ a' b', vBroadcastPair a b = .ok (a', b') ∧
        a'.dims = targetBroadcastDims a.dims b.dims ∧ b'.dims = targetBroadcastDims a.dims b.dims ∧ a'.WF ∧ b'.WF) ∧
    (bcastPairOK a.dims b.dims = false → vBroadcastPair a b = .err) :=
  have hpos := targetBroadcastDims_pos a.dims b.dims ha.2 hb.2
  bcast2_total a b ha hb _ _ hpos hpos

/-- **Add / Sub / Mul / Div** with implicit broadcasting: `ok` — of the common target shape, well formed — iff both
    operands are broadcastable to the common target shape (`broadcastForBinaryOp`'s validation); `err` otherwise. -/
theorem vArith_total [Scalar α] (o : Arith) (a b : Tensor α) (ha : a.WF) (hb : b.WF) :
    (bcastPairOK a.dims b.dims = true →
        ∃ r, vArith o a b = .ok r ∧ r.dims = targetBroadcastDims a.dims b.dims ∧ r.WF) ∧
    (bcastPairOK a.dims b.dims = false → vArith o a b = .err) := by
  obtain ⟨p1, p2⟩ := vBroadcastPair_total a b ha hb
  refine ⟨fun h => ?_, fun h => by unfold vArith; rw [p2 h]; rfl⟩
  obtain ⟨a', b', e, da, db, wa, wb⟩ := p1 h
  obtain ⟨r, er, dr, wr, _⟩ := C03.zip_get o.fn a' b' wa wb (da.trans db.symm)
  exact ⟨r, by unfold vArith; rw [e]; exact Out.ofOpt_eq_ok.2 er, dr.trans da, wr⟩

theorem vArith_never_panic [Scalar α] (o : Arith) (a b : Tensor α) (ha : a.WF) (hb : b.WF) :
    vArith o a b ≠ .panic := by
  obtain ⟨h1, h2⟩ := vArith_total o a b ha hb
  cases h : bcastPairOK a.dims b.dims with
  | true => exact Out.ne_panic_of (.inl ((h1 h).imp fun _ hr => hr.1))
  | false => exact Out.ne_panic_of (.inr (h2 h))

/-- non-vacuity: `[2,1] + [3]` broadcasts to `[2,3]`; `[2] + [3]` is an error -/
example : bcastPairOK [2, 1] [3] = true ∧
    vArith .add (⟨[2, 1], [10, 20]⟩ : Tensor Int) ⟨[3], [1, 2, 3]⟩ = .ok ⟨[2, 3], [11, 12, 13, 21, 22, 23]⟩ ∧
    bcastPairOK [2] [3] = false ∧ vArith .add (⟨[2], [10, 20]⟩ : Tensor Int) ⟨[3], [1, 2, 3]⟩ = .err := by
  decide +kernel

theorem exists_concat (l : List Nat) (h : 1 ≤ l.length) : ∃ r x, l = r ++ [x] := by
  have hne : l ≠ [] := by intro e; rw [e] at h; simp at h
  exact ⟨l.dropLast, l.getLast hne, (List.dropLast_concat_getLast hne).symm⟩

theorem exists_concat2 (l : List Nat) (h : 2 ≤ l.length) : ∃ r x y, l = r ++ [x, y] := by
  obtain ⟨r, y, e⟩ := exists_concat l (by omega)
  have hr : 1 ≤ r.length := by rw [e] at h; simp at h; omega
  obtain ⟨r', x, e'⟩ := exists_concat r hr
  exact ⟨r', x, y, by rw [e, e']; simp⟩

/-- what `ValidateDotProductDims` accepts: both ranks ≥ 1, equal last dims -/
theorem validDot_shape (d1 d2 : List Nat) (h : validDot d1 d2 = true) :
    ∃ r1 r2 n, d1 = r1 ++ [n] ∧ d2 = r2 ++ [n] := by
  simp only [validDot, Bool.and_eq_true, decide_eq_true_eq, beq_iff_eq] at h
  obtain ⟨⟨h1, h2⟩, h3⟩ := h
  obtain ⟨r1, n1, e1⟩ := exists_concat d1 h1
  obtain ⟨r2, n2, e2⟩ := exists_concat d2 h2
  rw [e1, e2, List.getLast?_concat, List.getLast?_concat] at h3
  have hn : n1 = n2 := by injection h3
  exact ⟨r1, r2, n1, e1, by rw [e2, hn]⟩

/-- `ValidateMatMulDims` accepts exactly (with `validMatMul_shape`): both ranks ≥ 2, inner dims equal -/
theorem validMatMul_append2 (r1 r2 : List Nat) (m n k : Nat) : validMatMul (r1 ++ [m, n]) (r2 ++ [n, k]) = true := by
  simp [validMatMul, List.dropLast_cons_of_ne_nil]

theorem validMatMul_shape (d1 d2 : List Nat) (h : validMatMul d1 d2 = true) :
    ∃ r1 r2 m n k, d1 = r1 ++ [m, n] ∧ d2 = r2 ++ [n, k] := by
  simp only [validMatMul, Bool.and_eq_true, decide_eq_true_eq, beq_iff_eq] at h
  obtain ⟨⟨h1, h2⟩, h3⟩ := h
  obtain ⟨r1, m, n, e1⟩ := exists_concat2 d1 h1
  obtain ⟨r2, n', k, e2⟩ := exists_concat2 d2 h2
  have g1 : (r1 ++ [m, n]).getLast? = some n := by simp
  have g2 : (r2 ++ [n', k]).dropLast.getLast? = some n' := by simp [List.dropLast_cons_of_ne_nil]
  rw [e1, e2, g1, g2] at h3
  have hn : n = n' := by injection h3
  exact ⟨r1, r2, m, n, k, e1, by rw [e2, hn]⟩

theorem targetBroadcastDims_concat (r1 r2 : List Nat) (n : Nat) :
    targetBroadcastDims (r1 ++ [n]) (r2 ++ [n]) = targetBroadcastDims r1 r2 ++ [n] := by
  simp [targetBroadcastDims, targetBroadcastLE]

theorem targetBroadcastDims_dropLast2 (r1 r2 : List Nat) (m n n' k : Nat) :
    (targetBroadcastDims (r1 ++ [m, n]) (r2 ++ [n', k])).dropLast.dropLast = targetBroadcastDims r1 r2 := by
  simp [targetBroadcastDims, targetBroadcastLE, List.dropLast_cons_of_ne_nil]

/-- `broadcastForMatMul`'s target shape for an operand `r ++ [x, y]`: the common batch dims, then its own `[x, y]` -/
theorem matMulShape_target {d1 d2 own r1 r2 r : List Nat} {m n n' k x y : Nat} (e1 : d1 = r1 ++ [m, n])
    (e2 : d2 = r2 ++ [n', k]) (e : own = r ++ [x, y]) :
    matMulShape (targetBroadcastDims d1 d2) own = targetBroadcastDims r1 r2 ++ [x, y] := by
  subst e1 e2 e
  unfold matMulShape
  rw [targetBroadcastDims_dropLast2]
  simp

theorem at?_some_of_valid (t : Tensor α) (hwf : t.WF) (idx : List Nat) (hv : Valid t.dims idx) :
    ∃ x, t.at? idx = some x := by
  have hvr := valid_reverse hv
  have e := Tensor.at?_reverse t hvr
  rw [List.reverse_reverse] at e
  have hlt := val_lt hvr
  rw [prod_reverse, ← hwf.1] at hlt
  exact ⟨_, by rw [e]; exact List.getElem?_eq_getElem hlt⟩

theorem at?_getD [Scalar α] (t : Tensor α) (hwf : t.WF) {idx : List Nat} (hv : Valid t.dims idx) :
    t.at? idx = some ((t.at? idx).getD Scalar.zero) := by
  obtain ⟨x, hx⟩ := at?_some_of_valid t hwf idx hv
  rw [hx]; rfl

theorem valid_append2 {bd pre : List Nat} {a b i j : Nat} (hv : Valid bd pre) (hi : i < a) (hj : j < b) :
    Valid (bd ++ [a, b]) (pre ++ [i, j]) := by
  simpa using valid_append (valid_append hv hi) hj

/-- `C04.dot_get` (the kernel run) restated for well-formed `Tensor` operands of dims `bd ++ [n]` -/
theorem dotRaw_get [Scalar α] (a b : Tensor α) (ha : a.WF) (hb : b.WF) (bd : List Nat) (n : Nat)
    (hda : a.dims = bd ++ [n]) (hdb : b.dims = bd ++ [n]) (A B : List Nat → Nat → α)
    (hA : ∀ pre p, Valid bd pre → p < n → a.at? (pre ++ [p]) = some (A pre p))
    (hB : ∀ pre p, Valid bd pre → p < n → b.at? (pre ++ [p]) = some (B pre p)) :
    ∃ c, a.dotRaw b = some c ∧ c.dims = bd ∧ c.WF ∧ ∀ pre, Valid bd pre → c.at? pre =
      some ((List.range n).foldl (fun s p => Scalar.add s (Scalar.mul (A pre p) (B pre p))) Scalar.zero) := by
  obtain ⟨da, xa⟩ := a
  obtain ⟨db, xb⟩ := b
  subst hda hdb
  have hbd : ∀ d ∈ bd, 0 < d := fun d hd => ha.2 d (by simp [hd])
  obtain ⟨data, e, hlen, hget⟩ := dotRaw_spec bd n xa xb hbd (ha.2 n (by simp)) ha.1 hb.1 A B hA hB
  exact ⟨⟨bd, data⟩, e, rfl, ⟨hlen, hbd⟩, hget⟩

theorem vDot_of_pair [Scalar α] {a b a' b' : Tensor α} (hv : validDot a.dims b.dims = true)
    (h : vBroadcastPair a b = .ok (a', b')) : vDot a b = .ofOpt (a'.dotRaw b') := by
  unfold vDot; rw [if_pos hv, h]; rfl

/-- **Dot**: `err` when `ValidateDotProductDims` rejects; `err` when it accepts but the operands are not
    broadcast-compatible (`broadcastForBinaryOp`); otherwise `ok` of a well-formed tensor whose dims are the common
    target shape without its last dimension. Never a panic, for every rank and size. -/
theorem vDot_total [Scalar α] (a b : Tensor α) (ha : a.WF) (hb : b.WF) :
    (validDot a.dims b.dims = true → bcastPairOK a.dims b.dims = true →
        ∃ r, vDot a b = .ok r ∧ r.dims = (targetBroadcastDims a.dims b.dims).dropLast ∧ r.WF) ∧
    (validDot a.dims b.dims = true → bcastPairOK a.dims b.dims = false → vDot a b = .err) ∧
    (validDot a.dims b.dims = false → vDot a b = .err) := by
  obtain ⟨p1, p2⟩ := vBroadcastPair_total a b ha hb
  refine ⟨fun hv hbc => ?_, fun hv hbc => by unfold vDot; rw [if_pos hv, p2 hbc]; rfl, gate_err⟩
  obtain ⟨r1, r2, n, e1, e2⟩ := validDot_shape a.dims b.dims hv
  obtain ⟨a', b', e, da, db, wa, wb⟩ := p1 hbc
  have hT : targetBroadcastDims a.dims b.dims = targetBroadcastDims r1 r2 ++ [n] := by
    rw [e1, e2]; exact targetBroadcastDims_concat r1 r2 n
  rw [hT] at da db
  obtain ⟨c, ec, dc, wc, _⟩ := dotRaw_get a' b' wa wb _ n da db _ _
    (fun pre p hv hp => at?_getD a' wa (da ▸ valid_append hv hp)) (fun pre p hv hp => at?_getD b' wb (db ▸ valid_append hv hp))
  exact ⟨c, by rw [vDot_of_pair hv e]; exact Out.ofOpt_eq_ok.2 ec, by rw [dc, hT]; simp, wc⟩

theorem vDot_never_panic [Scalar α] (a b : Tensor α) (ha : a.WF) (hb : b.WF) : vDot a b ≠ .panic := by
  obtain ⟨h1, h2, h3⟩ := vDot_total a b ha hb
  cases hv : validDot a.dims b.dims with
  | false => exact Out.ne_panic_of (.inr (h3 hv))
  | true =>
    cases hbc : bcastPairOK a.dims b.dims with
    | true => exact Out.ne_panic_of (.inl ((h1 hv hbc).imp fun _ hr => hr.1))
    | false => exact Out.ne_panic_of (.inr (h2 hv hbc))

/-- non-vacuity: a batched dot with broadcasting of the batch dimension; mismatching last dims are an error; and
    the COUNTEREXAMPLE to the two-way statement: `[2,3]·[4,3]` passes `ValidateDotProductDims` yet is an error
    (returned by `broadcastForBinaryOp`), not a result — and not a panic. -/
example : validDot [2, 2] [2] = true ∧ bcastPairOK [2, 2] [2] = true ∧
    vDot (⟨[2, 2], [1, 2, 3, 4]⟩ : Tensor Int) ⟨[2], [10, 100]⟩ = .ok ⟨[2], [210, 430]⟩ ∧
    validDot [2] [3] = false ∧ vDot (⟨[2], [1, 2]⟩ : Tensor Int) ⟨[3], [1, 2, 3]⟩ = .err ∧
    validDot [2, 3] [4, 3] = true ∧ bcastPairOK [2, 3] [4, 3] = false ∧
    vDot (⟨[2, 3], [1, 2, 3, 4, 5, 6]⟩ : Tensor Int) ⟨[4, 3], [1, 2, 3, 4, 5, 6, 7, 8, 9, 10, 11, 12]⟩ = .err := by
  decide +kernel

/-- `C04.matmul_get` (the kernel run) restated for well-formed `Tensor` operands of dims `bd ++ [m, n]`, `bd ++ [n, k]` -/
theorem matMulRaw_get [Scalar α] (a b : Tensor α) (ha : a.WF) (hb : b.WF) (bd : List Nat) (m n k : Nat)
    (hda : a.dims = bd ++ [m, n]) (hdb : b.dims = bd ++ [n, k]) (A B : List Nat → Nat → Nat → α)
    (hA : ∀ pre i p, Valid bd pre → i < m → p < n → a.at? (pre ++ [i, p]) = some (A pre i p))
    (hB : ∀ pre p j, Valid bd pre → p < n → j < k → b.at? (pre ++ [p, j]) = some (B pre p j)) :
    ∃ c, a.matMulRaw b = some c ∧ c.dims = bd ++ [m, k] ∧ c.WF ∧
      ∀ pre i j, Valid bd pre → i < m → j < k → c.at? (pre ++ [i, j]) =
        some ((List.range n).foldl (fun s p => Scalar.add s (Scalar.mul (A pre i p) (B pre p j))) Scalar.zero) := by
  obtain ⟨da, xa⟩ := a
  obtain ⟨db, xb⟩ := b
  subst hda hdb
  have hbd : ∀ d ∈ bd, 0 < d := fun d hd => ha.2 d (by simp [hd])
  have hm : 0 < m := ha.2 m (by simp)
  have hk : 0 < k := hb.2 k (by simp)
  obtain ⟨data, e, hlen, hget⟩ := matMulRaw_spec bd m n k xa xb hbd hm (ha.2 n (by simp)) hk ha.1 hb.1 A B hA hB
  exact ⟨⟨bd ++ [m, k], data⟩, e, rfl, ⟨hlen, pos_append2 hbd hm hk⟩, hget⟩

/-- **`broadcastForMatMul`** is total -/
theorem vBroadcastPairMM_total (a b : Tensor α) (ha : a.WF) (hb : b.WF) {r1 r2 : List Nat} {m n n' k : Nat}
    (e1 : a.dims = r1 ++ [m, n]) (e2 : b.dims = r2 ++ [n', k]) :
    (bcastPairMMOK a.dims b.dims = true → ∃ a' b', vBroadcastPairMM a b = .ok (a', b') ∧
        a'.dims = targetBroadcastDims r1 r2 ++ [m, n] ∧ b'.dims = targetBroadcastDims r1 r2 ++ [n', k] ∧ a'.WF ∧ b'.WF) ∧
    (bcastPairMMOK a.dims b.dims = false → vBroadcastPairMM a b = .err) := by
  have hpa : ∀ d ∈ r1 ++ [m, n], 0 < d := e1 ▸ ha.2
  have hpb : ∀ d ∈ r2 ++ [n', k], 0 < d := e2 ▸ hb.2
  have hT := targetBroadcastDims_pos r1 r2 (fun d hd => hpa d (by simp [hd])) (fun d hd => hpb d (by simp [hd]))
  have key := bcast2_total a b ha hb _ _ (pos_append2 hT (hpa m (by simp)) (hpa n (by simp)))
    (pos_append2 hT (hpb n' (by simp)) (hpb k (by simp)))
  unfold bcastPairMMOK vBroadcastPairMM
  dsimp only
  rw [matMulShape_target e1 e2 e1, matMulShape_target e1 e2 e2]
  exact key

/-- **MatMul**: `err` when `ValidateMatMulDims` rejects; `err` when it accepts but the batch dimensions are not
    broadcast-compatible (`broadcastForMatMul`); otherwise `ok` of a well-formed tensor: the common batch dims followed
    by `[m, k]`. Never a panic, for every rank and size. -/
theorem vMatMul_total [Scalar α] (a b : Tensor α) (ha : a.WF) (hb : b.WF) :
    (validMatMul a.dims b.dims = true → bcastPairMMOK a.dims b.dims = true →
        ∃ r, vMatMul a b = .ok r ∧ r.WF ∧
          r.dims = (targetBroadcastDims a.dims b.dims).dropLast.dropLast ++
            [a.dims.dropLast.getLast?.getD 0, b.dims.getLast?.getD 0]) ∧
    (validMatMul a.dims b.dims = true → bcastPairMMOK a.dims b.dims = false → vMatMul a b = .err) ∧
    (validMatMul a.dims b.dims = false → vMatMul a b = .err) := by
  refine ⟨fun hv hbc => ?_, fun hv hbc => ?_, gate_err⟩ <;>
    obtain ⟨r1, r2, m, n, k, e1, e2⟩ := validMatMul_shape a.dims b.dims hv <;>
    obtain ⟨p1, p2⟩ := vBroadcastPairMM_total a b ha hb e1 e2
  · obtain ⟨a', b', e, da, db, wa, wb⟩ := p1 hbc
    obtain ⟨c, ec, dc, wc, _⟩ := matMulRaw_get a' b' wa wb _ m n k da db _ _
      (fun pre i p hv hi hp => at?_getD a' wa (da ▸ valid_append2 hv hi hp))
      (fun pre p j hv hp hj => at?_getD b' wb (db ▸ valid_append2 hv hp hj))
    refine ⟨c, ?_, wc, ?_⟩
    · unfold vMatMul; rw [if_pos hv, e]; exact Out.ofOpt_eq_ok.2 ec
    · rw [dc, e1, e2, targetBroadcastDims_dropLast2]; simp [List.dropLast_cons_of_ne_nil]
  · unfold vMatMul; rw [if_pos hv, p2 hbc]; rfl

theorem vMatMul_never_panic [Scalar α] (a b : Tensor α) (ha : a.WF) (hb : b.WF) : vMatMul a b ≠ .panic := by
  obtain ⟨h1, h2, h3⟩ := vMatMul_total a b ha hb
  cases hv : validMatMul a.dims b.dims with
  | false => exact Out.ne_panic_of (.inr (h3 hv))
  | true =>
    cases hbc : bcastPairMMOK a.dims b.dims with
    | true => exact Out.ne_panic_of (.inl ((h1 hv hbc).imp fun _ hr => hr.1))
    | false => exact Out.ne_panic_of (.inr (h2 hv hbc))

/-- non-vacuity: `[2,2]×[2,1]`; a batch of one matrix against a batch of two (batch dim broadcast); inner-dim
    mismatch is an error; and the COUNTEREXAMPLE to the two-way statement: batch dims 2 vs 3 pass `ValidateMatMulDims`
    yet are an error (from `broadcastForMatMul`), not a panic. -/
example : validMatMul [2, 2] [2, 1] = true ∧ bcastPairMMOK [2, 2] [2, 1] = true ∧
    vMatMul (⟨[2, 2], [1, 2, 3, 4]⟩ : Tensor Int) ⟨[2, 1], [10, 100]⟩ = .ok ⟨[2, 1], [210, 430]⟩ ∧
    vMatMul (⟨[1, 1, 2], [1, 2]⟩ : Tensor Int) ⟨[2, 2, 1], [10, 100, 1, 1]⟩ = .ok ⟨[2, 1, 1], [210, 3]⟩ ∧
    validMatMul [2, 2] [3, 1] = false ∧ vMatMul (⟨[2, 2], [1, 2, 3, 4]⟩ : Tensor Int) ⟨[3, 1], [1, 2, 3]⟩ = .err ∧
    validMatMul [2, 1, 1] [3, 1, 1] = true ∧ bcastPairMMOK [2, 1, 1] [3, 1, 1] = false ∧
    vMatMul (⟨[2, 1, 1], [1, 2]⟩ : Tensor Int) ⟨[3, 1, 1], [1, 2, 3]⟩ = .err := by
  decide +kernel

theorem concatDims_pos (t0 : Tensor α) (rest : List (Tensor α)) (d : Nat) (hdim : d < t0.dims.length)
    (hwf : ∀ t ∈ t0 :: rest, t.WF) :
    ∀ x ∈ t0.dims.set d (((t0 :: rest).map (fun t => t.dims.getD d 0)).sum), 0 < x := by
  intro x hx
  have w0 := (hwf t0 (by simp)).2
  rcases List.mem_or_eq_of_mem_set hx with hx | hx
  · exact w0 x hx
  · have h0 : 0 < t0.dims.getD d 0 := by
      rw [List.getD_eq_getElem?_getD, List.getElem?_eq_getElem hdim]
      exact w0 _ (List.getElem_mem hdim)
    rw [hx, List.map_cons, List.sum_cons]
    omega

/-- **Concat**: `ok` — of the first operand's dims with `dim` replaced by the sum of the operands' sizes, well
    formed — iff `ValidateConcatTensorsDimsAlongDim` accepts; `err` otherwise (including the empty operand list, which the
    public wrapper rejects earlier). Never a panic, for every operand count, rank and size. -/
theorem vConcat_total [Scalar α] (ts : List (Tensor α)) (hwf : ∀ t ∈ ts, t.WF) (dim : Int) :
    (validConcat (ts.map (·.dims)) dim = true →
        ∃ r, vConcat ts dim = .ok r ∧ r.dims = concatDims ts dim.toNat ∧ r.WF) ∧
    (validConcat (ts.map (·.dims)) dim = false → vConcat ts dim = .err) := by
  refine ⟨fun h => ?_, gate_err⟩
  cases ts with
  | nil => exact absurd h (by simp [validConcat])
  | cons t0 rest =>
    obtain ⟨_, hdim, hagree⟩ := validConcat_shape t0 rest dim h
    obtain ⟨data, e, hlen, _⟩ := C06.concat_get t0 rest dim.toNat hdim hwf hagree
    exact ⟨_, gate_eq_ok.2 ⟨h, e⟩, rfl, hlen, concatDims_pos t0 rest _ hdim hwf⟩

theorem vConcat_never_panic [Scalar α] (ts : List (Tensor α)) (hwf : ∀ t ∈ ts, t.WF) (dim : Int) :
    vConcat ts dim ≠ .panic := by
  obtain ⟨h1, h2⟩ := vConcat_total ts hwf dim
  cases hv : validConcat (ts.map (·.dims)) dim with
  | false => exact Out.ne_panic_of (.inr (h2 hv))
  | true => exact Out.ne_panic_of (.inl ((h1 hv).imp fun _ hr => hr.1))

/-- non-vacuity: `[2,1] ++ [2,2]` along dim 1; a mismatching other dimension, a negative / too large dim and the empty
    list are errors -/
example : validConcat [[2, 1], [2, 2]] 1 = true ∧
    vConcat [(⟨[2, 1], [1, 2]⟩ : Tensor Int), ⟨[2, 2], [3, 4, 5, 6]⟩] 1 = .ok ⟨[2, 3], [1, 3, 4, 2, 5, 6]⟩ ∧
    validConcat [[2, 1], [2, 2]] 0 = false ∧
    vConcat [(⟨[2, 1], [1, 2]⟩ : Tensor Int), ⟨[2, 2], [3, 4, 5, 6]⟩] 0 = .err ∧
    vConcat [(⟨[2, 1], [1, 2]⟩ : Tensor Int), ⟨[2, 2], [3, 4, 5, 6]⟩] (-1) = .err ∧
    vConcat [(⟨[2, 1], [1, 2]⟩ : Tensor Int), ⟨[2, 2], [3, 4, 5, 6]⟩] 2 = .err ∧
    vConcat ([] : List (Tensor Int)) 0 = .err := by
  decide +kernel

/-! ## Component constructors and input validators

`Out`-valued configuration / input validators of `component/**` are two-valued (`ok` / `err`, never `panic`), and a
rejected configuration or input makes the component call return `err` with no new heap. -/

theorem ite_ne {γ : Type} {c : Prop} [Decidable c] {x y z : γ} (hx : x ≠ z) (hy : y ≠ z) :
    (if c then x else y) ≠ z := by
  split <;> assumption

section Components
variable [Scalar α]

/-- **`NewSoftmax`**: nil config → Dim 0; negative Dim → error; otherwise that Dim -/
theorem softmaxOf_total :
    softmaxOf (α := α) none = .ok (.softmax 0) ∧
    (∀ d : Int, 0 ≤ d → softmaxOf (α := α) (some d) = .ok (.softmax d.toNat)) ∧
    (∀ d : Int, d < 0 → softmaxOf (α := α) (some d) = .err) := by
  refine ⟨rfl, ?_, ?_⟩
  · intro d hd
    have : ¬ d < 0 := by omega
    simp only [softmaxOf, this, if_false]
  · intro d hd
    simp only [softmaxOf, hd, if_true]

/-- **`toValidInputs`** (all layers): exactly one, non-nil input is accepted; anything else is an error -/
theorem oneInput_total (xs : List (Option Nat)) :
    (∀ x, xs = [some x] → oneInput xs = .ok x) ∧ ((∀ x, xs ≠ [some x]) → oneInput xs = .err) := by
  constructor
  · intro x e; rw [e]; rfl
  · intro h
    unfold oneInput
    split
    · rename_i x; exact absurd rfl (h x)
    · rfl

theorem oneInput_never_panic (xs : List (Option Nat)) : oneInput xs ≠ .panic := by
  unfold oneInput
  split <;> nofun

/-- the rank a loss expects of prediction and target: CE `[batch, class]`, MSE / BCE `[batch]` -/
def lossRank : Loss → Nat
  | .ce => 2
  | _ => 1

/-- **`validateInputs`** of MSE / BCE / CE: both tensors non-nil, of the expected rank and of equal shape — `ok`;
    anything else — `err`. -/
theorem lossValid_total (H : Heap α) (l : Loss) (yp yt : Option Nat) :
    (∀ p t, yp = some p → yt = some t → (H.val p).dims.length = lossRank l → (H.val t).dims.length = lossRank l →
        (H.val p).dims = (H.val t).dims → lossValid H l yp yt = .ok (p, t)) ∧
    ((yp = none ∨ yt = none ∨ ∃ p t, yp = some p ∧ yt = some t ∧
        ¬ ((H.val p).dims.length = lossRank l ∧ (H.val t).dims.length = lossRank l ∧ (H.val p).dims = (H.val t).dims)) →
      lossValid H l yp yt = .err) := by
  constructor
  · intro p t ep et h1 h2 h3
    rw [ep, et]
    cases l <;> simp only [lossRank] at h1 h2 <;> simp only [lossValid, h2, h3, and_self, if_true]
  · intro h
    rcases h with h | h | ⟨p, t, ep, et, h⟩
    · rw [h]; cases yt <;> rfl
    · rw [h]; cases yp <;> rfl
    · rw [ep, et]
      cases l <;> simp only [lossRank] at h <;> simp only [lossValid, h, if_false]

theorem lossValid_never_panic (H : Heap α) (l : Loss) (yp yt : Option Nat) : lossValid H l yp yt ≠ .panic := by
  unfold lossValid
  split
  · exact ite_ne nofun nofun
  · nofun

/-- **initializer constructors** (`NewFull` … `NewXavierNormal`): `ok` or `err`, never a panic -/
theorem initFamily_never_panic (k : InitKind α) : initFamily k ≠ .panic := by
  cases k with
  | full v => nofun
  | uniform c | normal c => simp only [initFamily]; split <;> nofun
  | heUniform c | heNormal c =>
    cases c with
    | none => nofun
    | some fi => simp only [initFamily]; split <;> nofun
  | xavierUniform c | xavierNormal c =>
    cases c with
    | none => nofun
    | some p => simp only [initFamily]; split <;> nofun

/-- invalid initializer configurations are errors: missing (nil) He / Xavier config, non-positive fan-in / fan-out,
    empty uniform interval, non-positive standard deviation -/
theorem initFamily_errors :
    initFamily (α := α) (.heUniform none) = .err ∧ initFamily (α := α) (.heNormal none) = .err ∧
    initFamily (α := α) (.xavierUniform none) = .err ∧ initFamily (α := α) (.xavierNormal none) = .err ∧
    (∀ fi : Int, fi ≤ 0 → initFamily (α := α) (.heUniform (some fi)) = .err ∧ initFamily (α := α) (.heNormal (some fi)) = .err) ∧
    (∀ fi fo : Int, fi ≤ 0 ∨ fo ≤ 0 →
      initFamily (α := α) (.xavierUniform (some (fi, fo))) = .err ∧ initFamily (α := α) (.xavierNormal (some (fi, fo))) = .err) ∧
    (∀ lo hi : α, Scalar.lt lo hi = false → initFamily (.uniform (some (lo, hi))) = .err) ∧
    (∀ mu s : α, Scalar.gt s Scalar.zero = false → initFamily (.normal (some (mu, s))) = .err) := by
  refine ⟨rfl, rfl, rfl, rfl, ?_, ?_, ?_, ?_⟩
  · intro fi h
    constructor <;> simp only [initFamily, h, if_true]
  · intro fi fo h
    constructor <;> simp only [initFamily, h, if_true]
  · intro lo hi h
    simp [initFamily, h]
  · intro mu s h
    simp [initFamily, h]

/-- **`tensor.Full / RandU / RandN`** with their own parameter validation: whatever the raw draws (`none` = the model
    ran out of raw draws), never a panic -/
theorem vRandom_never_panic (f : Family α) (dims : List Int) (us zs : List α) :
    vRandom f dims us zs ≠ some .panic := by
  have key : ∀ (c1 c2 : Prop) (i1 : Decidable c1) (i2 : Decidable c2) (o : Option (List α)),
      (@ite _ c1 i1 (some (Out.err : Out (Tensor α))) (@ite _ c2 i2 (some .err)
        (o.map (fun d => .ok ⟨natDims dims, d⟩)))) ≠ some .panic := by
    intro c1 c2 _ _ o
    refine ite_ne nofun (ite_ne nofun ?_)
    cases o <;> nofun
  cases f <;> (unfold vRandom; exact key _ _ _ _ _)

/-- invalid dims make `Full / RandU / RandN` return an error, whatever the distribution parameters (invalid
    parameters are themselves an error, checked first) -/
theorem vRandom_err (f : Family α) (dims : List Int) (us zs : List α) (h : validInputDims dims = false) :
    vRandom f dims us zs = some .err := by
  have key : ∀ (c1 : Prop) (i1 : Decidable c1) (o : Option (Out (Tensor α))),
      (@ite _ c1 i1 (some (Out.err : Out (Tensor α))) (if (!validInputDims dims) = true then some .err else o)) = some .err := by
    intro c1 _ o
    rw [h]
    split
    · rfl
    · rfl
  cases f <;> (unfold vRandom; exact key _ _ _)

/-- every activation's `Forward`: a wrong number of inputs or a nil input is an error -/
theorem actForward_err (a : Activation α) (xs : List (Option Nat)) (H : Heap α) (h : oneInput xs = .err) :
    actForward a xs H = .err := by
  unfold actForward
  rw [hm_bind, h]
  rfl

/-- `Softmax.Forward`: an input whose rank does not exceed `Dim` is an error -/
theorem softmaxForward_rank_err (dim : Nat) (x : Nat) (H : Heap α) (h : (H.val x).dims.length ≤ dim) :
    actForward (.softmax dim : Activation α) [some x] H = .err := by
  unfold actForward
  have e : (liftOut (oneInput [some x]) : HM α Nat) H = .ok (x, H) := rfl
  rw [bind_run e]
  simp only []
  have g : (getHeap : HM α (Heap α)) H = .ok (H, H) := rfl
  rw [bind_run g]
  simp only [h, if_true]
  rfl

/-- `FC.Forward`: a wrong number of inputs, a nil input or an input that is not `[batch, data]` is an error -/
theorem fcForward_err (c : FC) (xs : List (Option Nat)) (H : Heap α) :
    (oneInput xs = .err → fcForward c xs H = .err) ∧
    (∀ x, xs = [some x] → (H.val x).dims.length ≠ 2 → fcForward c xs H = .err) := by
  constructor
  · intro h
    unfold fcForward
    rw [hm_bind, h]
    rfl
  · intro x e h
    rw [e]
    unfold fcForward
    have e1 : (liftOut (oneInput [some x]) : HM α Nat) H = .ok (x, H) := rfl
    rw [bind_run e1]
    have g : (getHeap : HM α (Heap α)) H = .ok (H, H) := rfl
    rw [bind_run g]
    simp only [h, ne_eq, not_false_eq_true, if_true]
    rfl

/-- The one modelled panic of the component layer (NOT an instance of C09 holding): an `FC` whose exported `Weight`
    field was set to nil by the caller makes `Forward` on a valid input panic (`c.Weight.UnSqueeze(1)` on a nil
    interface) — the input validator does not look at the layer's own fields. A nil `Bias`, by contrast, is an error
    (`Add` rejects a nil operand). -/
theorem fcForward_nil_weight_panics (b : Option Nat) (x : Nat) (H : Heap α) (h : (H.val x).dims.length = 2) :
    fcForward (α := α) ⟨none, b⟩ [some x] H = .panic := by
  unfold fcForward
  have e1 : (liftOut (oneInput [some x]) : HM α Nat) H = .ok (x, H) := rfl
  rw [bind_run e1]
  have g : (getHeap : HM α (Heap α)) H = .ok (H, H) := rfl
  rw [bind_run g]
  simp only [h, ne_eq, not_true_eq_false, if_false]
  rfl

/-- the three losses' `Compute`: rejected inputs (nil, wrong rank, unequal shapes) are an error -/
theorem lossCompute_err (l : Loss) (yp yt : Option Nat) (H : Heap α) (h : lossValid H l yp yt = .err) :
    lossCompute l yp yt H = .err := by
  unfold lossCompute
  have g : (getHeap : HM α (Heap α)) H = .ok (H, H) := rfl
  rw [bind_run g, hm_bind, h]
  rfl

/-- `Accuracy.Accumulate`: nil operands, operands that are not rank 1 or of unequal shape are an error -/
theorem accAccumulate_err (c : Accuracy) (yp yt : Option Nat) (H : Heap α) :
    (yp = none ∨ yt = none → accAccumulate c yp yt H = .err) ∧
    (∀ p t, yp = some p → yt = some t →
      ¬ ((H.val p).dims.length = 1 ∧ (H.val t).dims.length = 1 ∧ (H.val p).dims = (H.val t).dims) →
      accAccumulate c yp yt H = .err) := by
  have g : (getHeap : HM α (Heap α)) H = .ok (H, H) := rfl
  constructor
  · intro h
    unfold accAccumulate
    rw [bind_run g]
    rcases h with h | h
    · rw [h]; rfl
    · rw [h]; cases yp <;> rfl
  · intro p t ep et h
    rw [ep, et]
    unfold accAccumulate
    rw [bind_run g]
    simp only [h, if_false]
    rfl

/-- non-vacuity (kernel-checked on `Int`): configuration and input validators on concrete data -/
example : softmaxOf (α := Int) (some (-1)) = .err := softmaxOf_total.2.2 (-1) (by decide)

example : oneInput [] = .err ∧ oneInput [none] = .err ∧
    oneInput [some 0, some 1] = .err ∧ oneInput [some 3] = .ok 3 ∧
    lossValid (#[⟨⟨[2], [1, 2]⟩, {}⟩, ⟨⟨[3], [1, 2, 3]⟩, {}⟩] : Heap Int) .mse (some 0) (some 1) = .err ∧
    lossValid (#[⟨⟨[2], [1, 2]⟩, {}⟩, ⟨⟨[3], [1, 2, 3]⟩, {}⟩] : Heap Int) .mse (some 0) (some 0) = .ok (0, 0) ∧
    lossValid (#[⟨⟨[2], [1, 2]⟩, {}⟩, ⟨⟨[3], [1, 2, 3]⟩, {}⟩] : Heap Int) .ce (some 0) (some 0) = .err ∧
    lossValid (#[⟨⟨[2], [1, 2]⟩, {}⟩] : Heap Int) .bce (some 0) none = .err := by
  decide +kernel

end Components

end C09
end Qeep
