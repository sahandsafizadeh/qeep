import QeepProofs.Heap
/-!
# C10 — tensors behave as immutable values decoupled from caller-owned slices

In the Model every tensor is a heap node; a public call is a heap computation. `Frame m` says: when `m`
succeeds the new heap *extends* the old one — every existing node keeps its dims, its data AND its context
(gradient, tracking flags, back edges). So no operation changes the shape or elements of an existing tensor,
assigns a gradient, or changes tracking. Only `backprop` and `resetCtx` write contexts, and they never write
values.

Caller-owned slices: the Model's operations take their `dims` / `index` / `data` / tensor-list arguments as
*values* and every `Rule` stores its own copy, so "mutating the caller's slice later changes nothing" holds in
the Model by construction; that the Go code behaves like this Model (it copies on the way in and out) is what
the mutation programs of the correspondence run check (`gen/total.py: gen_C10`).
-/

namespace Qeep
namespace C10

variable {α : Type} [Scalar α]

/-- **No public forward operation changes any existing tensor** (value or context): all of them only allocate. -/
theorem forward_ops_only_allocate :
    (∀ x i, Frame (hSlice (α := α) x i)) ∧ (∀ x i p, Frame (hPatch (α := α) x i p)) ∧ (∀ x, Frame (hTranspose (α := α) x)) ∧
    (∀ x s, Frame (hReshape (α := α) x s)) ∧ (∀ x d, Frame (hUnSqueeze (α := α) x d)) ∧ (∀ x d, Frame (hSqueeze (α := α) x d)) ∧
    (∀ x d, Frame (hFlatten (α := α) x d)) ∧ (∀ x s, Frame (hBroadcast (α := α) x s)) ∧ (∀ r x d, Frame (hAlong (α := α) r x d)) ∧
    (∀ x (a : α), Frame (hScale x a)) ∧ (∀ x (a : α), Frame (hPow x a)) ∧ (∀ f x, Frame (hUnary (α := α) f x)) ∧
    (∀ c a b, Frame (hCmp (α := α) c a b)) ∧ (∀ o a b, Frame (hArith (α := α) o a b)) ∧ (∀ a b, Frame (hDot (α := α) a b)) ∧
    (∀ a b, Frame (hMatMul (α := α) a b)) ∧ (∀ xs d, Frame (hConcat (α := α) xs d)) ∧ (∀ v b, Frame (hLeaf (α := α) v b)) :=
  ⟨frame_hSlice, frame_hPatch, frame_hTranspose, frame_hReshape, frame_hUnSqueeze, frame_hSqueeze, frame_hFlatten,
   frame_hBroadcast, frame_hAlong, frame_hScale, frame_hPow, frame_hUnary, frame_hCmp, frame_hArith, frame_hDot,
   frame_hMatMul, frame_hConcat, frame_hLeaf⟩

/-- the same for the component entry points: activations, losses, the FC layer, the accuracy metric and the
    optimizer step (the previous weight tensor and its gradient are left exactly as they were) -/
theorem components_only_allocate :
    (∀ (a : Activation α) xs, Frame (actForward a xs)) ∧ (∀ l yp yt, Frame (lossCompute (α := α) l yp yt)) ∧
    (∀ c xs, Frame (fcForward (α := α) c xs)) ∧ (∀ (lr : α) w, Frame (sgdUpdate lr w)) ∧
    (∀ c yp yt, Frame (accAccumulate (α := α) c yp yt)) :=
  ⟨frame_actForward, frame_lossCompute, frame_fcForward, frame_sgdUpdate, frame_accAccumulate⟩

/-- what `Frame` gives for an existing tensor `n`: same dims, same elements, same gradient, same flags -/
theorem frame_unfold {β : Type} {m : HM α β} (hm : Frame m) {H H' : Heap α} {r : β} (h : m H = .ok (r, H'))
    {n : Nat} (hn : n < H.size) :
    (H'.val n).dims = (H.val n).dims ∧ (H'.val n).data = (H.val n).data ∧ H'.grad n = H.grad n ∧
    H'.tracked n = H.tracked n ∧ H'.dirty n = H.dirty n := by
  have e := hm H r H' h
  rw [e.val hn]
  exact ⟨rfl, rfl, e.grad hn, e.tracked hn, e.dirty hn⟩

/-- **BackPropagate changes no tensor's shape or elements**, whatever its outcome -/
theorem backprop_changes_no_value (bm : BMode) (H : Heap α) (root n : Nat) :
    (backprop bm H root).heap.val n = H.val n := (backprop_val bm H root n).1

/-- **ResetGradContext changes no value and no other tensor's context** -/
theorem reset_changes_only_own_context (H : Heap α) (n : Nat) (b : Bool) :
    (∀ m, (resetCtx H n b).val m = H.val m) ∧ (∀ m, m ≠ n → (resetCtx H n b).ctx m = H.ctx m) :=
  ⟨(resetCtx_frame H n b).2.1, (resetCtx_frame H n b).2.2⟩

/-- non-vacuity: a successful Scale on a one-node heap leaves node 0 as it was and allocates node 1 -/
example : ∃ r H', (hScale 0 (2 : Rat) : HM Rat Nat) #[⟨⟨[2], [1, 2]⟩, { tracked := true }⟩] = .ok (r, H') ∧
    H'.val 0 = ⟨[2], [1, 2]⟩ ∧ r = 1 := by
  refine ⟨1, _, rfl, ?_, rfl⟩
  decide

end C10
end Qeep
