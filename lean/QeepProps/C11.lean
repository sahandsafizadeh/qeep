import QeepProps.C07
import QeepProps.C17
/-!
# C11 — a training loop follows the gradient-descent trajectory of its loss (state-machine half)

Proved (generic scalar): what one optimisation step does to the tracking state machine, for every weight shape. `Update` is
taken apart once (`sgdUpdate_runs`, `sgdUpdate_nodes`); the tensor it stores behind the pointer is spent, untracked, has no
gradient and no back edges (`sgd_result_is_spent`), so if `ResetGradContext(true)` is omitted the next `Update` of that
weight returns an error and replaces nothing (`missing_reset_is_reported`; a forward pass from it is untracked:
`C08.op1_tracked_iff`, so back-propagation from the next loss changes nothing: `C08.bp_untracked_root_noop`); after
`ResetGradContext(true)` it is a fresh tracked leaf with the same value (`reset_makes_fresh_leaf`). The numeric step itself
is `C17.sgd_update` (`w − lr·g` element-wise, same shape).

That the composition forward ∘ loss ∘ back-propagation ∘ update follows `w ← w − lr·∇L(w)` is proved for the FC models in
`C11z`/`C11w` (one layer), `C11r`/`C11p` (layer and CE loss), `C11u`/`C11s` (two layers) and `C11o` (the step direction is
the Mathlib derivative of the loss); multi-step training programs are also covered by the correspondence run.
-/
set_option linter.unusedSectionVars false

namespace Qeep
namespace C11

variable {α : Type} [Scalar α]

theorem dirty_of_ctx {H : Heap α} {n : Nat} (h : H.ctx n = dirtyCtx) : H.dirty n = true := by
  unfold Heap.dirty; rw [h]; rfl

/-- `Update` is three operations in a row: `g := w.Gradient()` (a new spent node), `δ := g.Scale(lr)`, `w.Sub(δ)` -/
theorem sgdUpdate_runs {lr : α} {H H' : Heap α} {w r : Nat} (h : sgdUpdate lr (some w) H = .ok (r, H')) :
    ∃ g H1 H2, H.grad w = some g ∧ w < H.size ∧
      hGradNode w H = .ok (some H.size, H1) ∧ H1.size = H.size + 1 ∧ Extends H H1 ∧ H1.ctx H.size = dirtyCtx ∧
      hScale H.size lr H1 = .ok (H.size + 1, H2) ∧ hArith .sub w (H.size + 1) H2 = .ok (r, H') := by
  cases hg : H.grad w with
  | none => rw [(C17.sgd_errors lr H).2 w hg] at h; cases h
  | some g =>
    have hw : w < H.size := by
      apply Classical.byContradiction
      intro hn
      have : H[w]? = none := Array.getElem?_eq_none (by omega)
      simp [Heap.grad, Heap.ctx, this] at hg
    have h1 : hGradNode w H = .ok (some H.size, H.push ⟨g, dirtyCtx⟩) := by
      simp [hGradNode, hm_bind, getHeap, hg, Out.bind, alloc, pure, StateT.pure]
    obtain ⟨s1, c1, x1⟩ := push_node H g dirtyCtx
    unfold sgdUpdate at h
    simp only [] at h
    rw [bind_run h1] at h
    simp only [] at h
    obtain ⟨d, H2, h3, h4⟩ := bind_ok h
    obtain ⟨ed, _⟩ := hScale_node h3
    rw [s1] at ed
    subst ed
    exact ⟨g, _, H2, rfl, hw, h1, s1, x1, c1, h3, h4⟩

/-- **what `Update` leaves in the heap**: five new tensors — the gradient handed out, `lr·g`, the two `Broadcast` copies
    inside `Sub`, the result. All are spent and isolated except the copy of `w`, whose context is formed from the flags of `w`. -/
theorem sgdUpdate_nodes {lr : α} {H H' : Heap α} {w r : Nat} (h : sgdUpdate lr (some w) H = .ok (r, H')) :
    r = H.size + 4 ∧ H'.size = H.size + 5 ∧ Extends H H' ∧
      H'.ctx H.size = dirtyCtx ∧ H'.ctx (H.size + 1) = dirtyCtx ∧
      H'.ctx (H.size + 2) = mkCtx H [w] [⟨w, .bcastX w (H.size + 2)⟩] ∧
      H'.ctx (H.size + 3) = dirtyCtx ∧ H'.ctx (H.size + 4) = dirtyCtx := by
  obtain ⟨g, H1, H2, _, hw, _, s1, x1, c1, h3, h4⟩ := sgdUpdate_runs h
  obtain ⟨_, s2, x2, c2⟩ := hScale_node h3
  rw [s1] at s2 c2
  -- a spent operand makes the result spent
  rw [mkCtx_spent _ [H.size] _ ⟨_, List.mem_singleton_self _, dirty_of_ctx c1⟩] at c2
  obtain ⟨Ha, Hb, edges, xa, sa, xb, sb, xr, sr, er, ca, cb, cr⟩ := hArith_nodes h4
  have e2 : H2.size = H.size + 2 := s2
  have e3 : H2.size + 1 = H.size + 3 := by omega
  have e4 : r = H.size + 4 := by omega
  have xH : Extends H2 H' := xa.trans (xb.trans xr)
  have k1 : H'.ctx (H.size + 1) = dirtyCtx := by rw [xH.ctx (by omega), c2]
  rw [e3] at cb cr
  rw [e2] at ca cr
  rw [e4] at cr
  have k3 : H'.ctx (H.size + 3) = dirtyCtx := by
    rw [cb]
    exact mkCtx_spent Ha _ _ ⟨H.size + 1, List.mem_singleton_self _, dirty_of_ctx (by rw [xa.ctx (by omega), c2])⟩
  refine ⟨e4, by omega, (x1.trans x2).trans xH, ?_, k1, ?_, k3, ?_⟩
  · rw [(x2.trans xH).ctx (by omega), c1]
  · rw [ca]
    have e : H2.ctx w = H.ctx w := (x1.trans x2).ctx hw
    simp [mkCtx, Heap.dirty, Heap.tracked, e]
  · rw [cr]
    exact mkCtx_spent Hb _ _ ⟨H.size + 3, by simp, dirty_of_ctx (by rw [← xr.ctx (by omega), k3])⟩

theorem sgdUpdate_reach {bm : BMode} {lr : α} {H H' : Heap α} {w r : Nat} (hR : Reach bm H)
    (h : sgdUpdate lr (some w) H = .ok (r, H')) : Reach bm H' := by
  obtain ⟨g, H1, H2, _, _, h1, s1, _, _, h3, h4⟩ := sgdUpdate_runs h
  obtain ⟨_, s2, _⟩ := hScale_node h3
  exact Reach.arith (Reach.scale (Reach.gradNode hR h1) (by omega) h3) (by omega) (by omega) h4

/-- `Update` of a SPENT weight (every weight is, after the back-propagation that gave it its gradient) creates no back
    edge: the new weight cannot reach the old graph and nothing created by the step points at anything -/
theorem sgdUpdate_no_edges {lr : α} {H H' : Heap α} {w r : Nat} (hd : H.dirty w = true)
    (h : sgdUpdate lr (some w) H = .ok (r, H')) : ∀ n, H.size ≤ n → (H'.ctx n).edges = [] := by
  obtain ⟨_, s, _, c0, c1, c2, c3, c4⟩ := sgdUpdate_nodes h
  rw [mkCtx_spent H [w] _ ⟨w, List.mem_singleton_self _, hd⟩] at c2
  intro n hn
  by_cases h5 : n < H.size + 5
  · have hcase : n = H.size ∨ n = H.size + 1 ∨ n = H.size + 2 ∨ n = H.size + 3 ∨ n = H.size + 4 := by omega
    rcases hcase with rfl | rfl | rfl | rfl | rfl
    · rw [c0]; rfl
    · rw [c1]; rfl
    · rw [c2]; rfl
    · rw [c3]; rfl
    · rw [c4]; rfl
  · rw [ctx_of_size_le H' (by omega)]

/-- **the replacement weight is spent**: untracked, no gradient, no back edges -/
theorem sgd_result_is_spent (lr : α) (H H' : Heap α) (w r : Nat) (hw : w < H.size)
    (h : sgdUpdate lr (some w) H = .ok (r, H')) : H'.ctx r = dirtyCtx := by
  obtain ⟨er, _, _, _, _, _, _, cr⟩ := sgdUpdate_nodes h
  rw [er, cr]

/-- **omitting the reset is reported**: the next `Update` of the replaced weight fails (it has no gradient) -/
theorem missing_reset_is_reported (lr lr' : α) (H H' : Heap α) (w r : Nat) (hw : w < H.size)
    (h : sgdUpdate lr (some w) H = .ok (r, H')) : sgdUpdate lr' (some r) H' = .err := by
  have := sgd_result_is_spent lr H H' w r hw h
  exact (C17.sgd_errors lr' H').2 r (by simp [Heap.grad, this, dirtyCtx])

/-- **after `ResetGradContext(true)`** the replaced weight is a fresh tracked leaf with the same value -/
theorem reset_makes_fresh_leaf (H' : Heap α) (r : Nat) (hr : r < H'.size) :
    (resetCtx H' r true).ctx r = { tracked := true, dirty := false, grad := none, edges := [] } ∧
    (resetCtx H' r true).val r = H'.val r :=
  ⟨(C08.reset_is_fresh_leaf H' r true hr).1, (C08.reset_is_fresh_leaf H' r true hr).2.2 r⟩

end C11
end Qeep
