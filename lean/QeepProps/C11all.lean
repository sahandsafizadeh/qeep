import QeepProps.C11x
import QeepProps.C11z
import QeepProps.C11w
import QeepProps.C11v
import QeepProps.C11u
import QeepProps.C11t
import QeepProps.C11s
import QeepProps.C11r
import QeepProps.C11p
import QeepProps.C11o
/-! Every module with a theorem of property C11; the check of C11 builds this module (`lake build QeepProps.C11all`) and
then prints the axioms of each theorem (`work/audit_C11.lean`). -/
