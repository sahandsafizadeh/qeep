import QeepProps.C16w
import QeepProps.C16u
import QeepProps.C15u
import QeepProps.C15y
import QeepProofs.Block
/-!
# C11 — the graph of the two-layer network FC → Sigmoid → FC

`mlp_forward_graph`: the forward run of the three components on a reachable heap, once: the twenty-five tensors it appends
(`MLPGraph`: the two layer graphs and the activation's seven tensors, all read in the final heap), and where every back edge
of the final heap comes from (`MLPGraph.edge_cases`). From the latter the side conditions of the component theorems — nothing
outside a component consumes its internal tensors — are arithmetic (`sole_fc1`, `sole_sg`, `sole_x2`, `sole_fc2`).
-/
set_option linter.unusedSectionVars false

namespace Qeep
namespace C11n
open RealScalar C01 C01x C01z C01w C01q C16x C16z C16w C16u C15x C15z C15u

section flags
variable {α : Type} [Scalar α] {H H' H1 : Heap α} {n : Nat}

theorem tracked_congr (h : H'.ctx n = H.ctx n) : H'.tracked n = H.tracked n := by simp only [Heap.tracked, h]

theorem dirty_congr (h : H'.ctx n = H.ctx n) : H'.dirty n = H.dirty n := by simp only [Heap.dirty, h]

theorem live_after {bm : BMode} (hR : Reach bm H) (e : Extends H H') (l : Live H n) :
    H'.tracked n = true ∧ H'.dirty n = false ∧ H'.grad n = none :=
  ⟨by rw [e.tracked l.1]; exact l.2.1, by rw [e.dirty l.1]; exact l.2.2,
    by rw [e.grad l.1]; exact reach_clean_nograd hR n l.2.2⟩

/-- what `C11x.train_step_law` asks about a weight, from facts about it in the heap before the forward pass -/
theorem weight_after {bm : BMode} {l w : Nat} {g : Tensor α} (xe : Extends H H1) (hw : w < H.size)
    (hg : (backprop bm H1 l).heap.grad w = some g) (ww : (H.val w).WF) (wg : g.WF) (hd : g.dims = (H.val w).dims) :
    w < H1.size ∧ (backprop bm H1 l).heap.grad w = some g ∧ (H1.val w).WF ∧ g.WF ∧ g.dims = (H1.val w).dims := by
  rw [xe.val hw]; exact ⟨Nat.lt_of_lt_of_le hw xe.1, hg, ww, wg, hd⟩

/-- a training step leaves an untracked old tensor as it was: the walk visits tracked tensors only -/
theorem untouched {H2 : Heap α} {l : Nat} (xe : Extends H H1)
    (old : ∀ z, z < H1.size → H2.val z = H1.val z ∧ (z ∉ backwardOrder H1 l → H2.ctx z = H1.ctx z))
    {z : Nat} (hz : z < H.size) (uz : H.tracked z = false) : H2.ctx z = H.ctx z ∧ H2.val z = H.val z := by
  obtain ⟨ov, oc⟩ := old z (Nat.lt_of_lt_of_le hz xe.1)
  refine ⟨(oc fun hm => ?_).trans (xe.ctx hz), ov.trans (xe.val hz)⟩
  have ht := mem_order_tracked hm
  rw [xe.tracked hz, uz] at ht; cases ht

theorem mem_order_of_grad {bm : BMode} {root : Nat} {g : Tensor α} (hdag : HeapDag H) (h0 : H.grad n = none)
    (h1 : (backprop bm H root).heap.grad n = some g) : n ∈ backwardOrder H root := by
  apply Classical.byContradiction
  intro hnot
  simp only [Heap.grad, C20.backprop_footprint bm H root hdag n hnot] at h1 h0
  rw [h0] at h1; cases h1

end flags

/-- a back edge of the `i`-th tensor of a layer graph points at a parameter, at the input or at an earlier tensor of the graph -/
theorem fcEdges_target {w b x k i : Nat} (hi : i ≤ 8) {e : Edge ℝ} (he : e ∈ fcEdges w b x k i) :
    e.target = w ∨ e.target = b ∨ e.target = x ∨ (k ≤ e.target ∧ e.target < k + i) := by
  interval_cases i <;> simp only [fcEdges, List.mem_cons, List.not_mem_nil, or_false] at he <;> rcases he with rfl | rfl <;>
    dsimp only <;> omega

theorem sg_lt (s : Nat) {i : Nat} (h : i < 7) : s + 9 + i < s + 16 := by omega

/-- **the twenty-five tensors of FC(D→O) → Sigmoid → FC(O→P)** on a heap `H`, read in the final heap `H3`:
    `H.size + i`, `i ≤ 8`, the first layer; `H.size + 9 + i`, `i ≤ 6`, the activation; `H.size + 16 + i`, `i ≤ 8`, the second
    layer -/
structure MLPGraph (bm : BMode) (H H1 H2 H3 : Heap ℝ) (w1 b1 w2 b2 x N D O P : Nat) : Prop where
  r1 : fcForward ⟨some w1, some b1⟩ [some x] H = .ok (H.size + 8, H1)
  r2 : actForward Activation.sigmoid [some (H.size + 8)] H1 = .ok (H.size + 9 + 6, H2)
  r3 : fcForward ⟨some w2, some b2⟩ [some (H.size + 9 + 6)] H2 = .ok (H.size + 16 + 8, H3)
  ext : Extends H H3
  size : H3.size = H.size + 25
  reach : Reach bm H3
  g1 : FCGraph H3 w1 b1 x H.size N D O (fun o => (H.val w1).el [o]) (fun o => (H.val b1).el [o])
    (fun n d => (H.val x).el [n, d])
  g3 : FCGraph H3 w2 b2 (H.size + 9 + 6) (H.size + 16) N O P (fun p => (H.val w2).el [p]) (fun p => (H.val b2).el [p])
    (fun n o => (H2.val (H.size + 9 + 6)).el [n, o])
  vy : H3.val (H.size + 8) = H1.val (H.size + 8)
  va : H2.val (H.size + 9 + 6) = (H1.val (H.size + 8)).map sig
  v2 : H3.val (H.size + 9 + 2) = (H3.val (H.size + 8)).map (fun a => Real.exp (-a))
  v3 : H3.val (H.size + 9 + 3) = H3.val (H.size + 9)
  v4 : H3.val (H.size + 9 + 4) = H3.val (H.size + 9 + 2)
  v5 : H3.val (H.size + 9 + 5) = (H3.val (H.size + 8)).map (fun a => 1 + Real.exp (-a))
  sg : ∀ i, i ≤ 6 → H3.ctx (H.size + 9 + i) = liveCtx (sgEdges (H.size + 8) (H.size + 9) i)
  fresh : ∀ n, H.size ≤ n → H3.grad n = none
  ly1 : Live H3 (H.size + 8)
  la : Live H3 (H.size + 9 + 6)
  ly3 : Live H3 (H.size + 16 + 8)

theorem mlp_forward_graph {bm : BMode} {H : Heap ℝ} {w1 b1 w2 b2 x N D O P : Nat} (hR : Reach bm H)
    (lw1 : Live H w1) (lb1 : Live H b1) (lw2 : Live H w2) (lb2 : Live H b2) (hx : x < H.size) (cx : H.dirty x = false)
    (ww1 : (H.val w1).WF) (wb1 : (H.val b1).WF) (ww2 : (H.val w2).WF) (wb2 : (H.val b2).WF) (wx : (H.val x).WF)
    (dw1 : (H.val w1).dims = [O]) (db1 : (H.val b1).dims = [O]) (dw2 : (H.val w2).dims = [P]) (db2 : (H.val b2).dims = [P])
    (dx : (H.val x).dims = [N, D]) :
    ∃ H1 H2 H3, MLPGraph bm H H1 H2 H3 w1 b1 w2 b2 x N D O P := by
  have hw1 := lw1.1; have hb1 := lb1.1; have hw2 := lw2.1; have hb2 := lb2.1
  obtain ⟨H1, r1, x1, s1, g1⟩ := fc_forward_graph N D O w1 b1 x H hw1 hb1 hx _ _ _
    (is1_self _ ww1 O dw1) (is1_self _ wb1 O db1) (is2_self _ wx N D dx)
  have R1 : Reach bm H1 := reach_fcForward hR hw1 hb1 hx r1
  have ly1 : Live H1 (H.size + 8) := fc_result_live g1 (by omega) (lw1.ext x1).2.1 (lb1.ext x1).2.1 (lw1.ext x1).2.2
    (lb1.ext x1).2.2 (by rw [x1.dirty hx]; exact cx)
  obtain ⟨a, H2, r2, x2, R2, ea, s2, _, v2, v3, v4, v5, va, c0, c1, c2, c3, c4, c5, c6⟩ :=
    sigmoid_full bm H1 (H.size + 8) R1 g1.y.wf ly1
  subst ea
  rw [s1] at r2 s2 v2 v3 v4 v5 va c0 c1 c2 c3 c4 c5 c6
  have hc : ∀ i, i ≤ 6 → H2.ctx (H.size + 9 + i) = liveCtx (sgEdges (H.size + 8) (H.size + 9) i)
    | 0, _ => c0 | 1, _ => c1 | 2, _ => c2 | 3, _ => c3 | 4, _ => c4 | 5, _ => c5 | 6, _ => c6
    | i + 7, h => absurd h (by omega)
  have k3 : H2.size = H.size + 16 := by omega
  have la2 : H.size + 9 + 6 < H2.size := k3 ▸ sg_lt _ (by decide)
  have la : Live H2 (H.size + 9 + 6) :=
    ⟨la2, (liveCtx_grad H2 _ _ c6).2.1, by simp only [Heap.dirty, c6, liveCtx]⟩
  have x12 : Extends H H2 := x1.trans x2
  have hw2' : w2 < H2.size := Nat.lt_of_lt_of_le hw2 x12.1
  have hb2' : b2 < H2.size := Nat.lt_of_lt_of_le hb2 x12.1
  obtain ⟨H3, r3, x3, s3, g3⟩ := fc_forward_graph N O P w2 b2 (H.size + 9 + 6) H2 hw2' hb2' la2 _ _ _
    (by rw [x12.val hw2]; exact is1_self _ ww2 P dw2) (by rw [x12.val hb2]; exact is1_self _ wb2 P db2)
    (is2_self _ (by rw [va]; exact map_wf _ _ g1.y.wf) N O (by rw [va]; exact g1.y.dims))
  have R3 : Reach bm H3 := reach_fcForward R2 hw2' hb2' la2 r3
  rw [k3] at r3 s3 g3
  have xe : Extends H H3 := x12.trans x3
  have val3 : ∀ n, n < H.size + 16 → H3.val n = H2.val n := fun n hn => x3.val (k3 ▸ hn)
  have l8 : H.size + 8 < H.size + 16 := Nat.add_lt_add_left (by decide) _
  have vy : H3.val (H.size + 8) = H1.val (H.size + 8) := by rw [val3 _ l8, x2.val (by omega)]
  obtain ⟨tw2, cw2, _⟩ := live_after hR xe lw2
  obtain ⟨tb2, cb2, _⟩ := live_after hR xe lb2
  have la3 := la.ext x3
  refine ⟨H1, H2, H3, r1, r2, r3, xe, by omega, R3, FCGraph.ext g1 (x2.trans x3) hw1 hb1 hx (by omega), g3, vy, va,
    by rw [val3 _ (sg_lt _ (by decide)), vy]; exact v2,
    by rw [val3 _ (sg_lt _ (by decide)), val3 _ (Nat.add_lt_add_left (by decide) _)]; exact v3,
    by rw [val3 _ (sg_lt _ (by decide)), val3 _ (sg_lt _ (by decide))]; exact v4,
    by rw [val3 _ (sg_lt _ (by decide)), vy]; exact v5,
    fun i hi => by rw [x3.ctx (k3 ▸ sg_lt _ (Nat.lt_succ_of_le hi))]; exact hc i hi, ?_, ly1.ext (x2.trans x3), la3,
    fc_result_live g3 (by omega) tw2 tb2 cw2 cb2 la3.2.2⟩
  intro n hn
  by_cases h2 : n < H.size + 9
  · rw [(x2.trans x3).grad (by omega)]; exact (fresh_fcForward _ _ H _ H1 r1).2 n hn
  · by_cases h3 : n < H.size + 16
    · rw [x3.grad (by omega)]; exact (fresh_actForward _ _ H1 _ H2 r2).2 n (by omega)
    · exact (fresh_fcForward _ _ H2 _ H3 r3).2 n (by omega)

namespace MLPGraph
variable {bm : BMode} {H H1 H2 H3 : Heap ℝ} {w1 b1 w2 b2 x N D O P : Nat}

theorem sig_el (M : MLPGraph bm H H1 H2 H3 w1 b1 w2 b2 x N D O P) (n o : Nat) (hn : n < N) (ho : o < O) :
    (H2.val (H.size + 9 + 6)).el [n, o] = sig ((H1.val (H.size + 8)).el [n, o]) := by
  rw [M.va]
  exact C14y.map_el sig _ (M.vy ▸ M.g1.y.wf) (by rw [← M.vy, M.g1.y.dims]; exact valid2 hn ho)

/-- **where a back edge of the final heap comes from**: the old heap, or one of the three component graphs -/
theorem edge_cases (M : MLPGraph bm H H1 H2 H3 w1 b1 w2 b2 x N D O P) (v : Nat) (e : Edge ℝ)
    (he : e ∈ (H3.ctx v).edges) :
    (v < H.size ∧ e ∈ (H.ctx v).edges) ∨ (∃ i, i ≤ 8 ∧ v = H.size + i ∧ e ∈ fcEdges w1 b1 x H.size i) ∨
    (∃ i, i ≤ 6 ∧ v = H.size + 9 + i ∧ e ∈ sgEdges (H.size + 8) (H.size + 9) i) ∨
    (∃ i, i ≤ 8 ∧ v = H.size + 16 + i ∧ e ∈ fcEdges w2 b2 (H.size + 9 + 6) (H.size + 16) i) := by
  by_cases h1 : v < H.size
  · left; rw [M.ext.ctx h1] at he; exact ⟨h1, he⟩
  by_cases h2 : v < H.size + 9
  · obtain ⟨i, rfl⟩ : ∃ i, v = H.size + i := ⟨v - H.size, by omega⟩
    exact Or.inr (Or.inl ⟨i, by omega, rfl, fc_edges_sub M.g1 i (by omega) e he⟩)
  by_cases h3 : v < H.size + 16
  · obtain ⟨i, rfl⟩ : ∃ i, v = H.size + 9 + i := ⟨v - (H.size + 9), by omega⟩
    rw [M.sg i (by omega)] at he
    exact Or.inr (Or.inr (Or.inl ⟨i, by omega, rfl, he⟩))
  by_cases h4 : v < H.size + 25
  · obtain ⟨i, rfl⟩ : ∃ i, v = H.size + 16 + i := ⟨v - (H.size + 16), by omega⟩
    exact Or.inr (Or.inr (Or.inr ⟨i, by omega, rfl, fc_edges_sub M.g3 i (by omega) e he⟩))
  · rw [C16z.ctx_beyond H3 v (by rw [M.size]; omega)] at he; cases he

/-- the same as bounds on the target: a back edge of a new tensor stays inside its component or goes to the component's
    parameters and input -/
theorem foot (M : MLPGraph bm H H1 H2 H3 w1 b1 w2 b2 x N D O P) (v : Nat) (e : Edge ℝ) (he : e ∈ (H3.ctx v).edges) :
    (v < H.size ∧ e ∈ (H.ctx v).edges) ∨
    (H.size ≤ v ∧ v < H.size + 9 ∧ (e.target = w1 ∨ e.target = b1 ∨ e.target = x ∨ (H.size ≤ e.target ∧ e.target < v))) ∨
    (H.size + 9 ≤ v ∧ v < H.size + 16 ∧ H.size + 8 ≤ e.target ∧ e.target < v) ∨
    (H.size + 16 ≤ v ∧ v < H.size + 25 ∧ (e.target = w2 ∨ e.target = b2 ∨ (H.size + 15 ≤ e.target ∧ e.target < v))) := by
  rcases M.edge_cases v e he with h | ⟨i, hi, rfl, hm⟩ | ⟨i, hi, rfl, hm⟩ | ⟨i, hi, rfl, hm⟩
  · exact Or.inl h
  · have := C11n.fcEdges_target hi hm
    exact Or.inr (Or.inl ⟨by omega, by omega, this⟩)
  · have := sgEdges_target hi hm
    exact Or.inr (Or.inr (Or.inl (by omega)))
  · have := C11n.fcEdges_target hi hm
    exact Or.inr (Or.inr (Or.inr ⟨by omega, by omega, by omega⟩))

section sole
variable (M : MLPGraph bm H H1 H2 H3 w1 b1 w2 b2 x N D O P) (hdag : HeapDag H)
  (hw1 : w1 < H.size) (hb1 : b1 < H.size) (hw2 : w2 < H.size) (hb2 : b2 < H.size) (hx : x < H.size)
include M hdag hw1 hb1 hw2 hb2 hx

/-- nothing outside the first layer consumes its parameters or its internal tensors -/
theorem sole_fc1 (h13 : w1 ≠ w2) (h14 : w1 ≠ b2) (h23 : b1 ≠ w2) (h24 : b1 ≠ b2)
    (hsole : ∀ v, ∀ e ∈ (H.ctx v).edges, e.target ≠ w1 ∧ e.target ≠ b1) (v : Nat)
    (hv : v < H.size ∨ H.size + 8 < v) (e : Edge ℝ) (he : e ∈ (H3.ctx v).edges) :
    e.target ≠ w1 ∧ e.target ≠ b1 ∧ ¬ (H.size ≤ e.target ∧ e.target ≤ H.size + 7) := by
  rcases M.foot v e he with ⟨h, hm⟩ | h | h | h
  · have := hdag v e hm
    exact ⟨(hsole v e hm).1, (hsole v e hm).2, by omega⟩
  all_goals omega

/-- nothing outside the activation consumes its input or its internal tensors -/
theorem sole_sg (v : Nat) (hv : v < H.size + 9 ∨ H.size + 9 + 6 < v) (e : Edge ℝ) (he : e ∈ (H3.ctx v).edges) :
    e.target ≠ H.size + 8 ∧ ¬ (H.size + 9 ≤ e.target ∧ e.target ≤ H.size + 9 + 5) := by
  rcases M.foot v e he with ⟨h, hm⟩ | h | h | h
  · have := hdag v e hm; omega
  all_goals omega

/-- nothing outside the second layer consumes its input or its internal tensors -/
theorem sole_x2 (v : Nat) (hv : v < H.size + 16 ∨ H.size + 16 + 8 < v) (e : Edge ℝ) (he : e ∈ (H3.ctx v).edges) :
    e.target ≠ H.size + 9 + 6 ∧ ¬ (H.size + 16 ≤ e.target ∧ e.target ≤ H.size + 16 + 7) := by
  rcases M.foot v e he with ⟨h, hm⟩ | h | h | h
  · have := hdag v e hm; omega
  all_goals omega

/-- nothing outside the second layer consumes its parameters or its internal tensors -/
theorem sole_fc2 (h13 : w1 ≠ w2) (h14 : w1 ≠ b2) (h23 : b1 ≠ w2) (h24 : b1 ≠ b2) (hxw : x ≠ w2) (hxb : x ≠ b2)
    (hsole : ∀ v, ∀ e ∈ (H.ctx v).edges, e.target ≠ w2 ∧ e.target ≠ b2) (v : Nat)
    (hv : v < H.size + 16 ∨ H.size + 16 + 8 < v) (e : Edge ℝ) (he : e ∈ (H3.ctx v).edges) :
    e.target ≠ w2 ∧ e.target ≠ b2 ∧ ¬ (H.size + 16 ≤ e.target ∧ e.target ≤ H.size + 16 + 7) := by
  rcases M.foot v e he with ⟨h, hm⟩ | h | h | h
  · have := hdag v e hm
    exact ⟨(hsole v e hm).1, (hsole v e hm).2, by omega⟩
  all_goals omega

end sole

end MLPGraph

end C11n
end Qeep
