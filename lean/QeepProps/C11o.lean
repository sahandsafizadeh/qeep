import QeepProps.C11p
import Mathlib.Analysis.SpecialFunctions.Log.Deriv
/-!
# C11 — `gdStep` IS gradient descent on the loss: the step direction is the Mathlib derivative of the composite loss

The loss of the network `FC → CE` as a function of the parameters,

    ceLoss N D O T X W B = −(1/N) · Σ_{n<N} Σ_{o<O} T n o · log (W o · Σ_d X n d + B o),

is the CE formula (`C13x.ce_formula_deriv`) applied to the layer's formula (`C16x.fcReal`). `ceLoss_deriv_W` / `ceLoss_deriv_B`:
its partial derivatives with respect to `W o`, `B o` (Mathlib `HasDerivAt`, the other parameters fixed) are

    Σ_n (−1/N)·(T n o / y n o) · Σ_d X n d        and        Σ_n (−1/N)·(T n o / y n o),        y = fcReal D W B X.

`gdStep_is_gradient_descent`: wherever every output `y n o` is strictly inside the clip band of CE (there the code's clip is
the identity and `ceGrad` is the plain derivative, `C13x.ceGrad_inside`), the map `gdStep lr` that `C11p.fc_ce_training_loop`
iterates sends `(W, B)` to `(W − lr·∂loss/∂W, B − lr·∂loss/∂B)` with THESE derivatives, the targets entering as `t̂ = clip(t, 0, 1)`.
Together: the training loop of the model follows the gradient-descent trajectory of its loss, in the literal sense of the
property.
-/

namespace Qeep
namespace C11o
open RealScalar C16x C13x C11p
open C12x (tHat)

/-- the CE loss of the layer's output as a function of the parameters (no clipping: used inside the band) -/
noncomputable def ceLoss (N D O : ℕ) (T X : ℕ → ℕ → ℝ) (W B : ℕ → ℝ) : ℝ :=
  -(1 / (N : ℝ)) * ∑ n ∈ Finset.range N, ∑ o ∈ Finset.range O, T n o * Real.log (fcReal D W B X n o)

/-- the CE formula along any one parameter `s` that only column `o'` of the output `y` depends on: the chain rule through
    `log`, the other columns being constant. Both partial derivatives of `ceLoss` are instances. -/
theorem ce_deriv_along (N O : ℕ) (T : ℕ → ℕ → ℝ) (y : ℝ → ℕ → ℕ → ℝ) (y' : ℕ → ℝ) (s0 : ℝ) (o' : ℕ) (ho : o' < O)
    (hy : ∀ n, n < N → HasDerivAt (fun s => y s n o') (y' n) s0)
    (hc : ∀ n o, o ≠ o' → ∀ s, y s n o = y s0 n o) (hne : ∀ n, n < N → y s0 n o' ≠ 0) :
    HasDerivAt (fun s => -(1 / (N : ℝ)) * ∑ n ∈ Finset.range N, ∑ o ∈ Finset.range O, T n o * Real.log (y s n o))
      (∑ n ∈ Finset.range N, (-1 / (N : ℝ)) * (T n o' / y s0 n o') * y' n) s0 := by
  have inner : ∀ n ∈ Finset.range N, ∀ o ∈ Finset.range O,
      HasDerivAt (fun s => T n o * Real.log (y s n o)) (if o = o' then T n o' * (y' n / y s0 n o') else 0) s0 := by
    intro n hn o _
    by_cases h : o = o'
    · subst h
      rw [if_pos rfl]
      exact ((hy n (Finset.mem_range.mp hn)).log (hne n (Finset.mem_range.mp hn))).const_mul (T n o)
    · rw [if_neg h, show (fun s => T n o * Real.log (y s n o)) = fun _ => T n o * Real.log (y s0 n o) from
        funext fun s => by rw [hc n o h s]]
      exact hasDerivAt_const _ _
  refine ((HasDerivAt.fun_sum fun n hn => HasDerivAt.fun_sum fun o ho' => inner n hn o ho').const_mul
    (-(1 / (N : ℝ)))).congr_deriv ?_
  rw [Finset.mul_sum]
  apply Finset.sum_congr rfl
  intro n _
  rw [Finset.sum_ite_eq' (Finset.range O) o' (fun _ => T n o' * (y' n / y s0 n o')), if_pos (Finset.mem_range.mpr ho)]
  ring

theorem ceLoss_deriv_W (N D O : ℕ) (T X : ℕ → ℕ → ℝ) (W B : ℕ → ℝ) (o' : ℕ) (ho : o' < O)
    (hy : ∀ n, n < N → fcReal D W B X n o' ≠ 0) :
    HasDerivAt (fun s => ceLoss N D O T X (Function.update W o' s) B)
      (∑ n ∈ Finset.range N, (-1 / (N : ℝ)) * (T n o' / fcReal D W B X n o') * ∑ d ∈ Finset.range D, X n d) (W o') := by
  have h := ce_deriv_along N O T (fun s n o => fcReal D (Function.update W o' s) B X n o)
    (fun n => ∑ d ∈ Finset.range D, X n d) (W o') o' ho
    (fun n _ => by
      simpa [fcReal] using ((hasDerivAt_id (W o')).mul_const (∑ d ∈ Finset.range D, X n d)).add_const (B o'))
    (fun n o h s => by simp only [fcReal, Function.update_of_ne h])
    (by simpa only [Function.update_eq_self] using hy)
  simp only [Function.update_eq_self] at h
  exact h

theorem ceLoss_deriv_B (N D O : ℕ) (T X : ℕ → ℕ → ℝ) (W B : ℕ → ℝ) (o' : ℕ) (ho : o' < O)
    (hy : ∀ n, n < N → fcReal D W B X n o' ≠ 0) :
    HasDerivAt (fun s => ceLoss N D O T X W (Function.update B o' s))
      (∑ n ∈ Finset.range N, (-1 / (N : ℝ)) * (T n o' / fcReal D W B X n o')) (B o') := by
  have h := ce_deriv_along N O T (fun s n o => fcReal D W (Function.update B o' s) X n o) (fun _ => 1) (B o') o' ho
    (fun n _ => by
      simpa [fcReal] using (hasDerivAt_id (B o')).const_add (W o' * ∑ d ∈ Finset.range D, X n d))
    (fun n o h s => by simp only [fcReal, Function.update_of_ne h])
    (by simpa only [Function.update_eq_self] using hy)
  simp only [Function.update_eq_self, mul_one] at h
  exact h

/-- **`gdStep` is the gradient-descent step of `ceLoss`** (targets as the loss uses them, `t̂ = clip(t, 0, 1)`) wherever the
    layer's outputs for the output unit `o` are strictly inside the clip band of CE -/
theorem gdStep_is_gradient_descent (lr : ℝ) (N D O : ℕ) (T X : ℕ → ℕ → ℝ) (W B : ℕ → ℝ) (o : ℕ) (ho : o < O)
    (hin : ∀ n, n < N → 1 / 10 ^ 12 + 1 / 10 ^ 240 < fcReal D W B X n o ∧
      fcReal D W B X n o < 1 - 1 / 10 ^ 12 - 1 / 10 ^ 240) :
    ∃ dW dB : ℝ,
      HasDerivAt (fun s => ceLoss N D O (fun n o => tHat (T n o)) X (Function.update W o s) B) dW (W o) ∧
      HasDerivAt (fun s => ceLoss N D O (fun n o => tHat (T n o)) X W (Function.update B o s)) dB (B o) ∧
      (gdStep lr N D X T (W, B)).1 o = W o - lr * dW ∧ (gdStep lr N D X T (W, B)).2 o = B o - lr * dB := by
  have hθ : (0 : ℝ) < 1 / 10 ^ 240 := by positivity
  have hε : (0 : ℝ) < 1 / 10 ^ 12 := by positivity
  have hy : ∀ n, n < N → fcReal D W B X n o ≠ 0 := fun n hn => by have := (hin n hn).1; linarith
  refine ⟨_, _, ceLoss_deriv_W N D O _ X W B o ho hy, ceLoss_deriv_B N D O _ X W B o ho hy, ?_, ?_⟩
  all_goals
    simp only [gdStep]
    congr 2
    apply Finset.sum_congr rfl
    intro n hn
    obtain ⟨a, b⟩ := hin n (Finset.mem_range.mp hn)
    rw [ceGrad_inside 1 N _ _ a b, one_mul]

/-- **every step of the trajectory is a gradient-descent step**: the `(k+1)`-th iterate of `gdStep lr` — by
    `C11p.fc_ce_training_loop` the parameters after `k + 1` steps of the training loop (with `lr := lr·bscale`) — is obtained
    from the `k`-th by `θ ← θ − lr·∂loss/∂θ`, the derivative being that of `ceLoss` AT THE CURRENT PARAMETERS, wherever the
    layer's outputs for that output unit are strictly inside the clip band at the current parameters -/
theorem gdIter_succ_is_gradient_descent (lr : ℝ) (N D O : ℕ) (T X : ℕ → ℕ → ℝ) (W0 B0 : ℕ → ℝ) (k o : ℕ) (ho : o < O)
    (hin : ∀ n, n < N →
      1 / 10 ^ 12 + 1 / 10 ^ 240 < fcReal D ((gdStep lr N D X T)^[k] (W0, B0)).1 ((gdStep lr N D X T)^[k] (W0, B0)).2 X n o ∧
      fcReal D ((gdStep lr N D X T)^[k] (W0, B0)).1 ((gdStep lr N D X T)^[k] (W0, B0)).2 X n o
        < 1 - 1 / 10 ^ 12 - 1 / 10 ^ 240) :
    ∃ dW dB : ℝ,
      HasDerivAt (fun s => ceLoss N D O (fun n o => tHat (T n o)) X
        (Function.update ((gdStep lr N D X T)^[k] (W0, B0)).1 o s) ((gdStep lr N D X T)^[k] (W0, B0)).2) dW
        (((gdStep lr N D X T)^[k] (W0, B0)).1 o) ∧
      HasDerivAt (fun s => ceLoss N D O (fun n o => tHat (T n o)) X
        ((gdStep lr N D X T)^[k] (W0, B0)).1 (Function.update ((gdStep lr N D X T)^[k] (W0, B0)).2 o s)) dB
        (((gdStep lr N D X T)^[k] (W0, B0)).2 o) ∧
      ((gdStep lr N D X T)^[k + 1] (W0, B0)).1 o = ((gdStep lr N D X T)^[k] (W0, B0)).1 o - lr * dW ∧
      ((gdStep lr N D X T)^[k + 1] (W0, B0)).2 o = ((gdStep lr N D X T)^[k] (W0, B0)).2 o - lr * dB := by
  rw [Function.iterate_succ_apply']
  exact gdStep_is_gradient_descent lr N D O T X _ _ o ho hin

end C11o
end Qeep
