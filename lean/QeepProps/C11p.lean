import QeepProps.C11r
import QeepProps.C11w
import Mathlib.Tactic.IntervalCases
/-!
# C11 — the training LOOP of a layer under the CE loss: every step succeeds and the parameters follow gradient descent

Everything is stated for either mode `bm` of the Broadcast rule with the factor `c = bscale bm N`: `c = 1` in `sum` mode — what
the property demands — and `c = 1/N` in `mean` mode, the tree as it is (finding D2): there every step is the gradient-descent
step with learning rate `lr/N`, i.e. the loop descends `N` times more slowly than the optimizer's `lr` says.

`FCCEInv`: the state before a step — reachable heap; `W`, `B` distinct tracked unspent LEAVES `[O]` that no tensor
points at; an untracked unspent `[N, D]` input `x`; an untracked unspent `[N, O]` target `t`. Nothing is assumed about the
rest of the heap, which after `k` steps contains the spent graphs of all earlier steps.

`fc_ce_step_inv`: one step — `FC.Forward(x)`, `CE.Compute(y, t)`, `BackPropagate(loss)`, `Update` + `ResetGradContext(true)` of
`W` and `B` — SUCCEEDS, ends in such a state again with `x`, `t` unchanged, and the new parameters are
`gdStep (lr·c) (W, B) = (W − lr·c·∂loss/∂W, B − lr·c·∂loss/∂B)`.

`fc_ce_training_loop`: by induction over the number of steps, ANY number `n` of steps succeeds and the parameters are the
`n`-th iterate of `gdStep (lr·c)` from the initial ones: the loop follows the gradient-descent trajectory of its loss — here the
gradient depends on the current parameters (unlike `C11w.fc_training_loop`, where `Σ y` is affine), so the trajectory is the
iteration of the map, not a closed form.
-/

namespace Qeep
namespace C11p
open RealScalar C01 C11x C11r C11w C16x C16z C16w C15x C15w C13x C11n
open C12x (tHat)

structure FCCEInv (bm : BMode) (H : Heap ℝ) (w b x t N D O : Nat) : Prop where
  reach : Reach bm H
  lw : Live H w
  lb : Live H b
  hx : x < H.size
  cx : H.dirty x = false
  ux : H.tracked x = false
  hwb : w ≠ b
  ww : (H.val w).WF
  wb : (H.val b).WF
  wx : (H.val x).WF
  dw : (H.val w).dims = [O]
  db : (H.val b).dims = [O]
  dx : (H.val x).dims = [N, D]
  ht : t < H.size
  wt : (H.val t).WF
  dt : (H.val t).dims = [N, O]
  htt : H.tracked t = false
  htc : H.dirty t = false
  leafw : (H.ctx w).edges = []
  leafb : (H.ctx b).edges = []
  hsole : ∀ v, ∀ e ∈ (H.ctx v).edges, e.target ≠ w ∧ e.target ≠ b

/-- one gradient-descent step on the CE loss of the layer's output, on the parameter vectors: `X n d` the input, `T n o` the
    targets, `fcReal D W B X n o = W o·Σ_d X n d + B o` the layer's output, `ceGrad 1 N t̂ y = ∂loss/∂y` -/
noncomputable def gdStep (lr : ℝ) (N D : Nat) (X T : Nat → Nat → ℝ) (WB : (Nat → ℝ) × (Nat → ℝ)) : (Nat → ℝ) × (Nat → ℝ) :=
  (fun o => WB.1 o - lr * ∑ n ∈ Finset.range N,
      ceGrad 1 N (tHat (T n o)) (fcReal D WB.1 WB.2 X n o) * ∑ d ∈ Finset.range D, X n d,
   fun o => WB.2 o - lr * ∑ n ∈ Finset.range N, ceGrad 1 N (tHat (T n o)) (fcReal D WB.1 WB.2 X n o))

theorem gdStep_congr (lr : ℝ) (N D O : Nat) (X T : Nat → Nat → ℝ) (P Q : (Nat → ℝ) × (Nat → ℝ))
    (h : ∀ o, o < O → P.1 o = Q.1 o ∧ P.2 o = Q.2 o) :
    ∀ o, o < O → (gdStep lr N D X T P).1 o = (gdStep lr N D X T Q).1 o ∧ (gdStep lr N D X T P).2 o = (gdStep lr N D X T Q).2 o := by
  intro o ho
  obtain ⟨h1, h2⟩ := h o ho
  simp only [gdStep, fcReal, h1, h2, and_self]

theorem gdIter_congr (lr : ℝ) (N D O : Nat) (X T : Nat → Nat → ℝ) : ∀ (n : Nat) (P Q : (Nat → ℝ) × (Nat → ℝ)),
    (∀ o, o < O → P.1 o = Q.1 o ∧ P.2 o = Q.2 o) →
    ∀ o, o < O → ((gdStep lr N D X T)^[n] P).1 o = ((gdStep lr N D X T)^[n] Q).1 o ∧
      ((gdStep lr N D X T)^[n] P).2 o = ((gdStep lr N D X T)^[n] Q).2 o
  | 0, P, Q, h => by simpa using h
  | n + 1, P, Q, h => by
    rw [Function.iterate_succ_apply, Function.iterate_succ_apply]
    exact gdIter_congr lr N D O X T n _ _ (gdStep_congr lr N D O X T P Q h)

theorem fc_ce_step_inv (bm : BMode) (lr : ℝ) {H : Heap ℝ} {w b x t N D O : Nat} (inv : FCCEInv bm H w b x t N D O) :
    ∃ rw rb H', trainStep bm lr (fcCe w b x t) [w, b] H = .ok ([rw, rb], H') ∧
      FCCEInv bm H' rw rb x t N D O ∧ H'.val x = H.val x ∧ H'.val t = H.val t ∧
      (∀ o, o < O → (H'.val rw).el [o] = (gdStep (lr * bscale bm N) N D (fun n d => (H.val x).el [n, d]) (fun n o => (H.val t).el [n, o])
          (fun o => (H.val w).el [o], fun o => (H.val b).el [o])).1 o) ∧
      (∀ o, o < O → (H'.val rb).el [o] = (gdStep (lr * bscale bm N) N D (fun n d => (H.val x).el [n, d]) (fun n o => (H.val t).el [n, o])
          (fun o => (H.val w).el [o], fun o => (H.val b).el [o])).2 o) := by
  obtain ⟨hR, lw, lb, hx, cx, ux, hwb, ww, wb, wx, dw, db, dx, ht, wt, dt, htt, htc, leafw, leafb, hsole⟩ := inv
  obtain ⟨y, H1, r, H2, h1, hrun, -⟩ :=
    fc_ce_backprop bm H w b x t N D O hR lw lb hx cx hwb ww wb wx dw db dx ht wt dt htt htc hsole
  have hok := fc_ce_backprop_ok bm H w b x t N D O hR lw lb hx cx ux hwb ww wb wx dw db dx ht wt dt htt htc leafw leafb
    y H1 h1 r H2 hrun
  obtain ⟨hext, R2, dW, dB, hall, eW, eB⟩ := fc_ce_grads bm lr H w b x t N D O hR lw lb hx cx hwb ww wb wx dw db dx ht wt dt
    htt htc hsole r H2 (fcCe_run h1 hrun) hok
  obtain ⟨rs, H', hstep, hlen, R', sH', per, old, hedge⟩ := train_step_inv bm lr _ R2 (fcCe_run h1 hrun) hok hall
  match rs, hlen with
  | [rw, rb], _ =>
    obtain ⟨i1, c1, v1, k1⟩ := per 0 w dW rw rfl rfl rfl
    obtain ⟨i2, c2, v2, k2⟩ := per 1 b dB rb rfl rfl rfl
    rw [hext.val lw.1] at v1; rw [hext.val lb.1] at v2
    obtain ⟨l1, e1, _⟩ := freshLeaf_live c1
    obtain ⟨l2, e2, _⟩ := freshLeaf_live c2
    have hs2 := hext.1
    have := l1.1
    obtain ⟨cx', vx'⟩ := untouched hext old hx ux
    obtain ⟨ct', vt'⟩ := untouched hext old ht htt
    refine ⟨rw, rb, H', hstep,
      ⟨R', l1, l2, by omega, by rw [dirty_congr cx']; exact cx, by rw [tracked_congr cx']; exact ux, by omega, k1, k2,
        by rw [vx']; exact wx, by rw [v1]; exact dw, by rw [v2]; exact db, by rw [vx']; exact dx, by omega,
        by rw [vt']; exact wt, by rw [vt']; exact dt, by rw [tracked_congr ct']; exact htt, by rw [dirty_congr ct']; exact htc,
        e1, e2, fun v e he => by have := hedge v e he; exact ⟨by omega, by omega⟩⟩, vx', vt', ?_, ?_⟩
    · intro o ho
      rw [v1, eW o ho]
      simp only [gdStep]
      rw [mul_assoc]
    · intro o ho
      rw [v2, eB o ho]
      simp only [gdStep]
      rw [mul_assoc]

/-- `n` steps of the training loop: each step hands the NEW parameter tensors to the next -/
noncomputable def steps (bm : BMode) (lr : ℝ) (x t : Nat) : Nat → Nat × Nat → HM ℝ (Nat × Nat)
  | 0, wb => pure wb
  | n + 1, (w, b) => fun H =>
      match trainStep bm lr (fcCe w b x t) [w, b] H with
      | .ok ([rw, rb], H') => steps bm lr x t n (rw, rb) H'
      | .ok _ => .err
      | .err => .err
      | .panic => .panic

/-- **the whole loop**: from a state satisfying `FCCEInv`, ANY number `n` of training steps succeeds, ends in such a state,
    leaves the input and the target as they were, and the parameters are the `n`-th iterate of `gdStep` from the initial ones -/
theorem fc_ce_training_loop (bm : BMode) (lr : ℝ) (x t N D O : Nat) : ∀ (n : Nat) (H : Heap ℝ) (w b : Nat), FCCEInv bm H w b x t N D O →
    ∃ w' b' H', steps bm lr x t n (w, b) H = .ok ((w', b'), H') ∧ FCCEInv bm H' w' b' x t N D O ∧
      H'.val x = H.val x ∧ H'.val t = H.val t ∧
      (∀ o, o < O → (H'.val w').el [o] = ((gdStep (lr * bscale bm N) N D (fun n d => (H.val x).el [n, d]) (fun n o => (H.val t).el [n, o]))^[n]
          (fun o => (H.val w).el [o], fun o => (H.val b).el [o])).1 o) ∧
      (∀ o, o < O → (H'.val b').el [o] = ((gdStep (lr * bscale bm N) N D (fun n d => (H.val x).el [n, d]) (fun n o => (H.val t).el [n, o]))^[n]
          (fun o => (H.val w).el [o], fun o => (H.val b).el [o])).2 o)
  | 0, H, w, b, inv => ⟨w, b, H, rfl, inv, rfl, rfl, fun o _ => rfl, fun o _ => rfl⟩
  | n + 1, H, w, b, inv => by
    obtain ⟨rw, rb, H1, hstep, inv1, vx, vt, e1, e2⟩ := fc_ce_step_inv bm lr inv
    obtain ⟨w', b', H', hrun, inv', vx', vt', f1, f2⟩ := fc_ce_training_loop bm lr x t N D O n H1 rw rb inv1
    have hc := gdIter_congr (lr * bscale bm N) N D O (fun n d => (H.val x).el [n, d]) (fun n o => (H.val t).el [n, o]) n
      (fun o => (H1.val rw).el [o], fun o => (H1.val rb).el [o])
      (gdStep (lr * bscale bm N) N D (fun n d => (H.val x).el [n, d]) (fun n o => (H.val t).el [n, o])
        (fun o => (H.val w).el [o], fun o => (H.val b).el [o]))
      (fun o ho => ⟨e1 o ho, e2 o ho⟩)
    refine ⟨w', b', H', ?_, inv', by rw [vx', vx], by rw [vt', vt], ?_, ?_⟩
    · show (match trainStep bm lr (fcCe w b x t) [w, b] H with
          | .ok ([rw, rb], H') => steps bm lr x t n (rw, rb) H'
          | .ok _ => .err
          | .err => .err
          | .panic => .panic) = _
      rw [hstep]
      exact hrun
    · intro o ho
      rw [f1 o ho, vx, vt, Function.iterate_succ_apply]
      exact (hc o ho).1
    · intro o ho
      rw [f2 o ho, vx, vt, Function.iterate_succ_apply]
      exact (hc o ho).2

/-- the invariant is satisfiable -/
example (bm : BMode) : ∃ (H : Heap ℝ) (w b x t N D O : Nat), FCCEInv bm H w b x t N D O :=
  ⟨exHeap, 0, 1, 2, 3, 1, 3, 2, exHeap_reach bm, exHeap_live 0 (by omega), exHeap_live 1 (by omega),
    (exHeap_data 2 (by omega) (by omega)).1, (exHeap_data 2 (by omega) (by omega)).2.2,
    (exHeap_data 2 (by omega) (by omega)).2.1, by omega,
    exHeap_wf 0 (by omega), exHeap_wf 1 (by omega), exHeap_wf 2 (by omega), rfl, rfl, rfl,
    (exHeap_data 3 (by omega) (by omega)).1, exHeap_wf 3 (by omega), rfl, (exHeap_data 3 (by omega) (by omega)).2.1,
    (exHeap_data 3 (by omega) (by omega)).2.2, exHeap_edges 0, exHeap_edges 1,
    fun v e he => by rw [exHeap_edges v] at he; cases he⟩

end C11p
end Qeep
