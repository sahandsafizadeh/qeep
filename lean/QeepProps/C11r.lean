import QeepProps.C16w
import QeepProps.C13v
import QeepProps.C15y
import QeepProps.C11x
import QeepProps.C16t
import QeepProps.C11n
import QeepProps.C11z
/-!
# C11 / C13 / C16 — a layer under a loss: FC → CE, `BackPropagate` on the loss

`fc_ce_backprop`: any reachable heap; `W`, `B` tracked unspent `[O]` tensors that nothing consumes yet, an unspent `[N, D]`
input `x`, an untracked unspent `[N, O]` target `t`. Run `FC.Forward(x)`, `CE.Compute(y, t)` and `BackPropagate(loss)`. If the
back-propagation returns without error,

    W.Gradient()[o] = c · Σ_n G[n][o] · Σ_d x[n][d]        B.Gradient()[o] = c · Σ_n G[n][o]

with `c = bscale bm N`: 1 in `sum` mode (what the property demands), `1/N` in `mean` mode (the tree as it is, finding D2:
the parameters of a layer under a loss receive the wanted gradient divided by the batch size);
`G[n][o] = ceGrad 1 N t̂[n][o] y[n][o]` is the partial derivative of the CE loss with respect to the layer's output
(`C13x.ce_formula_deriv`), and `Σ_d x[n][d]`, `1` those of `y[n][o]` with respect to `W[o]`, `B[o]` (`C16x`). The chain rule
across the two components is obtained by composing `C13v.ce_backprop_full` (what the walk leaves on the loss's prediction,
whatever its ancestors, plus the footprint of the loss graph) with `C16z.fc_in_walk_sum` (what the layer's parameters
receive from whatever the walk leaves on the layer's result).
-/

namespace Qeep
namespace C11r
open RealScalar C01 C01x C01z C01w C01q C16x C16z C16w C16t C15x C15z C13x C13v C11x C11n
open C12x (tHat)

theorem fc_ce_forward {bm : BMode} {H : Heap ℝ} {w b x t : Nat} (N D O : Nat) (hR : Reach bm H) (lw : Live H w) (lb : Live H b)
    (hx : x < H.size) (cx : H.dirty x = false) (ww : (H.val w).WF) (wb : (H.val b).WF) (wx : (H.val x).WF)
    (dw : (H.val w).dims = [O]) (db : (H.val b).dims = [O]) (dx : (H.val x).dims = [N, D])
    (ht : t < H.size) (htt : H.tracked t = false) (htc : H.dirty t = false) :
    ∃ H1, FCRun H w b x N D O H1 ∧ Reach bm H1 ∧ Live H1 (H.size + 8) ∧ t < H1.size ∧ H1.val t = H.val t ∧
      H1.tracked t = false ∧ H1.dirty t = false := by
  obtain ⟨H1, r⟩ := fc_run N D O hR lw lb hx cx ww wb wx dw db dx
  exact ⟨H1, r, reach_fcForward hR r.hw r.hb r.hx r.run,
    fc_live_result r.graph (by have := r.size; omega) r.lb.2.1 r.lw.2.2 r.lb.2.2 r.cx, by have := r.size; omega,
    r.ext.val ht, (r.ext.tracked ht).trans htt, (r.ext.dirty ht).trans htc⟩

theorem fc_ce_backprop (bm : BMode) (H : Heap ℝ) (w b x t N D O : Nat) (hR : Reach bm H)
    (lw : Live H w) (lb : Live H b) (hx : x < H.size) (cx : H.dirty x = false) (hwb : w ≠ b)
    (ww : (H.val w).WF) (wb : (H.val b).WF) (wx : (H.val x).WF)
    (dw : (H.val w).dims = [O]) (db : (H.val b).dims = [O]) (dx : (H.val x).dims = [N, D])
    (ht : t < H.size) (wt : (H.val t).WF) (dt : (H.val t).dims = [N, O]) (htt : H.tracked t = false)
    (htc : H.dirty t = false)
    (hsole : ∀ v, ∀ e ∈ (H.ctx v).edges, e.target ≠ w ∧ e.target ≠ b) :
    ∃ y H1 r H2, fcForward ⟨some w, some b⟩ [some x] H = .ok (y, H1) ∧
      lossCompute Loss.ce (some y) (some t) H1 = .ok (r, H2) ∧ Extends H H2 ∧ Reach bm H2 ∧
      (∀ n o, n < N → o < O → (H1.val y).el [n, o]
        = fcReal D (fun o => (H.val w).el [o]) (fun o => (H.val b).el [o]) (fun n d => (H.val x).el [n, d]) n o) ∧
      ((backprop bm H2 r).status = .ok () →
        ∃ dW dB, (backprop bm H2 r).heap.grad w = some dW ∧ (backprop bm H2 r).heap.grad b = some dB ∧
          dW.WF ∧ dB.WF ∧ dW.dims = [O] ∧ dB.dims = [O] ∧
          (∀ o, o < O → dW.el [o] = bscale bm N * ∑ n ∈ Finset.range N,
              ceGrad 1 N (tHat ((H.val t).el [n, o])) ((H1.val y).el [n, o]) * ∑ d ∈ Finset.range D, (H.val x).el [n, d]) ∧
          (∀ o, o < O → dB.el [o] = bscale bm N * ∑ n ∈ Finset.range N,
              ceGrad 1 N (tHat ((H.val t).el [n, o])) ((H1.val y).el [n, o]))) := by
  obtain ⟨H1, r1, R1, ly, ht1, vt1, tt1, ct1⟩ := fc_ce_forward N D O hR lw lb hx cx ww wb wx dw db dx ht htt htc
  have hwk := r1.hw
  have hbk := r1.hb
  have hext := r1.ext
  have hsz := r1.size
  have g := r1.graph
  obtain ⟨H2, hrun, hext2, hsz2, R2, troot, hfoot, hokc, himp⟩ := ce_backprop_full bm H1 (H.size + 8) t N O R1 ly.1
    ht1 g.y.wf (by rw [vt1]; exact wt) g.y.dims (by rw [vt1]; exact dt) ly.2.1 ly.2.2 tt1 ct1
  have xe : Extends H H2 := hext.trans hext2
  refine ⟨H.size + 8, H1, H1.size + 16, H2, r1.run, hrun, xe, R2, ?_, ?_⟩
  · intro n o hn ho
    rw [g.y.el n o hn ho, C16x.sumOver_real]
    simp only [fcReal, C16x.term, add_eq, mul_eq, zero_eq, zero_add, Finset.mul_sum]
  intro hok
  obtain ⟨my, f8⟩ := himp hok
  rw [vt1] at f8
  have hdag := reach_dag R2
  have hdagH := reach_dag hR
  have g2 : FCGraph H2 w b x H.size N D O _ _ _ := FCGraph.ext g hext2 hwk hbk hx (by omega)
  have G2 : Is2 (⟨[N, O], List.zipWith (fun tv pv => ceGrad 1 N (tHat tv) pv) (H.val t).data (H1.val (H.size + 8)).data⟩ : Tensor ℝ)
      N O (fun n o => ceGrad 1 N (tHat ((H.val t).el [n, o])) ((H1.val (H.size + 8)).el [n, o])) := by
    have hdd : (H.val t).dims = (H1.val (H.size + 8)).dims := by rw [dt, g.y.dims]
    refine ⟨?_, rfl, ?_⟩
    · have := zip_wf (fun tv pv => ceGrad 1 N (tHat tv) pv) _ _ wt g.y.wf hdd
      rwa [dt] at this
    · intro i j hi hj
      have := C15y.zip_el (fun tv pv => ceGrad 1 N (tHat tv) pv) _ _ wt g.y.wf hdd (u := [i, j])
        (by rw [dt]; exact valid2 hi hj)
      rwa [dt] at this
  obtain ⟨tw, cw, gw⟩ := live_after hR xe lw
  obtain ⟨tb, cb, gb⟩ := live_after hR xe lb
  have cx2 : H2.dirty x = false := (xe.dirty hx).trans cx
  have gnew : ∀ i, i ≤ 7 → H2.grad (H.size + i) = none := fun i hi =>
    (hext2.grad (by omega)).trans (r1.gnew _ (by omega))
  -- outside the layer's graph: old tensors, and the loss graph, which points at itself and at the layer's result
  have hs : ∀ v ∈ backwardOrder H2 (H1.size + 16), (v < H.size ∨ H.size + 8 < v) → ∀ e ∈ (H2.ctx v).edges,
      e.target ≠ w ∧ e.target ≠ b ∧ ¬ (H.size ≤ e.target ∧ e.target ≤ H.size + 7) := by
    intro v hvo hv e hev
    rcases hv with hv | hv
    · rw [xe.ctx hv] at hev
      have := hdagH v e hev
      exact ⟨(hsole v e hev).1, (hsole v e hev).2, by omega⟩
    · have := hfoot v (by omega) (C01.mem_order_tracked hvo) e hev
      omega
  cases bm with
  | sum =>
    obtain ⟨dW, dB, q1, q2, q3, q4, q5, q6, q7, q8⟩ := fc_in_walk_sum H2 (H1.size + 16) w b x H.size N D O hdag troot hok g2
      hwk hbk hx hwb tw tb cw cb cx2 gw gb gnew (by omega) (by omega) (by intro i hi; omega) hs _ _ G2 my f8
    exact ⟨dW, dB, q1, q2, q3, q5, q4, q6, fun o ho => by rw [q7 o ho]; simp only [bscale, one_mul],
      fun o ho => by rw [q8 o ho]; simp only [bscale, one_mul]⟩
  | mean =>
    obtain ⟨dW, dB, q1, q2, q3, q4, q5, q6, q7, q8⟩ := fc_in_walk_mean H2 (H1.size + 16) w b x H.size N D O hdag troot hok g2
      hwk hbk hx hwb tw tb cw cb cx2 gw gb gnew (by omega) (by omega) (by intro i hi; omega) hs _ _ G2 my f8
    exact ⟨dW, dB, q1, q2, q3, q5, q4, q6, fun o ho => by rw [q7 o ho]; simp only [bscale]; rw [div_eq_mul_inv, mul_comm, one_div],
      fun o ho => by rw [q8 o ho]; simp only [bscale]; rw [div_eq_mul_inv, mul_comm, one_div]⟩

/-- **FC → CE over leaf parameters and a data input: `BackPropagate(loss)` succeeds** (either mode): the progress statement
    exported by `C13v.ce_backprop_full` for the loss graph, discharged below the prediction with the per-edge acceptance
    `C16t.fc_edge_ok` of the layer's graph and the exact set of tensors the walk can visit -/
theorem fc_ce_backprop_ok (bm : BMode) (H : Heap ℝ) (w b x t N D O : Nat) (hR : Reach bm H)
    (lw : Live H w) (lb : Live H b) (hx : x < H.size) (cx : H.dirty x = false) (ux : H.tracked x = false) (hwb : w ≠ b)
    (ww : (H.val w).WF) (wb : (H.val b).WF) (wx : (H.val x).WF)
    (dw : (H.val w).dims = [O]) (db : (H.val b).dims = [O]) (dx : (H.val x).dims = [N, D])
    (ht : t < H.size) (wt : (H.val t).WF) (dt : (H.val t).dims = [N, O]) (htt : H.tracked t = false)
    (htc : H.dirty t = false)
    (leafw : (H.ctx w).edges = []) (leafb : (H.ctx b).edges = [])
    (y : Nat) (H1 : Heap ℝ) (h1 : fcForward ⟨some w, some b⟩ [some x] H = .ok (y, H1))
    (r : Nat) (H2 : Heap ℝ) (hrun : lossCompute Loss.ce (some y) (some t) H1 = .ok (r, H2)) :
    (backprop bm H2 r).status = .ok () := by
  obtain ⟨H1', r1, R1, ly, ht1, vt1, tt1, ct1⟩ := fc_ce_forward N D O hR lw lb hx cx ww wb wx dw db dx ht htt htc
  obtain ⟨rfl, rfl⟩ := C15w.run_unique h1 r1.run
  have hwk := r1.hw
  have hbk := r1.hb
  have hext := r1.ext
  have hsz := r1.size
  have g := r1.graph
  obtain ⟨hxw, hxb⟩ := fc_x_ne g
  obtain ⟨H2', hrun', hext2, hsz2, R2, troot, hfoot, hokc, _⟩ := ce_backprop_full bm H1 (H.size + 8) t N O R1 ly.1
    ht1 g.y.wf (by rw [vt1]; exact wt) g.y.dims (by rw [vt1]; exact dt) ly.2.1 ly.2.2 tt1 ct1
  obtain ⟨rfl, rfl⟩ := C15w.run_unique hrun hrun'
  have xe : Extends H H2 := hext.trans hext2
  have g2 : FCGraph H2 w b x H.size N D O _ _ _ := FCGraph.ext g hext2 hwk hbk hx (by omega)
  have ew : (H2.ctx w).edges = [] := by rw [xe.ctx hwk]; exact leafw
  have eb : (H2.ctx b).edges = [] := by rw [xe.ctx hbk]; exact leafb
  have ux2 : H2.tracked x = false := (xe.tracked hx).trans ux
  have gold : ∀ n, n = w ∨ n = b ∨ (H.size ≤ n ∧ n < H1.size) → H2.grad n = none := by
    rintro n (rfl | rfl | ⟨hn1, hn2⟩)
    · exact (live_after hR xe lw).2.2
    · exact (live_after hR xe lb).2.2
    · exact (hext2.grad hn2).trans (r1.gnew n hn1)
  have hvis : ∀ v ∈ backwardOrder H2 (H1.size + 16), H2.tracked v = true ∧
      (H1.size ≤ v ∨ (H.size ≤ v ∧ v ≤ H.size + 8) ∨ v = w ∨ v = b) := by
    apply order_subset H2 (H1.size + 16)
      (fun v => H2.tracked v = true ∧ (H1.size ≤ v ∨ (H.size ≤ v ∧ v ≤ H.size + 8) ∨ v = w ∨ v = b))
    · exact ⟨troot, Or.inl (by omega)⟩
    · intro u hu v hv
      obtain ⟨hut, hu⟩ := hu
      have hvt : H2.tracked v = true := by
        unfold succs at hv; exact (List.mem_filter.mp hv).2
      obtain ⟨-, e, he, rfl⟩ := C01.mem_succs.mp hv
      refine ⟨hvt, ?_⟩
      rcases hu with hu | ⟨h1, h2⟩ | rfl | rfl
      · have := hfoot u hu hut e he; omega
      · obtain ⟨i, hi, rfl⟩ : ∃ i, i ≤ 8 ∧ u = H.size + i := ⟨u - H.size, by omega, by omega⟩
        have hne : e.target ≠ x := by intro h; rw [h, ux2] at hvt; cases hvt
        have := C11n.fcEdges_target hi (fc_edges_sub g2 i hi e he)
        omega
      · rw [ew] at he; cases he
      · rw [eb] at he; cases he
  apply hokc (fun k gg => Shaped (fcTargetShape N D O w b x H.size k) gg)
  · intro k a b' ha hb
    exact C15w.shaped_add_ok _ a b' ha hb
  · intro gg hgg
    rw [fcTargetShape_loc hwk hbk hx 8]
    exact hgg
  · intro k hk hlt gg hgk
    rw [gold k (by have := (hvis k hk).2; omega)] at hgk; cases hgk
  · intro u hu hlt e he htr gy hgy
    rw [evalRule_val_congr bm _ H2 (fun n => markDirty_val _ _ n)]
    obtain ⟨_, h | ⟨h1, h2⟩ | rfl | rfl⟩ := hvis u hu
    · omega
    · obtain ⟨i, hi, rfl⟩ : ∃ i, i ≤ 8 ∧ u = H.size + i := ⟨u - H.size, by omega, by omega⟩
      rw [fcTargetShape_loc hwk hbk hx] at hgy
      exact fc_edge_ok bm g2 hwk hbk hx hxw hxb i hi e (fc_edges_sub g2 i hi e he) gy hgy
    · rw [ew] at he; cases he
    · rw [eb] at he; cases he

noncomputable def fcCe (w b x t : Nat) : HM ℝ Nat := do
  let y ← fcForward ⟨some w, some b⟩ [some x]
  lossCompute Loss.ce (some y) (some t)

theorem fcCe_run {H H1 H2 : Heap ℝ} {w b x t y r : Nat} (h1 : fcForward ⟨some w, some b⟩ [some x] H = .ok (y, H1))
    (hrun : lossCompute Loss.ce (some y) (some t) H1 = .ok (r, H2)) : fcCe w b x t H = .ok (r, H2) := by
  unfold fcCe
  rw [bind_run h1]
  exact hrun

/-- what a successful walk from the loss leaves on the parameters, as a training step uses it: gradients of the parameters'
    shapes, and the step of size `lr` along them written out as gradient descent on the CE loss of the layer's output -/
theorem fc_ce_grads (bm : BMode) (lr : ℝ) (H : Heap ℝ) (w b x t N D O : Nat) (hR : Reach bm H)
    (lw : Live H w) (lb : Live H b) (hx : x < H.size) (cx : H.dirty x = false) (hwb : w ≠ b)
    (ww : (H.val w).WF) (wb : (H.val b).WF) (wx : (H.val x).WF)
    (dw : (H.val w).dims = [O]) (db : (H.val b).dims = [O]) (dx : (H.val x).dims = [N, D])
    (ht : t < H.size) (wt : (H.val t).WF) (dt : (H.val t).dims = [N, O]) (htt : H.tracked t = false)
    (htc : H.dirty t = false)
    (hsole : ∀ v, ∀ e ∈ (H.ctx v).edges, e.target ≠ w ∧ e.target ≠ b)
    (l : Nat) (H2 : Heap ℝ) (hfwd : fcCe w b x t H = .ok (l, H2)) (hbp : (backprop bm H2 l).status = .ok ()) :
    Extends H H2 ∧ Reach bm H2 ∧ ∃ dW dB,
      List.Forall₂ (fun w g => w < H2.size ∧ (backprop bm H2 l).heap.grad w = some g ∧ (H2.val w).WF ∧ g.WF ∧
        g.dims = (H2.val w).dims) [w, b] [dW, dB] ∧
      (∀ o, o < O → (stepped lr (H.val w) dW).el [o] = (H.val w).el [o] - lr * (bscale bm N * ∑ n ∈ Finset.range N,
          ceGrad 1 N (tHat ((H.val t).el [n, o]))
            (fcReal D (fun o => (H.val w).el [o]) (fun o => (H.val b).el [o]) (fun n d => (H.val x).el [n, d]) n o)
          * ∑ d ∈ Finset.range D, (H.val x).el [n, d])) ∧
      (∀ o, o < O → (stepped lr (H.val b) dB).el [o] = (H.val b).el [o] - lr * (bscale bm N * ∑ n ∈ Finset.range N,
          ceGrad 1 N (tHat ((H.val t).el [n, o]))
            (fcReal D (fun o => (H.val w).el [o]) (fun o => (H.val b).el [o]) (fun n d => (H.val x).el [n, d]) n o))) := by
  obtain ⟨y, H1, r, H2', h1, hrun, hext, R2, hy, himp⟩ :=
    fc_ce_backprop bm H w b x t N D O hR lw lb hx cx hwb ww wb wx dw db dx ht wt dt htt htc hsole
  obtain ⟨rfl, rfl⟩ := C15w.run_unique hfwd (fcCe_run h1 hrun)
  obtain ⟨dW, dB, gW, gB, wW, wB, dWd, dBd, eW, eB⟩ := himp hbp
  refine ⟨hext, R2, dW, dB, .cons (weight_after hext lw.1 gW ww wW (dWd.trans dw.symm))
    (.cons (weight_after hext lb.1 gB wb wB (dBd.trans db.symm)) .nil), fun o ho => ?_, fun o ho => ?_⟩
  · rw [C11z.stepped_el ww wW (dWd.trans dw.symm) (by rw [dw]; exact valid1 ho), eW o ho]
    congr 3
    exact Finset.sum_congr rfl fun n hn => by rw [hy n o (Finset.mem_range.mp hn) ho]
  · rw [C11z.stepped_el wb wB (dBd.trans db.symm) (by rw [db]; exact valid1 ho), eB o ho]
    congr 3
    exact Finset.sum_congr rfl fun n hn => by rw [hy n o (Finset.mem_range.mp hn) ho]

/-- **one whole training step of a layer under the CE loss**: `Forward`, `CE.Compute`, `BackPropagate(loss)`, `Update` of both
    parameters (`sum` mode). If the back-propagation returns without error, the step succeeds and `W`, `B` are replaced by
    fresh tracked leaves holding

        W'[o] = W[o] − lr · Σ_n G[n][o]·Σ_d x[n][d]          B'[o] = B[o] − lr · Σ_n G[n][o]

    with `G[n][o] = ceGrad 1 N t̂[n][o] y[n][o]` and `y[n][o] = W[o]·Σ_d x[n][d] + B[o]` (`fcReal`): gradient descent on the
    CE loss of the layer's output — `G` is `∂loss/∂y` (`C13x.ce_formula_deriv`) and the sums are the chain rule through
    `∂y[n][o]/∂W[o] = Σ_d x[n][d]`, `∂y[n][o]/∂B[o] = 1` (`C16x.fc_vjp_is_derivative`). -/
theorem fc_ce_train_step (bm : BMode) (lr : ℝ) (H : Heap ℝ) (w b x t N D O : Nat) (hR : Reach bm H)
    (lw : Live H w) (lb : Live H b) (hx : x < H.size) (cx : H.dirty x = false) (hwb : w ≠ b)
    (ww : (H.val w).WF) (wb : (H.val b).WF) (wx : (H.val x).WF)
    (dw : (H.val w).dims = [O]) (db : (H.val b).dims = [O]) (dx : (H.val x).dims = [N, D])
    (ht : t < H.size) (wt : (H.val t).WF) (dt : (H.val t).dims = [N, O]) (htt : H.tracked t = false)
    (htc : H.dirty t = false)
    (hsole : ∀ v, ∀ e ∈ (H.ctx v).edges, e.target ≠ w ∧ e.target ≠ b)
    (l : Nat) (H2 : Heap ℝ) (hfwd : fcCe w b x t H = .ok (l, H2)) (hbp : (backprop bm H2 l).status = .ok ()) :
    ∃ rw rb H', trainStep bm lr (fcCe w b x t) [w, b] H = .ok ([rw, rb], H') ∧
      H'.ctx rw = freshLeaf ∧ H'.ctx rb = freshLeaf ∧ (H'.val rw).dims = [O] ∧ (H'.val rb).dims = [O] ∧
      (∀ o, o < O → (H'.val rw).el [o] = (H.val w).el [o] - lr * (bscale bm N * ∑ n ∈ Finset.range N,
          ceGrad 1 N (tHat ((H.val t).el [n, o]))
            (fcReal D (fun o => (H.val w).el [o]) (fun o => (H.val b).el [o]) (fun n d => (H.val x).el [n, d]) n o)
          * ∑ d ∈ Finset.range D, (H.val x).el [n, d])) ∧
      (∀ o, o < O → (H'.val rb).el [o] = (H.val b).el [o] - lr * (bscale bm N * ∑ n ∈ Finset.range N,
          ceGrad 1 N (tHat ((H.val t).el [n, o]))
            (fcReal D (fun o => (H.val w).el [o]) (fun o => (H.val b).el [o]) (fun n d => (H.val x).el [n, d]) n o))) := by
  obtain ⟨hext, _, dW, dB, hall, eW, eB⟩ := fc_ce_grads bm lr H w b x t N D O hR lw lb hx cx hwb ww wb wx dw db dx ht wt dt
    htt htc hsole l H2 hfwd hbp
  obtain ⟨rs, H', hstep, hlen, _, hspec⟩ := train_step_law bm lr (fcCe w b x t) [w, b] H H2 l hfwd hbp [dW, dB] rfl
    (hall_of_forall₂ hall)
  match rs, hlen with
  | [rw, rb], _ =>
    obtain ⟨_, v0, c0⟩ := hspec 0 w dW rw rfl rfl rfl
    obtain ⟨_, v1, c1⟩ := hspec 1 b dB rb rfl rfl rfl
    rw [hext.val lw.1] at v0; rw [hext.val lb.1] at v1
    exact ⟨rw, rb, H', hstep, c0, c1, by rw [v0]; exact dw, by rw [v1]; exact db,
      fun o ho => by rw [v0]; exact eW o ho, fun o ho => by rw [v1]; exact eB o ho⟩

/-- **the same step with leaf parameters and a data input: unconditional.** `Forward`, `CE.Compute`, `BackPropagate`, `Update`
    of both parameters all succeed and the parameters are replaced by `W − lr·∂loss/∂W`, `B − lr·∂loss/∂B`. -/
theorem fc_ce_train_step_leaf (bm : BMode) (lr : ℝ) (H : Heap ℝ) (w b x t N D O : Nat) (hR : Reach bm H)
    (lw : Live H w) (lb : Live H b) (hx : x < H.size) (cx : H.dirty x = false) (ux : H.tracked x = false) (hwb : w ≠ b)
    (ww : (H.val w).WF) (wb : (H.val b).WF) (wx : (H.val x).WF)
    (dw : (H.val w).dims = [O]) (db : (H.val b).dims = [O]) (dx : (H.val x).dims = [N, D])
    (ht : t < H.size) (wt : (H.val t).WF) (dt : (H.val t).dims = [N, O]) (htt : H.tracked t = false)
    (htc : H.dirty t = false)
    (leafw : (H.ctx w).edges = []) (leafb : (H.ctx b).edges = [])
    (hsole : ∀ v, ∀ e ∈ (H.ctx v).edges, e.target ≠ w ∧ e.target ≠ b) :
    ∃ rw rb H', trainStep bm lr (fcCe w b x t) [w, b] H = .ok ([rw, rb], H') ∧
      H'.ctx rw = freshLeaf ∧ H'.ctx rb = freshLeaf ∧ (H'.val rw).dims = [O] ∧ (H'.val rb).dims = [O] ∧
      (∀ o, o < O → (H'.val rw).el [o] = (H.val w).el [o] - lr * (bscale bm N * ∑ n ∈ Finset.range N,
          ceGrad 1 N (tHat ((H.val t).el [n, o]))
            (fcReal D (fun o => (H.val w).el [o]) (fun o => (H.val b).el [o]) (fun n d => (H.val x).el [n, d]) n o)
          * ∑ d ∈ Finset.range D, (H.val x).el [n, d])) ∧
      (∀ o, o < O → (H'.val rb).el [o] = (H.val b).el [o] - lr * (bscale bm N * ∑ n ∈ Finset.range N,
          ceGrad 1 N (tHat ((H.val t).el [n, o]))
            (fcReal D (fun o => (H.val w).el [o]) (fun o => (H.val b).el [o]) (fun n d => (H.val x).el [n, d]) n o))) := by
  obtain ⟨y, H1, r, H2, h1, hrun, _, _, _, _⟩ :=
    fc_ce_backprop bm H w b x t N D O hR lw lb hx cx hwb ww wb wx dw db dx ht wt dt htt htc hsole
  exact fc_ce_train_step bm lr H w b x t N D O hR lw lb hx cx hwb ww wb wx dw db dx ht wt dt htt htc hsole r H2
    (fcCe_run h1 hrun) (fc_ce_backprop_ok bm H w b x t N D O hR lw lb hx cx ux hwb ww wb wx dw db dx ht wt dt htt htc
      leafw leafb y H1 h1 r H2 hrun)

noncomputable def exHeap : Heap ℝ :=
  (((#[⟨⟨[2], [3, 4]⟩, freshCtx true⟩] : Heap ℝ).push ⟨⟨[2], [0, 1]⟩, freshCtx true⟩).push
    ⟨⟨[1, 3], [1, 2, 5]⟩, freshCtx false⟩).push ⟨⟨[1, 2], [0, 1]⟩, freshCtx false⟩

theorem exHeap_reach (bm : BMode) : Reach bm exHeap :=
  Reach.leaf (v := ⟨[1, 2], [0, 1]⟩) (b := false) (r := 3)
    (Reach.leaf (v := ⟨[1, 3], [1, 2, 5]⟩) (b := false) (r := 2)
      (Reach.leaf (v := ⟨[2], [0, 1]⟩) (b := true) (r := 1)
        (Reach.leaf (v := ⟨[2], [3, 4]⟩) (b := true) (r := 0) Reach.empty rfl) rfl) rfl) rfl

theorem exHeap_edges (v : Nat) : (exHeap.ctx v).edges = [] := by
  by_cases h3 : v < 4
  · interval_cases v <;> simp [exHeap, Heap.ctx, freshCtx]
  · exact ctx_beyond exHeap v (by simp [exHeap]; omega)

theorem exHeap_live (k : Nat) (hk : k < 2) : Live exHeap k := by
  interval_cases k <;>
    exact ⟨by simp [exHeap], by simp [exHeap, Heap.tracked, Heap.ctx, freshCtx], by simp [exHeap, Heap.dirty, Heap.ctx, freshCtx]⟩

theorem exHeap_data (k : Nat) (hk : 2 ≤ k) (hk' : k < 4) : k < exHeap.size ∧ exHeap.tracked k = false ∧ exHeap.dirty k = false := by
  interval_cases k <;>
    exact ⟨by simp [exHeap], by simp [exHeap, Heap.tracked, Heap.ctx, freshCtx], by simp [exHeap, Heap.dirty, Heap.ctx, freshCtx]⟩

theorem exHeap_wf (k : Nat) (hk : k < 4) : (exHeap.val k).WF := by
  interval_cases k <;>
    exact ⟨by simp [exHeap, Heap.val, prod], by intro d hd; simp [exHeap, Heap.val] at hd; omega⟩

/-- the hypotheses of `fc_ce_backprop` are satisfiable -/
example : ∃ (H : Heap ℝ) (w b x t N D O : Nat), Reach .sum H ∧ Live H w ∧ Live H b ∧ x < H.size ∧ H.dirty x = false ∧ w ≠ b ∧
    (H.val w).WF ∧ (H.val b).WF ∧ (H.val x).WF ∧ (H.val w).dims = [O] ∧ (H.val b).dims = [O] ∧ (H.val x).dims = [N, D] ∧
    t < H.size ∧ (H.val t).WF ∧ (H.val t).dims = [N, O] ∧ H.tracked t = false ∧ H.dirty t = false ∧
    (∀ v, ∀ e ∈ (H.ctx v).edges, e.target ≠ w ∧ e.target ≠ b) :=
  ⟨exHeap, 0, 1, 2, 3, 1, 3, 2, exHeap_reach _, exHeap_live 0 (by omega), exHeap_live 1 (by omega),
    (exHeap_data 2 (by omega) (by omega)).1, (exHeap_data 2 (by omega) (by omega)).2.2, by omega,
    exHeap_wf 0 (by omega), exHeap_wf 1 (by omega), exHeap_wf 2 (by omega), rfl, rfl, rfl,
    (exHeap_data 3 (by omega) (by omega)).1, exHeap_wf 3 (by omega), rfl, (exHeap_data 3 (by omega) (by omega)).2.1,
    (exHeap_data 3 (by omega) (by omega)).2.2, fun v e he => by rw [exHeap_edges v] at he; cases he⟩

end C11r
end Qeep
