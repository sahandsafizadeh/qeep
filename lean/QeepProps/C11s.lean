import QeepProps.C11u
import QeepProps.C11t
import Mathlib.Tactic.IntervalCases
/-!
# C11 — the training LOOP of the two-layer network FC → Sigmoid → FC: every step succeeds, for every number of steps

`MLPInv`: the state before a step — reachable heap; four distinct parameter tensors that are tracked, unspent leaves of shapes
`[O], [O], [P], [P]` and that no tensor of the heap points at; an untracked, unspent `[N, D]` input. `mlp_step_inv`: one step
(forward through both layers, `BackPropagate`, `Update` + `ResetGradContext(true)` of the four parameters) succeeds and ends
in such a state again, with the input unchanged. `mlp_training_loop`: by induction any number of steps succeeds. What each
step does to the parameters is `mlp_train_step_leaf` (gradient descent on `Σ y₂` with the chain-rule derivatives; the
derivatives depend on the current parameters, so there is no closed form over `n` steps as there is for the single layer).
-/

namespace Qeep
namespace C11s
open RealScalar C01 C11x C11t C11u C11w C16x C16z C16w C15x C15w C11n

structure MLPInv (H : Heap ℝ) (w1 b1 w2 b2 x N D O P : Nat) : Prop where
  reach : Reach .sum H
  lw1 : Live H w1
  lb1 : Live H b1
  lw2 : Live H w2
  lb2 : Live H b2
  hx : x < H.size
  cx : H.dirty x = false
  ux : H.tracked x = false
  h12 : w1 ≠ b1
  h34 : w2 ≠ b2
  h13 : w1 ≠ w2
  h14 : w1 ≠ b2
  h23 : b1 ≠ w2
  h24 : b1 ≠ b2
  ww1 : (H.val w1).WF
  wb1 : (H.val b1).WF
  ww2 : (H.val w2).WF
  wb2 : (H.val b2).WF
  wx : (H.val x).WF
  dw1 : (H.val w1).dims = [O]
  db1 : (H.val b1).dims = [O]
  dw2 : (H.val w2).dims = [P]
  db2 : (H.val b2).dims = [P]
  dx : (H.val x).dims = [N, D]
  lf1 : (H.ctx w1).edges = []
  lf2 : (H.ctx b1).edges = []
  lf3 : (H.ctx w2).edges = []
  lf4 : (H.ctx b2).edges = []
  hsole : ∀ v, ∀ e ∈ (H.ctx v).edges, e.target ≠ w1 ∧ e.target ≠ b1 ∧ e.target ≠ w2 ∧ e.target ≠ b2

theorem reach_updateAll {bm : BMode} (lr : ℝ) : ∀ (ws : List Nat) (H H' : Heap ℝ) (rs : List Nat), Reach bm H →
    (∀ w ∈ ws, w < H.size) → updateAll lr ws H = .ok (rs, H') → Reach bm H' :=
  fun _ _ _ _ hR _ h => updateAll_reach hR h

/-- the new weights are newer than everything before and come in increasing order -/
theorem updateAll_sorted (lr : ℝ) : ∀ (ws : List Nat) (H H' : Heap ℝ) (rs : List Nat), (∀ w ∈ ws, w < H.size) →
    updateAll lr ws H = .ok (rs, H') → rs.Pairwise (· < ·) ∧ ∀ r ∈ rs, H.size ≤ r := by
  intro ws H H' rs _ h
  obtain ⟨_, _, ids⟩ := updateAll_ids h
  refine ⟨List.pairwise_iff_getElem.mpr fun i j hi hj hij => ?_, fun r hr => ?_⟩
  · have := ids i _ (List.getElem?_eq_getElem hi); have := ids j _ (List.getElem?_eq_getElem hj); omega
  · obtain ⟨k, hk⟩ := List.getElem?_of_mem hr
    have := ids k r hk; omega

/-- the four replacement weights `s + 5k + 4` are distinct, and none is below `s` -/
theorem new_ids {s r1 r2 r3 r4 : Nat} (i1 : r1 = s + 5 * 0 + 4) (i2 : r2 = s + 5 * 1 + 4) (i3 : r3 = s + 5 * 2 + 4)
    (i4 : r4 = s + 5 * 3 + 4) :
    (r1 ≠ r2 ∧ r3 ≠ r4 ∧ r1 ≠ r3 ∧ r1 ≠ r4 ∧ r2 ≠ r3 ∧ r2 ≠ r4) ∧ ∀ t, t < s → t ≠ r1 ∧ t ≠ r2 ∧ t ≠ r3 ∧ t ≠ r4 := by
  subst i1 i2 i3 i4
  exact ⟨by omega, fun t ht => by omega⟩

/-- **one step of the two-layer training loop keeps the loop's invariant** -/
theorem mlp_step_inv (lr : ℝ) {H : Heap ℝ} {w1 b1 w2 b2 x N D O P : Nat} (inv : MLPInv H w1 b1 w2 b2 x N D O P) :
    ∃ r1 r2 r3 r4 H', trainStep .sum lr (mlpForward w1 b1 w2 b2 x) [w1, b1, w2, b2] H = .ok ([r1, r2, r3, r4], H') ∧
      MLPInv H' r1 r2 r3 r4 x N D O P ∧ H'.val x = H.val x := by
  obtain ⟨hR, lw1, lb1, lw2, lb2, hx, cx, ux, h12, h34, h13, h14, h23, h24, ww1, wb1, ww2, wb2, wx, dw1, db1, dw2, db2, dx,
    lf1, lf2, lf3, lf4, hsole⟩ := inv
  obtain ⟨H1, H2, H3, q1, q2, q3, hav, hok, dW1, dB1, dW2, dB2, g1, g2, g3, g4, f1, f2, f3, f4, d1, d2, d3, d4, _⟩ :=
    mlp_backprop_leaf H w1 b1 w2 b2 x N D O P hR lw1 lb1 lw2 lb2 hx cx ux h12 h34 h13 h14 h23 h24 ww1 wb1 ww2 wb2 wx
      dw1 db1 dw2 db2 dx lf1 lf2 lf3 lf4 hsole
  obtain ⟨K1, K2, K3, M⟩ := mlp_forward_graph hR lw1 lb1 lw2 lb2 hx cx ww1 wb1 ww2 wb2 wx dw1 db1 dw2 db2 dx
  obtain rfl := (run_unique q1 M.r1).2
  obtain rfl := (run_unique q2 M.r2).2
  obtain rfl := (run_unique q3 M.r3).2
  obtain ⟨rs, H', hstep, hlen, R', sH', per, old, hedge⟩ := train_step_inv .sum lr _ (gs := [dW1, dB1, dW2, dB2]) M.reach
    (mlpForward_run q1 q2 q3) hok
    (.cons (weight_after M.ext lw1.1 g1 ww1 f1 (d1.trans dw1.symm)) (.cons (weight_after M.ext lb1.1 g2 wb1 f2
      (d2.trans db1.symm)) (.cons (weight_after M.ext lw2.1 g3 ww2 f3 (d3.trans dw2.symm)) (.cons (weight_after M.ext lb2.1
      g4 wb2 f4 (d4.trans db2.symm)) .nil))))
  match rs, hlen with
  | [r1, r2, r3, r4], _ =>
    obtain ⟨i1, c1, v1, k1⟩ := per 0 w1 dW1 r1 rfl rfl rfl
    obtain ⟨i2, c2, v2, k2⟩ := per 1 b1 dB1 r2 rfl rfl rfl
    obtain ⟨i3, c3, v3, k3⟩ := per 2 w2 dW2 r3 rfl rfl rfl
    obtain ⟨i4, c4, v4, k4⟩ := per 3 b2 dB2 r4 rfl rfl rfl
    rw [M.ext.val lw1.1] at v1; rw [M.ext.val lb1.1] at v2; rw [M.ext.val lw2.1] at v3; rw [M.ext.val lb2.1] at v4
    obtain ⟨l1, e1, _⟩ := freshLeaf_live c1
    obtain ⟨l2, e2, _⟩ := freshLeaf_live c2
    obtain ⟨l3, e3, _⟩ := freshLeaf_live c3
    obtain ⟨l4, e4, _⟩ := freshLeaf_live c4
    obtain ⟨⟨n12, n34, n13, n14, n23, n24⟩, nold⟩ := new_ids i1 i2 i3 i4
    obtain ⟨cx', vx'⟩ := untouched M.ext old hx ux
    exact ⟨r1, r2, r3, r4, H', hstep,
      ⟨R', l1, l2, l3, l4, Nat.lt_of_lt_of_le hx (Nat.le_trans M.ext.1 (sH' ▸ Nat.le_add_right _ _)),
        by rw [dirty_congr cx']; exact cx, by rw [tracked_congr cx']; exact ux, n12, n34, n13, n14, n23, n24, k1, k2, k3, k4,
        by rw [vx']; exact wx, by rw [v1]; exact dw1, by rw [v2]; exact db1, by rw [v3]; exact dw2, by rw [v4]; exact db2,
        by rw [vx']; exact dx, e1, e2, e3, e4,
        fun v e he => nold _ (hedge v e he)⟩, vx'⟩

/-- `n` steps of the two-layer training loop: each step hands the NEW parameter tensors to the next -/
noncomputable def steps (lr : ℝ) (x : Nat) : Nat → Nat × Nat × Nat × Nat → HM ℝ (Nat × Nat × Nat × Nat)
  | 0, ps => pure ps
  | n + 1, (w1, b1, w2, b2) => fun H =>
      match trainStep .sum lr (mlpForward w1 b1 w2 b2 x) [w1, b1, w2, b2] H with
      | .ok ([r1, r2, r3, r4], H') => steps lr x n (r1, r2, r3, r4) H'
      | .ok _ => .err
      | .err => .err
      | .panic => .panic

/-- **the whole loop**: from a state satisfying `MLPInv`, ANY number of training steps of the two-layer network succeeds, ends in
    such a state and leaves the input as it was (every single step is the gradient-descent step of `mlp_train_step_leaf`) -/
theorem mlp_training_loop (lr : ℝ) (x N D O P : Nat) : ∀ (n : Nat) (H : Heap ℝ) (w1 b1 w2 b2 : Nat),
    MLPInv H w1 b1 w2 b2 x N D O P →
    ∃ w1' b1' w2' b2' H', steps lr x n (w1, b1, w2, b2) H = .ok ((w1', b1', w2', b2'), H') ∧
      MLPInv H' w1' b1' w2' b2' x N D O P ∧ H'.val x = H.val x
  | 0, H, w1, b1, w2, b2, inv => ⟨w1, b1, w2, b2, H, rfl, inv, rfl⟩
  | n + 1, H, w1, b1, w2, b2, inv => by
    obtain ⟨r1, r2, r3, r4, H1, hstep, inv1, vx⟩ := mlp_step_inv lr inv
    obtain ⟨w1', b1', w2', b2', H', hrun, inv', vx'⟩ := mlp_training_loop lr x N D O P n H1 r1 r2 r3 r4 inv1
    refine ⟨w1', b1', w2', b2', H', ?_, inv', by rw [vx', vx]⟩
    show (match trainStep .sum lr (mlpForward w1 b1 w2 b2 x) [w1, b1, w2, b2] H with
        | .ok ([r1, r2, r3, r4], H') => steps lr x n (r1, r2, r3, r4) H'
        | .ok _ => .err
        | .err => .err
        | .panic => .panic) = _
    rw [hstep]
    exact hrun

/-- the invariant is satisfiable -/
example : ∃ (H : Heap ℝ) (w1 b1 w2 b2 x N D O P : Nat), MLPInv H w1 b1 w2 b2 x N D O P := by
  let H0 : Heap ℝ := #[⟨⟨[2], [3, 4]⟩, freshCtx true⟩]
  let H1 : Heap ℝ := H0.push ⟨⟨[2], [0, 1]⟩, freshCtx true⟩
  let H2 : Heap ℝ := H1.push ⟨⟨[1], [2]⟩, freshCtx true⟩
  let H3 : Heap ℝ := H2.push ⟨⟨[1], [5]⟩, freshCtx true⟩
  let H4 : Heap ℝ := #[⟨⟨[2], [3, 4]⟩, freshCtx true⟩, ⟨⟨[2], [0, 1]⟩, freshCtx true⟩, ⟨⟨[1], [2]⟩, freshCtx true⟩,
    ⟨⟨[1], [5]⟩, freshCtx true⟩, ⟨⟨[1, 3], [1, 2, 5]⟩, freshCtx false⟩]
  have r0 : Reach .sum H0 := Reach.leaf (v := ⟨[2], [3, 4]⟩) (b := true) (r := 0) Reach.empty rfl
  have r1 : Reach .sum H1 := Reach.leaf (v := ⟨[2], [0, 1]⟩) (b := true) (r := 1) r0 rfl
  have r2 : Reach .sum H2 := Reach.leaf (v := ⟨[1], [2]⟩) (b := true) (r := 2) r1 rfl
  have r3 : Reach .sum H3 := Reach.leaf (v := ⟨[1], [5]⟩) (b := true) (r := 3) r2 rfl
  have r4 : Reach .sum H4 := Reach.leaf (v := ⟨[1, 3], [1, 2, 5]⟩) (b := false) (r := 4) r3 rfl
  have hed : ∀ v, (H4.ctx v).edges = [] := by
    intro v
    by_cases h5 : v < 5
    · interval_cases v <;> rfl
    · exact congrArg Ctx.edges (ctx_of_size_le H4 (Nat.le_of_not_lt h5))
  have l0 : Live H4 0 := ⟨(by decide : 0 < 5), rfl, rfl⟩
  have l1 : Live H4 1 := ⟨(by decide : 1 < 5), rfl, rfl⟩
  have l2 : Live H4 2 := ⟨(by decide : 2 < 5), rfl, rfl⟩
  have l3 : Live H4 3 := ⟨(by decide : 3 < 5), rfl, rfl⟩
  have wf0 : (H4.val 0).WF := show (⟨[2], [3, 4]⟩ : Tensor ℝ).WF from ⟨rfl, by decide⟩
  have wf1 : (H4.val 1).WF := show (⟨[2], [0, 1]⟩ : Tensor ℝ).WF from ⟨rfl, by decide⟩
  have wf2 : (H4.val 2).WF := show (⟨[1], [2]⟩ : Tensor ℝ).WF from ⟨rfl, by decide⟩
  have wf3 : (H4.val 3).WF := show (⟨[1], [5]⟩ : Tensor ℝ).WF from ⟨rfl, by decide⟩
  have wf4 : (H4.val 4).WF := show (⟨[1, 3], [1, 2, 5]⟩ : Tensor ℝ).WF from ⟨rfl, by decide⟩
  exact ⟨H4, 0, 1, 2, 3, 4, 1, 3, 2, 1, r4, l0, l1, l2, l3,
    show 4 < 5 by omega, rfl, rfl, by omega, by omega, by omega, by omega, by omega, by omega, wf0, wf1, wf2, wf3, wf4, rfl, rfl, rfl, rfl, rfl,
    hed 0, hed 1, hed 2, hed 3, fun v e he => by rw [hed v] at he; cases he⟩

end C11s
end Qeep
