import QeepProps.C11w
/-!
# C11 — what the optimizer half of a step leaves in the heap

`sgd_nodes_no_edges`: `Update` on a SPENT weight (every weight is, after the back-propagation that gave it its gradient)
allocates five tensors — the gradient handed out, `lr·g`, the two `Broadcast` copies inside `Sub`, the result — none of which has
a back edge: the new weight cannot reach the old graph and nothing created by the step points at anything.
`updateAll_no_edges` / `updateAll_old`: the same for the whole optimizer half over any number of weights, and no context or value
of an older tensor changes. With these a loop invariant about "who points at the parameters" survives a training step.
They hold for every scalar domain (`C11.sgdUpdate_no_edges`, `C11x.updateAll_keeps`, `C11x.updateAll_leaves_no_edges`); here
they are stated over `ℝ`, as the loop invariants of `C11s` and `C11p` take them.
-/
set_option linter.unusedVariables false

namespace Qeep
namespace C11t
open RealScalar C01 C11x C15x

theorem dirtyCtx_edges : (dirtyCtx : Ctx ℝ).edges = [] := rfl

theorem sgd_nodes_no_edges (lr : ℝ) (H H' : Heap ℝ) (w r : Nat) (hw : w < H.size) (hd : H.dirty w = true)
    (h : sgdUpdate lr (some w) H = .ok (r, H')) : ∀ n, H.size ≤ n → (H'.ctx n).edges = [] :=
  C11.sgdUpdate_no_edges hd h

theorem updateAll_old (lr : ℝ) : ∀ (ws : List Nat) (H H' : Heap ℝ) (rs : List Nat), (∀ w ∈ ws, w < H.size) →
    updateAll lr ws H = .ok (rs, H') → H.size ≤ H'.size ∧ ∀ n, n < H.size → H'.ctx n = H.ctx n ∧ H'.val n = H.val n :=
  fun _ _ _ _ _ h => ⟨(updateAll_keeps h).1, fun n hn => ((updateAll_keeps h).2 n hn).symm⟩

/-- **nothing the optimizer half of a step creates has a back edge**, when every weight it updates is spent -/
theorem updateAll_no_edges (lr : ℝ) : ∀ (ws : List Nat) (H H' : Heap ℝ) (rs : List Nat),
    (∀ w ∈ ws, w < H.size ∧ H.dirty w = true) → updateAll lr ws H = .ok (rs, H') →
    ∀ n, H.size ≤ n → (H'.ctx n).edges = [] :=
  fun _ _ _ _ hws h => updateAll_leaves_no_edges hws h

end C11t
end Qeep
