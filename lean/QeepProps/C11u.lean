import QeepProps.C11v
import QeepProps.C11x
import QeepProps.C11z
import QeepProps.C15y
import QeepProps.C16t
import QeepProps.C15t
/-!
# C11 — the two-layer network: `BackPropagate` succeeds (leaf parameters, data input), hence the gradients unconditionally

`mlp_backprop_ok`: for FC → Sigmoid → FC over leaf parameters and an untracked, unspent input, the walk from the output
returns without error, in either mode: `C01p.backprop_ok` with the shape invariant `mlpShape`, the per-edge lemmas `C16t.fc_edge_ok`
(both layers) and `C15t.sg_edge_ok`, over the forward graph `C11n.MLPGraph`; the walk visits new tensors and the four
parameters only (`visited`).
-/

namespace Qeep
namespace C11u
open RealScalar C01 C01x C01z C01w C01q C16x C16z C16w C16u C16t C15x C15z C15u C15t C11n

/-- the shape of every gradient on the walk through FC(D→O) → Sigmoid → FC(O→P) built on a heap of size `k` -/
def mlpShape (k N D O P w2 b2 : Nat) (n : Nat) : List Nat :=
  if k + 16 ≤ n then fcShape N O P (n - (k + 16))
  else if k + 9 ≤ n then [N, O]
  else if k ≤ n then fcShape N D O (n - k)
  else if n = w2 ∨ n = b2 then [P]
  else [O]

section shape
variable {k N D O P w1 b1 w2 b2 x n t : Nat}

theorem mlpShape_fc2 (h : k + 16 ≤ n) : mlpShape k N D O P w2 b2 n = fcShape N O P (n - (k + 16)) := if_pos h

theorem mlpShape_sg (h1 : k + 9 ≤ n) (h2 : n < k + 16) : mlpShape k N D O P w2 b2 n = [N, O] := by
  rw [mlpShape, if_neg (by omega), if_pos h1]

theorem mlpShape_fc1 (h1 : k ≤ n) (h2 : n < k + 9) : mlpShape k N D O P w2 b2 n = fcShape N D O (n - k) := by
  rw [mlpShape, if_neg (by omega), if_neg (by omega), if_pos h1]

theorem mlpShape_old (h : n < k) : mlpShape k N D O P w2 b2 n = if n = w2 ∨ n = b2 then [P] else [O] := by
  rw [mlpShape, if_neg (by omega), if_neg (by omega), if_neg (by omega)]

/-- at the targets of the first layer's back edges `mlpShape` is the layer's own `fcTargetShape` -/
theorem target_fc1 (hw1 : w1 < k) (hb1 : b1 < k) (hx : x < k) (h13 : w1 ≠ w2) (h14 : w1 ≠ b2) (h23 : b1 ≠ w2) (h24 : b1 ≠ b2)
    (ht : t = w1 ∨ t = b1 ∨ (k ≤ t ∧ t < k + 9)) :
    fcTargetShape N D O w1 b1 x k t = mlpShape k N D O P w2 b2 t := by
  rcases ht with rfl | rfl | ⟨h1, h2⟩
  · rw [mlpShape_old hw1, if_neg (by omega), fcTargetShape, if_pos (Or.inl rfl)]
  · rw [mlpShape_old hb1, if_neg (by omega), fcTargetShape, if_pos (Or.inr rfl)]
  · rw [mlpShape_fc1 h1 h2, fcTargetShape, if_neg (by omega), if_neg (by omega)]

/-- the same for the second layer, whose input is the activation's result -/
theorem target_fc2 (hw2 : w2 < k) (hb2 : b2 < k) (ht : t = w2 ∨ t = b2 ∨ (k + 15 ≤ t ∧ t < k + 25)) :
    fcTargetShape N O P w2 b2 (k + 9 + 6) (k + 16) t = mlpShape k N D O P w2 b2 t := by
  rcases ht with rfl | rfl | ⟨h1, h2⟩
  · rw [mlpShape_old hw2, if_pos (Or.inl rfl), fcTargetShape, if_pos (Or.inl rfl)]
  · rw [mlpShape_old hb2, if_pos (Or.inr rfl), fcTargetShape, if_pos (Or.inr rfl)]
  · by_cases h : t = k + 9 + 6
    · rw [mlpShape_sg (by omega) (by omega), fcTargetShape, if_neg (by omega), if_pos h]
    · rw [mlpShape_fc2 (by omega), fcTargetShape, if_neg (by omega), if_neg h]

end shape

/-- with leaf parameters and a data input the walk from the output visits new tensors and the four parameters only -/
theorem visited {bm : BMode} {H H1 H2 H3 : Heap ℝ} {w1 b1 w2 b2 x N D O P : Nat}
    (M : MLPGraph bm H H1 H2 H3 w1 b1 w2 b2 x N D O P) (hx : x < H.size) (ux : H.tracked x = false)
    (lf : ∀ n, n = w1 ∨ n = b1 ∨ n = w2 ∨ n = b2 → (H.ctx n).edges = []) :
    ∀ v ∈ backwardOrder H3 (H.size + 16 + 8), H.size ≤ v ∨ v = w1 ∨ v = b1 ∨ v = w2 ∨ v = b2 := by
  apply order_subset H3 (H.size + 16 + 8)
  · left; omega
  · intro u hu v hv
    obtain ⟨htv, e, he, rfl⟩ := mem_succs.mp hv
    rcases M.foot u e he with ⟨h, hm⟩ | ⟨_, _, h⟩ | ⟨_, _, h, _⟩ | ⟨_, _, h⟩
    · rw [lf u (hu.resolve_left (Nat.not_le.mpr h))] at hm; cases hm
    · rcases h with h | h | h | h
      · exact .inr (.inl h)
      · exact .inr (.inr (.inl h))
      · rw [h, M.ext.tracked hx, ux] at htv; cases htv
      · exact .inl h.1
    · exact .inl (Nat.le_trans (Nat.le_add_right _ 8) h)
    · rcases h with h | h | h
      · exact .inr (.inr (.inr (.inl h)))
      · exact .inr (.inr (.inr (.inr h)))
      · exact .inl (Nat.le_trans (Nat.le_add_right _ 15) h.1)

theorem mlp_backprop_ok (bm : BMode) (H : Heap ℝ) (w1 b1 w2 b2 x N D O P : Nat) (hR : Reach bm H)
    (lw1 : Live H w1) (lb1 : Live H b1) (lw2 : Live H w2) (lb2 : Live H b2)
    (hx : x < H.size) (cx : H.dirty x = false) (ux : H.tracked x = false)
    (h12 : w1 ≠ b1) (h34 : w2 ≠ b2) (h13 : w1 ≠ w2) (h14 : w1 ≠ b2) (h23 : b1 ≠ w2) (h24 : b1 ≠ b2)
    (ww1 : (H.val w1).WF) (wb1 : (H.val b1).WF) (ww2 : (H.val w2).WF) (wb2 : (H.val b2).WF) (wx : (H.val x).WF)
    (dw1 : (H.val w1).dims = [O]) (db1 : (H.val b1).dims = [O]) (dw2 : (H.val w2).dims = [P]) (db2 : (H.val b2).dims = [P])
    (dx : (H.val x).dims = [N, D])
    (lf1 : (H.ctx w1).edges = []) (lf2 : (H.ctx b1).edges = []) (lf3 : (H.ctx w2).edges = []) (lf4 : (H.ctx b2).edges = [])
    (K1 K2 K3 : Heap ℝ) (q1 : fcForward ⟨some w1, some b1⟩ [some x] H = .ok (H.size + 8, K1))
    (q2 : actForward Activation.sigmoid [some (H.size + 8)] K1 = .ok (H.size + 9 + 6, K2))
    (q3 : fcForward ⟨some w2, some b2⟩ [some (H.size + 9 + 6)] K2 = .ok (H.size + 16 + 8, K3)) :
    (backprop bm K3 (H.size + 16 + 8)).status = .ok () := by
  obtain ⟨H1, H2, H3, M⟩ := mlp_forward_graph hR lw1 lb1 lw2 lb2 hx cx ww1 wb1 ww2 wb2 wx dw1 db1 dw2 db2 dx
  obtain rfl := (C15w.run_unique M.r1 q1).2
  obtain rfl := (C15w.run_unique M.r2 q2).2
  obtain rfl := (C15w.run_unique M.r3 q3).2
  have hw1 := lw1.1; have hb1 := lb1.1; have hw2 := lw2.1; have hb2 := lb2.1
  have hdag := reach_dag M.reach
  have htr := M.ly3.2.1
  have ux3 : H3.tracked x = false := by rw [M.ext.tracked hx]; exact ux
  have lf : ∀ n, n = w1 ∨ n = b1 ∨ n = w2 ∨ n = b2 → (H.ctx n).edges = [] := by
    rintro n (rfl | rfl | rfl | rfl) <;> assumption
  have hM := visited M hx ux lf
  have tf1 := fun t => target_fc1 (N := N) (D := D) (O := O) (P := P) (t := t) hw1 hb1 hx h13 h14 h23 h24
  have dy1 : (H3.val (H.size + 8)).dims = [N, O] := M.g1.y.dims
  apply C01p.backprop_ok bm H3 (H.size + 16 + 8) hdag htr (fun n g => Shaped (mlpShape H.size N D O P w2 b2 n) g)
  · exact fun n a b' ha hb => C15w.shaped_add_ok _ a b' ha hb
  · intro n hn gg hgg
    have : H3.grad n = none := by
      rcases hM n hn with h | rfl | rfl | rfl | rfl
      · exact M.fresh n h
      · exact (live_after hR M.ext lw1).2.2
      · exact (live_after hR M.ext lb1).2.2
      · exact (live_after hR M.ext lw2).2.2
      · exact (live_after hR M.ext lb2).2.2
    rw [this] at hgg; cases hgg
  · show Shaped (mlpShape H.size N D O P w2 b2 (H.size + 16 + 8)) _
    rw [mlpShape_fc2 (Nat.le_add_right _ _), Nat.add_sub_cancel_left]
    have := ones_shaped (H3.val (H.size + 16 + 8)) M.g3.y.wf
    rwa [M.g3.y.dims] at this
  · intro u hu e he htt gy hgy
    rw [evalRule_val_congr bm _ H3 (fun n => markDirty_val _ _ n)]
    rcases M.edge_cases u e he with ⟨h1, hm⟩ | ⟨i, hi, rfl, hm⟩ | ⟨i, hi, rfl, hm⟩ | ⟨i, hi, rfl, hm⟩
    · rw [lf u ((hM u hu).resolve_left (Nat.not_le.mpr h1))] at hm; cases hm
    ·
      rw [mlpShape_fc1 (Nat.le_add_right _ _) (Nat.add_lt_add_left (Nat.lt_succ_of_le hi) _), Nat.add_sub_cancel_left] at hgy
      have ht := C11n.fcEdges_target hi hm
      have hne : e.target ≠ x := by intro h'; rw [h', ux3] at htt; cases htt
      have ht' : e.target = w1 ∨ e.target = b1 ∨ (H.size ≤ e.target ∧ e.target < H.size + 9) := by omega
      have hxw1 : x ≠ w1 := by intro h; rw [h, dw1] at dx; cases dx
      have hxb1 : x ≠ b1 := by intro h; rw [h, db1] at dx; cases dx
      obtain ⟨g', q1', q2'⟩ := fc_edge_ok bm M.g1 hw1 hb1 hx hxw1 hxb1 i hi e hm gy hgy
      rw [tf1 _ ht'] at q2'
      exact ⟨g', q1', q2'⟩
    ·
      rw [mlpShape_sg (Nat.le_add_right _ _) (sg_lt _ (Nat.lt_succ_of_le hi)), ← dy1] at hgy
      obtain ⟨g', q1', q2'⟩ := sg_edge_ok bm H3 (H.size + 8) (H.size + 9) M.g1.y.wf M.v2 M.v3 M.v4 M.v5 i hi e hm gy hgy
      refine ⟨g', q1', ?_⟩
      rw [dy1] at q2'
      rcases sgEdges_target hi hm with h | h
      · rw [h, mlpShape_fc1 (Nat.le_add_right _ _) (Nat.add_lt_add_left (by decide) _), Nat.add_sub_cancel_left]; exact q2'
      · rw [mlpShape_sg h.1 (Nat.lt_trans h.2 (sg_lt _ (Nat.lt_succ_of_le hi)))]; exact q2'
    ·
      rw [mlpShape_fc2 (Nat.le_add_right _ _), Nat.add_sub_cancel_left] at hgy
      obtain ⟨g', q1', q2'⟩ := fc_edge_ok bm M.g3 (Nat.lt_add_right 16 hw2) (Nat.lt_add_right 16 hb2) (sg_lt _ (by decide))
        (Nat.ne_of_gt (Nat.lt_add_right 6 (Nat.lt_add_right 9 hw2))) (Nat.ne_of_gt (Nat.lt_add_right 6 (Nat.lt_add_right 9 hb2)))
        i hi e hm gy hgy
      have ht := C11n.fcEdges_target hi hm
      rw [target_fc2 hw2 hb2 (by omega)] at q2'
      exact ⟨g', q1', q2'⟩

/-- **FC → Sigmoid → FC over leaf parameters and a data input: everything succeeds and the four gradients are the chain-rule
    derivatives** (`sum` mode) — no hypothesis about the outcome of the walk -/
theorem mlp_backprop_leaf (H : Heap ℝ) (w1 b1 w2 b2 x N D O P : Nat) (hR : Reach .sum H)
    (lw1 : Live H w1) (lb1 : Live H b1) (lw2 : Live H w2) (lb2 : Live H b2)
    (hx : x < H.size) (cx : H.dirty x = false) (ux : H.tracked x = false)
    (h12 : w1 ≠ b1) (h34 : w2 ≠ b2) (h13 : w1 ≠ w2) (h14 : w1 ≠ b2) (h23 : b1 ≠ w2) (h24 : b1 ≠ b2)
    (ww1 : (H.val w1).WF) (wb1 : (H.val b1).WF) (ww2 : (H.val w2).WF) (wb2 : (H.val b2).WF) (wx : (H.val x).WF)
    (dw1 : (H.val w1).dims = [O]) (db1 : (H.val b1).dims = [O]) (dw2 : (H.val w2).dims = [P]) (db2 : (H.val b2).dims = [P])
    (dx : (H.val x).dims = [N, D])
    (lf1 : (H.ctx w1).edges = []) (lf2 : (H.ctx b1).edges = []) (lf3 : (H.ctx w2).edges = []) (lf4 : (H.ctx b2).edges = [])
    (hsole : ∀ v, ∀ e ∈ (H.ctx v).edges, e.target ≠ w1 ∧ e.target ≠ b1 ∧ e.target ≠ w2 ∧ e.target ≠ b2) :
    ∃ H1 H2 H3, fcForward ⟨some w1, some b1⟩ [some x] H = .ok (H.size + 8, H1) ∧
      actForward Activation.sigmoid [some (H.size + 8)] H1 = .ok (H.size + 9 + 6, H2) ∧
      fcForward ⟨some w2, some b2⟩ [some (H.size + 9 + 6)] H2 = .ok (H.size + 16 + 8, H3) ∧
      (∀ n o, n < N → o < O → (H2.val (H.size + 9 + 6)).el [n, o] = sig ((H1.val (H.size + 8)).el [n, o])) ∧
      (backprop .sum H3 (H.size + 16 + 8)).status = .ok () ∧
        ∃ dW1 dB1 dW2 dB2,
          (backprop .sum H3 (H.size + 16 + 8)).heap.grad w1 = some dW1 ∧ (backprop .sum H3 (H.size + 16 + 8)).heap.grad b1 = some dB1 ∧
          (backprop .sum H3 (H.size + 16 + 8)).heap.grad w2 = some dW2 ∧ (backprop .sum H3 (H.size + 16 + 8)).heap.grad b2 = some dB2 ∧
          dW1.WF ∧ dB1.WF ∧ dW2.WF ∧ dB2.WF ∧ dW1.dims = [O] ∧ dB1.dims = [O] ∧ dW2.dims = [P] ∧ dB2.dims = [P] ∧
          (∀ o, o < O → dW1.el [o] = ∑ n ∈ Finset.range N,
              ((∑ p ∈ Finset.range P, (H.val w2).el [p]) *
                (sig ((H1.val (H.size + 8)).el [n, o]) * (1 - sig ((H1.val (H.size + 8)).el [n, o]))))
                * ∑ d ∈ Finset.range D, (H.val x).el [n, d]) ∧
          (∀ o, o < O → dB1.el [o] = ∑ n ∈ Finset.range N,
              (∑ p ∈ Finset.range P, (H.val w2).el [p]) *
                (sig ((H1.val (H.size + 8)).el [n, o]) * (1 - sig ((H1.val (H.size + 8)).el [n, o])))) ∧
          (∀ p, p < P → dW2.el [p] = ∑ n ∈ Finset.range N, ∑ o ∈ Finset.range O, (H2.val (H.size + 9 + 6)).el [n, o]) ∧
          (∀ p, p < P → dB2.el [p] = (N : ℝ)) := by
  obtain ⟨H1, H2, H3, r1, r2, r3, hav, himp⟩ := C11v.mlp_backprop H w1 b1 w2 b2 x N D O P hR lw1 lb1 lw2 lb2 hx cx
    h12 h34 h13 h14 h23 h24 ww1 wb1 ww2 wb2 wx dw1 db1 dw2 db2 dx hsole
  have hok := mlp_backprop_ok .sum H w1 b1 w2 b2 x N D O P hR lw1 lb1 lw2 lb2 hx cx ux h12 h34 h13 h14 h23 h24 ww1 wb1 ww2 wb2 wx
    dw1 db1 dw2 db2 dx lf1 lf2 lf3 lf4 H1 H2 H3 r1 r2 r3
  exact ⟨H1, H2, H3, r1, r2, r3, hav, hok, himp hok⟩

noncomputable def mlpForward (w1 b1 w2 b2 x : Nat) : HM ℝ Nat := do
  let y1 ← fcForward ⟨some w1, some b1⟩ [some x]
  let a ← actForward Activation.sigmoid [some y1]
  fcForward ⟨some w2, some b2⟩ [some a]

theorem mlpForward_run {H H1 H2 H3 : Heap ℝ} {w1 b1 w2 b2 x y a r : Nat}
    (q1 : fcForward ⟨some w1, some b1⟩ [some x] H = .ok (y, H1))
    (q2 : actForward Activation.sigmoid [some y] H1 = .ok (a, H2))
    (q3 : fcForward ⟨some w2, some b2⟩ [some a] H2 = .ok (r, H3)) : mlpForward w1 b1 w2 b2 x H = .ok (r, H3) := by
  unfold mlpForward
  rw [bind_run q1, bind_run q2]
  exact q3

/-- **one whole SGD step on the two-layer network** (`sum` mode; leaf parameters, data input): forward, `BackPropagate`,
    `Update` + `ResetGradContext(true)` of all four parameters — everything succeeds, and every parameter is replaced by a fresh
    tracked leaf holding `θ − lr·∂(Σ y₂)/∂θ` with the chain-rule derivatives of `mlp_backprop` -/
theorem mlp_train_step_leaf (lr : ℝ) (H : Heap ℝ) (w1 b1 w2 b2 x N D O P : Nat) (hR : Reach .sum H)
    (lw1 : Live H w1) (lb1 : Live H b1) (lw2 : Live H w2) (lb2 : Live H b2)
    (hx : x < H.size) (cx : H.dirty x = false) (ux : H.tracked x = false)
    (h12 : w1 ≠ b1) (h34 : w2 ≠ b2) (h13 : w1 ≠ w2) (h14 : w1 ≠ b2) (h23 : b1 ≠ w2) (h24 : b1 ≠ b2)
    (ww1 : (H.val w1).WF) (wb1 : (H.val b1).WF) (ww2 : (H.val w2).WF) (wb2 : (H.val b2).WF) (wx : (H.val x).WF)
    (dw1 : (H.val w1).dims = [O]) (db1 : (H.val b1).dims = [O]) (dw2 : (H.val w2).dims = [P]) (db2 : (H.val b2).dims = [P])
    (dx : (H.val x).dims = [N, D])
    (lf1 : (H.ctx w1).edges = []) (lf2 : (H.ctx b1).edges = []) (lf3 : (H.ctx w2).edges = []) (lf4 : (H.ctx b2).edges = [])
    (hsole : ∀ v, ∀ e ∈ (H.ctx v).edges, e.target ≠ w1 ∧ e.target ≠ b1 ∧ e.target ≠ w2 ∧ e.target ≠ b2) :
    ∃ r1 r2 r3 r4 H' Y1, C11x.trainStep .sum lr (mlpForward w1 b1 w2 b2 x) [w1, b1, w2, b2] H = .ok ([r1, r2, r3, r4], H') ∧
      H'.ctx r1 = C11x.freshLeaf ∧ H'.ctx r2 = C11x.freshLeaf ∧ H'.ctx r3 = C11x.freshLeaf ∧ H'.ctx r4 = C11x.freshLeaf ∧
      Is2 Y1 N O (fun n o => (H.val w1).el [o] * (∑ d ∈ Finset.range D, (H.val x).el [n, d]) + (H.val b1).el [o]) ∧
      (∀ o, o < O → (H'.val r1).el [o] = (H.val w1).el [o] - lr * ∑ n ∈ Finset.range N,
          ((∑ p ∈ Finset.range P, (H.val w2).el [p]) * (sig (Y1.el [n, o]) * (1 - sig (Y1.el [n, o])))) * ∑ d ∈ Finset.range D, (H.val x).el [n, d]) ∧
      (∀ o, o < O → (H'.val r2).el [o] = (H.val b1).el [o] - lr * ∑ n ∈ Finset.range N,
          (∑ p ∈ Finset.range P, (H.val w2).el [p]) * (sig (Y1.el [n, o]) * (1 - sig (Y1.el [n, o])))) ∧
      (∀ p, p < P → (H'.val r3).el [p] = (H.val w2).el [p] - lr * ∑ n ∈ Finset.range N, ∑ o ∈ Finset.range O, sig (Y1.el [n, o])) ∧
      (∀ p, p < P → (H'.val r4).el [p] = (H.val b2).el [p] - lr * (N : ℝ)) := by
  obtain ⟨H1, H2, H3, q1, q2, q3, hav, hok, dW1, dB1, dW2, dB2, g1, g2, g3, g4, f1, f2, f3, f4, d1, d2, d3, d4, e1, e2, e3, e4⟩ :=
    mlp_backprop_leaf H w1 b1 w2 b2 x N D O P hR lw1 lb1 lw2 lb2 hx cx ux h12 h34 h13 h14 h23 h24 ww1 wb1 ww2 wb2 wx
      dw1 db1 dw2 db2 dx lf1 lf2 lf3 lf4 hsole
  have xe : Extends H H3 :=
    ((frame_fcForward _ _ H _ H1 q1).trans (frame_actForward _ _ H1 _ H2 q2)).trans (frame_fcForward _ _ H2 _ H3 q3)
  obtain ⟨rs, H', hstep, hlen, _, hspec⟩ := C11x.train_step_law .sum lr (mlpForward w1 b1 w2 b2 x) [w1, b1, w2, b2] H H3
    (H.size + 16 + 8) (mlpForward_run q1 q2 q3) hok [dW1, dB1, dW2, dB2] rfl
    (C11x.hall_of_forall₂ (.cons (weight_after xe lw1.1 g1 ww1 f1 (d1.trans dw1.symm)) (.cons (weight_after xe lb1.1 g2 wb1 f2
      (d2.trans db1.symm)) (.cons (weight_after xe lw2.1 g3 ww2 f3 (d3.trans dw2.symm)) (.cons (weight_after xe lb2.1 g4
      wb2 f4 (d4.trans db2.symm)) .nil)))))
  obtain ⟨y', H1', qq, _, wy, dy, ely, _⟩ := fc_forward_backward N D O w1 b1 x H lw1.1 lb1.1 hx ww1 wb1 wx dw1 db1 dx
    ⟨[N, O], List.replicate (N * O) 0⟩ ⟨by simp [prod], by
      intro d hd
      have hN := (is2_self _ wx N D dx).pos.1
      have hO := (is1_self _ ww1 O dw1).pos
      simp at hd; rcases hd with rfl | rfl <;> assumption⟩ rfl
  obtain ⟨ey, eH⟩ := C15w.run_unique q1 qq
  subst ey eH
  match rs, hlen with
  | [r1, r2, r3, r4], _ =>
    obtain ⟨_, v1, c1⟩ := hspec 0 w1 dW1 r1 rfl rfl rfl
    obtain ⟨_, v2, c2⟩ := hspec 1 b1 dB1 r2 rfl rfl rfl
    obtain ⟨_, v3, c3⟩ := hspec 2 w2 dW2 r3 rfl rfl rfl
    obtain ⟨_, v4, c4⟩ := hspec 3 b2 dB2 r4 rfl rfl rfl
    rw [xe.val lw1.1] at v1; rw [xe.val lb1.1] at v2; rw [xe.val lw2.1] at v3; rw [xe.val lb2.1] at v4
    refine ⟨r1, r2, r3, r4, H', H1.val (H.size + 8), hstep, c1, c2, c3, c4, ⟨wy, dy, ely⟩, ?_, ?_, ?_, ?_⟩
    · intro o ho
      rw [v1, C11z.stepped_el ww1 f1 (d1.trans dw1.symm) (by rw [dw1]; exact valid1 ho), e1 o ho]
    · intro o ho
      rw [v2, C11z.stepped_el wb1 f2 (d2.trans db1.symm) (by rw [db1]; exact valid1 ho), e2 o ho]
    · intro p hp
      rw [v3, C11z.stepped_el ww2 f3 (d3.trans dw2.symm) (by rw [dw2]; exact valid1 hp), e3 p hp]
      congr 2
      exact Finset.sum_congr rfl fun n hn => Finset.sum_congr rfl fun o ho =>
        hav n o (Finset.mem_range.mp hn) (Finset.mem_range.mp ho)
    · intro p hp
      rw [v4, C11z.stepped_el wb2 f4 (d4.trans db2.symm) (by rw [db2]; exact valid1 hp), e4 p hp]

end C11u
end Qeep
