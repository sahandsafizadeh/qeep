import QeepProps.C11n
/-!
# C11 — a two-layer network end to end: FC → Sigmoid → FC

`mlp_backprop`: on any heap the public API can build, with two FC layers whose four parameter tensors are distinct, tracked,
unspent and not consumed elsewhere, and an unspent input `x : [N, D]`: run `y₁ = FC₁(x)`, `a = Sigmoid(y₁)`, `y₂ = FC₂(a)` and
`BackPropagate(y₂)`. If the walk returns without error then (`sum` mode) the four gradients are the partial derivatives of
`Σ y₂` by the chain rule:

* `W₂.Gradient()[p] = Σ_n Σ_o a[n][o]`, `B₂.Gradient()[p] = N`,
* `W₁.Gradient()[o] = Σ_n (Σ_p W₂[p])·σ'(y₁[n][o])·Σ_d x[n][d]`, `B₁.Gradient()[o] = Σ_n (Σ_p W₂[p])·σ'(y₁[n][o])`.

The proof composes four component theorems about the REAL walk, each applied to the same 25-tensor graph: `fc_in_walk_sum`
(FC₂'s parameters), `fc_x_in_walk` (what FC₂ passes to its input), `sigmoid_in_walk`, `fc_in_walk_sum` (FC₁'s parameters).
-/

namespace Qeep
namespace C11v
open RealScalar C01 C01x C01z C01w C01q C16x C16z C16w C16u C15x C15z C15u C11n

theorem mlp_backprop (H : Heap ℝ) (w1 b1 w2 b2 x N D O P : Nat) (hR : Reach .sum H)
    (lw1 : Live H w1) (lb1 : Live H b1) (lw2 : Live H w2) (lb2 : Live H b2)
    (hx : x < H.size) (cx : H.dirty x = false)
    (h12 : w1 ≠ b1) (h34 : w2 ≠ b2) (h13 : w1 ≠ w2) (h14 : w1 ≠ b2) (h23 : b1 ≠ w2) (h24 : b1 ≠ b2)
    (ww1 : (H.val w1).WF) (wb1 : (H.val b1).WF) (ww2 : (H.val w2).WF) (wb2 : (H.val b2).WF) (wx : (H.val x).WF)
    (dw1 : (H.val w1).dims = [O]) (db1 : (H.val b1).dims = [O]) (dw2 : (H.val w2).dims = [P]) (db2 : (H.val b2).dims = [P])
    (dx : (H.val x).dims = [N, D])
    (hsole : ∀ v, ∀ e ∈ (H.ctx v).edges, e.target ≠ w1 ∧ e.target ≠ b1 ∧ e.target ≠ w2 ∧ e.target ≠ b2) :
    ∃ H1 H2 H3, fcForward ⟨some w1, some b1⟩ [some x] H = .ok (H.size + 8, H1) ∧
      actForward Activation.sigmoid [some (H.size + 8)] H1 = .ok (H.size + 9 + 6, H2) ∧
      fcForward ⟨some w2, some b2⟩ [some (H.size + 9 + 6)] H2 = .ok (H.size + 16 + 8, H3) ∧
      (∀ n o, n < N → o < O → (H2.val (H.size + 9 + 6)).el [n, o] = sig ((H1.val (H.size + 8)).el [n, o])) ∧
      ((backprop .sum H3 (H.size + 16 + 8)).status = .ok () →
        ∃ dW1 dB1 dW2 dB2,
          (backprop .sum H3 (H.size + 16 + 8)).heap.grad w1 = some dW1 ∧ (backprop .sum H3 (H.size + 16 + 8)).heap.grad b1 = some dB1 ∧
          (backprop .sum H3 (H.size + 16 + 8)).heap.grad w2 = some dW2 ∧ (backprop .sum H3 (H.size + 16 + 8)).heap.grad b2 = some dB2 ∧
          dW1.WF ∧ dB1.WF ∧ dW2.WF ∧ dB2.WF ∧ dW1.dims = [O] ∧ dB1.dims = [O] ∧ dW2.dims = [P] ∧ dB2.dims = [P] ∧
          (∀ o, o < O → dW1.el [o] = ∑ n ∈ Finset.range N,
              ((∑ p ∈ Finset.range P, (H.val w2).el [p]) * (sig ((H1.val (H.size + 8)).el [n, o]) * (1 - sig ((H1.val (H.size + 8)).el [n, o]))))
                * ∑ d ∈ Finset.range D, (H.val x).el [n, d]) ∧
          (∀ o, o < O → dB1.el [o] = ∑ n ∈ Finset.range N,
              (∑ p ∈ Finset.range P, (H.val w2).el [p]) * (sig ((H1.val (H.size + 8)).el [n, o]) * (1 - sig ((H1.val (H.size + 8)).el [n, o])))) ∧
          (∀ p, p < P → dW2.el [p] = ∑ n ∈ Finset.range N, ∑ o ∈ Finset.range O, (H2.val (H.size + 9 + 6)).el [n, o]) ∧
          (∀ p, p < P → dB2.el [p] = (N : ℝ))) := by
  have hw1 := lw1.1; have hb1 := lb1.1; have hw2 := lw2.1; have hb2 := lb2.1
  obtain ⟨H1, H2, H3, M⟩ := mlp_forward_graph hR lw1 lb1 lw2 lb2 hx cx ww1 wb1 ww2 wb2 wx dw1 db1 dw2 db2 dx
  refine ⟨H1, H2, H3, M.r1, M.r2, M.r3, M.sig_el, fun hok => ?_⟩
  have hdag := reach_dag M.reach
  have hdagH := reach_dag hR
  obtain ⟨tw1, cw1, gw1⟩ := live_after hR M.ext lw1
  obtain ⟨tb1, cb1, gb1⟩ := live_after hR M.ext lb1
  obtain ⟨tw2, cw2, gw2⟩ := live_after hR M.ext lw2
  obtain ⟨tb2, cb2, gb2⟩ := live_after hR M.ext lb2
  have cx3 : H3.dirty x = false := by rw [M.ext.dirty hx]; exact cx
  have htr := M.ly3.2.1
  obtain ⟨hroot, _, _, _⟩ := backwardOrder_spec H3 (H.size + 16 + 8) hdag htr
  -- the root keeps the all-ones seed
  have hG : Is2 (vPow (H3.val (H.size + 16 + 8)) Scalar.zero) N P (fun _ _ => 1) := ones_is2 _ N P _ M.g3.y
  have f24 := grad_root .sum H3 (H.size + 16 + 8) hdag htr hok (M.fresh _ (by omega)) M.g3.y.wf
  have hxw2 : x ≠ w2 := by intro h; rw [h, dw2] at dx; simp at dx
  have hxb2 : x ≠ b2 := by intro h; rw [h, db2] at dx; simp at dx
  obtain ⟨dW2, dB2, q1, q2, q3, q4, q5, q6, q7, q8⟩ := fc_in_walk_sum H3 (H.size + 16 + 8) w2 b2 (H.size + 9 + 6)
    (H.size + 16) N O P hdag htr hok M.g3 (by omega) (by omega) (by omega) h34 tw2 tb2 cw2 cb2 M.la.2.2 gw2 gb2
    (fun i hi => M.fresh _ (by omega)) (by omega) (by omega) (by intro i hi; omega)
    (fun v _ hv e he => M.sole_fc2 hdagH hw1 hb1 hw2 hb2 hx h13 h14 h23 h24 hxw2 hxb2
      (fun v e he => (hsole v e he).2.2) v hv e he)
    _ _ hG hroot f24
  obtain ⟨dA, pA, wA, dAd, eA⟩ := fc_x_in_walk .sum H3 (H.size + 16 + 8) w2 b2 (H.size + 9 + 6) (H.size + 16) N O P hdag
    htr hok M.g3 (by omega) (by omega) (by omega) M.la.2.1 cw2 cb2 M.la.2.2 (M.fresh _ (by omega))
    (fun i hi => M.fresh _ (by omega)) (by omega) (by intro i hi; omega)
    (fun v _ hv e he => M.sole_x2 hdagH hw1 hb1 hw2 hb2 hx v hv e he) _ _ hG hroot f24
  have mA := mem_order_of_grad hdag (M.fresh _ (by omega)) pA
  have wY : (H3.val (H.size + 8)).WF := M.g1.y.wf
  have hdd : dA.dims = (H3.val (H.size + 8)).dims := by rw [dAd, M.g1.y.dims]
  have pY := sigmoid_in_walk .sum H3 (H.size + 16 + 8) (H.size + 8) (H.size + 9) hdag htr hok wY (by omega)
    M.v2 M.v3 M.v4 M.v5 M.sg M.ly1.2.1 (M.fresh _ (by omega)) (by omega) (by intro i hi; omega)
    (fun v _ hv e he => M.sole_sg hdagH hw1 hb1 hw2 hb2 hx v hv e he) dA wA hdd mA pA
  have mY := mem_order_of_grad hdag (M.fresh _ (by omega)) pY
  have GY : Is2 (gz dA (H3.val (H.size + 8)) (fun a => sig a * (1 - sig a))) N O
      (fun n o => dA.el [n, o] * (sig ((H1.val (H.size + 8)).el [n, o]) * (1 - sig ((H1.val (H.size + 8)).el [n, o])))) := by
    refine ⟨gz_wf dA _ _ wY wA hdd, by rw [gz_dims, dAd], ?_⟩
    intro n o hn ho
    unfold gz
    rw [Qeep.C15y.zip_el _ dA (H3.val (H.size + 8)) wA wY hdd (by rw [dAd]; exact valid2 hn ho), M.vy]
  obtain ⟨dW1, dB1, p1, p2, p3, p4, p5, p6, p7, p8⟩ := fc_in_walk_sum H3 (H.size + 16 + 8) w1 b1 x H.size N D O hdag
    htr hok M.g1 hw1 hb1 hx h12 tw1 tb1 cw1 cb1 cx3 gw1 gb1 (fun i hi => M.fresh _ (by omega))
    (by omega) (by omega) (by intro i hi; omega)
    (fun v _ hv e he => M.sole_fc1 hdagH hw1 hb1 hw2 hb2 hx h13 h14 h23 h24
      (fun v e he => ⟨(hsole v e he).1, (hsole v e he).2.1⟩) v hv e he)
    _ _ GY mY pY
  refine ⟨dW1, dB1, dW2, dB2, p1, p2, q1, q2, p3, p5, q3, q5, p4, p6, q4, q6, ?_, ?_, ?_, ?_⟩
  · intro o ho
    rw [p7 o ho]
    apply Finset.sum_congr rfl
    intro n hn
    have hn' : n < N := Finset.mem_range.mp hn
    rw [eA n o hn' ho]
    simp only [mul_one]
  · intro o ho
    rw [p8 o ho]
    apply Finset.sum_congr rfl
    intro n hn
    have hn' : n < N := Finset.mem_range.mp hn
    rw [eA n o hn' ho]
    simp only [mul_one]
  · intro p hp
    rw [q7 p hp]
    simp
  · intro p hp
    rw [q8 p hp]
    simp

end C11v
end Qeep
