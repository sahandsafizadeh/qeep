import QeepProps.C11z
import QeepProps.C16w
/-!
# C11 — a whole training LOOP on an FC layer: every step succeeds and is a gradient-descent step, for every number of steps

`FCInv` is the state a training loop on one FC layer is in before a step: the heap is one the public API can build, the two
parameters are distinct tracked, unspent leaves of shape `[O]`, the input is an untracked, unspent `[N, D]` data tensor.
`train_step_inv` is `C11x.train_step_law` in the form a loop needs it, for any loss and any number of weights.
`fc_step_inv`: one step keeps `FCInv`, whatever else the heap contains, in particular the spent graphs of all earlier steps.
`fc_training_loop`: hence by induction ANY number of steps succeeds and `W_n[o] = W_0[o] − n·lr·c·Σ_nΣ_d x`,
`B_n[o] = B_0[o] − n·lr·c·N` (`c = 1` in `sum` mode, `1/N` in `mean` mode: `bscale`).
-/
set_option linter.unusedVariables false

namespace Qeep
namespace C11w
open RealScalar C01 C11x C16x C16z C16w C15x C15w

structure FCInv (bm : BMode) (H : Heap ℝ) (w b x N D O : Nat) : Prop where
  reach : Reach bm H
  lw : Live H w
  lb : Live H b
  hx : x < H.size
  cx : H.dirty x = false
  ux : H.tracked x = false
  hwb : w ≠ b
  ww : (H.val w).WF
  wb : (H.val b).WF
  wx : (H.val x).WF
  dw : (H.val w).dims = [O]
  db : (H.val b).dims = [O]
  dx : (H.val x).dims = [N, D]
  leafw : (H.ctx w).edges = []
  leafb : (H.ctx b).edges = []

theorem reach_sgdUpdate {bm : BMode} {lr : ℝ} {H H' : Heap ℝ} {w r : Nat} (hR : Reach bm H) (hw : w < H.size)
    (h : sgdUpdate lr (some w) H = .ok (r, H')) : Reach bm H' :=
  C11.sgdUpdate_reach hR h

theorem freshLeaf_live {H : Heap ℝ} {r : Nat} (h : H.ctx r = freshLeaf) : Live H r ∧ (H.ctx r).edges = [] ∧ H.grad r = none := by
  have t : H.tracked r = true := by simp [Heap.tracked, h, freshLeaf]
  exact ⟨⟨C01x.tracked_lt_size H r t, t, by simp [Heap.dirty, h, freshLeaf]⟩, by simp [h, freshLeaf], by simp [Heap.grad, h, freshLeaf]⟩

/-- **one training step as a loop sees it**, for any loss and any number of weights: from a heap `H1` the forward pass
    built, in which back-propagation leaves a gradient of the right shape on every weight, the step succeeds and ends in a
    heap the public API can build; the replacement weights are fresh leaves holding `w − lr·g`, at known places above `H1`;
    every older tensor keeps its value, and its context unless the walk visited it; and no back edge points above `H1`
    (the weights are spent after the walk, so `Update` creates no edge). -/
theorem train_step_inv (bm : BMode) (lr : ℝ) (lossOf : HM ℝ Nat) {ws : List Nat} {gs : List (Tensor ℝ)} {H H1 : Heap ℝ}
    {l : Nat} (R1 : Reach bm H1) (hfwd : lossOf H = .ok (l, H1)) (hbp : (backprop bm H1 l).status = .ok ())
    (hall : List.Forall₂ (fun w g => w < H1.size ∧ (backprop bm H1 l).heap.grad w = some g ∧ (H1.val w).WF ∧ g.WF ∧
      g.dims = (H1.val w).dims) ws gs) :
    ∃ rs H', trainStep bm lr lossOf ws H = .ok (rs, H') ∧ rs.length = ws.length ∧ Reach bm H' ∧
      H'.size = H1.size + 5 * ws.length ∧
      (∀ (k : Nat) w g r, ws[k]? = some w → gs[k]? = some g → rs[k]? = some r →
        r = H1.size + 5 * k + 4 ∧ H'.ctx r = freshLeaf ∧ H'.val r = stepped lr (H1.val w) g ∧ (H'.val r).WF) ∧
      (∀ z, z < H1.size → H'.val z = H1.val z ∧ (z ∉ backwardOrder H1 l → H'.ctx z = H1.ctx z)) ∧
      ∀ v, ∀ e ∈ (H'.ctx v).edges, e.target < H1.size := by
  obtain ⟨rs, H', hstep, hlen, hkeep, hspec⟩ :=
    train_step_law bm lr lossOf ws H H1 l hfwd hbp gs hall.length_eq.symm (hall_of_forall₂ hall)
  have hrun := hstep
  unfold trainStep at hrun
  simp only [hfwd, hbp] at hrun
  have Rb : Reach bm (backprop bm H1 l).heap := Reach.backprop R1
  have sb : (backprop bm H1 l).heap.size = H1.size := (backprop_val bm H1 l 0).2
  obtain ⟨sH', _, ids⟩ := updateAll_ids hrun
  rw [sb] at sH' ids
  refine ⟨rs, H', hstep, hlen, updateAll_reach Rb hrun, sH', ?_, ?_, ?_⟩
  · intro k w g r hw hg hr
    obtain ⟨_, v, c⟩ := hspec k w g r hw hg hr
    obtain ⟨_, _, ww, wg, dg⟩ := hall_of_forall₂ hall k w g hw hg
    exact ⟨ids k r hr, c, v, by rw [v]; exact stepped_wf ww wg dg⟩
  · intro z hz
    obtain ⟨kv, kc⟩ := hkeep.2 z (by rw [sb]; exact hz)
    exact ⟨by rw [kv, (backprop_val bm H1 l z).1],
      fun hzn => by rw [kc, C20.backprop_footprint_reachable bm H1 l R1 z hzn]⟩
  · intro v e he
    by_cases hv : v < H1.size
    · rw [(hkeep.2 v (by rw [sb]; exact hv)).2] at he
      have := reach_dag Rb v e he
      omega
    · -- a weight that carries a gradient after the walk is spent
      have hd : ∀ w ∈ ws, w < (backprop bm H1 l).heap.size ∧ (backprop bm H1 l).heap.dirty w = true := by
        intro w hw
        obtain ⟨k, hk⟩ := List.getElem?_of_mem hw
        obtain ⟨g, hg⟩ : ∃ g, gs[k]? = some g := by
          have : k < gs.length := by rw [← hall.length_eq]; exact (List.getElem?_eq_some_iff.mp hk).1
          exact ⟨gs[k], List.getElem?_eq_getElem this⟩
        obtain ⟨lt, gr, _⟩ := hall_of_forall₂ hall k w g hk hg
        refine ⟨by rw [sb]; exact lt, ?_⟩
        cases hdw : (backprop bm H1 l).heap.dirty w with
        | true => rfl
        | false => rw [reach_clean_nograd Rb w hdw] at gr; cases gr
      rw [updateAll_leaves_no_edges hd hrun v (by rw [sb]; omega)] at he
      cases he

/-- **one step of the loop keeps the loop's invariant**: from an `FCInv` state one step (`Forward`; `BackPropagate`;
    `Update` + `ResetGradContext(true)` for `W` and `B`) succeeds, replaces the parameters by `W − lr·c·∂/∂W`,
    `B − lr·c·∂/∂B` (`c = bscale bm N`) and ends in an `FCInv` state again -/
theorem fc_step_inv (bm : BMode) (lr : ℝ) {H : Heap ℝ} {w b x N D O : Nat} (inv : FCInv bm H w b x N D O) :
    ∃ rw rb H', trainStep bm lr (fcForward ⟨some w, some b⟩ [some x]) [w, b] H = .ok ([rw, rb], H') ∧
      FCInv bm H' rw rb x N D O ∧ H'.val x = H.val x ∧
      (∀ o, o < O → (H'.val rw).el [o]
          = (H.val w).el [o] - lr * (bscale bm N * ∑ n ∈ Finset.range N, ∑ d ∈ Finset.range D, (H.val x).el [n, d])) ∧
      (∀ o, o < O → (H'.val rb).el [o] = (H.val b).el [o] - lr * (bscale bm N * (N : ℝ))) := by
  obtain ⟨hR, lw, lb, hx, cx, ux, hwb, ww, wb, wx, dw, db, dx, leafw, leafb⟩ := inv
  obtain ⟨H1, hfwd, hext, hsz, hbp, hvis, dW, dB, gW, gB, wW, dWd, wB, dBd, eW, eB⟩ :=
    fc_backprop_leaf2 bm H w b x N D O hR lw lb hx cx ux hwb ww wb wx dw db dx leafw leafb
  have vw : H1.val w = H.val w := hext.val lw.1
  have vb : H1.val b = H.val b := hext.val lb.1
  obtain ⟨rs, H', hstep, hlen, R', sH', per, old, _⟩ := train_step_inv bm lr _ (gs := [dW, dB])
    (reach_fcForward hR lw.1 lb.1 hx hfwd) hfwd hbp
    (.cons ⟨by have := lw.1; omega, gW, by rw [vw]; exact ww, wW, by rw [vw, dWd, dw]⟩
      (.cons ⟨by have := lb.1; omega, gB, by rw [vb]; exact wb, wB, by rw [vb, dBd, db]⟩ .nil))
  obtain ⟨rw, rb, rfl⟩ : ∃ rw rb, rs = [rw, rb] := by
    match rs, hlen with
    | [rw, rb], _ => exact ⟨rw, rb, rfl⟩
  obtain ⟨i0, c0, v0, w0⟩ := per 0 w dW rw rfl rfl rfl
  obtain ⟨i1, c1, v1, w1⟩ := per 1 b dB rb rfl rfl rfl
  obtain ⟨l0, f0, _⟩ := freshLeaf_live c0
  obtain ⟨l1, f1, _⟩ := freshLeaf_live c1
  rw [vw] at v0; rw [vb] at v1
  -- the input is untouched: it is not a parameter, and the walk visits nothing else below `H.size`
  have hxn : x ∉ backwardOrder H1 (H.size + 8) := by
    intro hm
    rcases hvis x hm with h | h | h
    · omega
    · rw [h, dw] at dx; simp at dx
    · rw [h, db] at dx; simp at dx
  obtain ⟨vx1, cx1⟩ := old x (by omega)
  have cx' : H'.ctx x = H.ctx x := (cx1 hxn).trans (hext.ctx hx)
  have vx' : H'.val x = H.val x := vx1.trans (hext.val hx)
  refine ⟨rw, rb, H', hstep, ?_, vx', ?_, ?_⟩
  · refine ⟨R', l0, l1, by omega, ?_, ?_, by omega, w0, w1,
      by rw [vx']; exact wx, by rw [v0]; exact dw, by rw [v1]; exact db, by rw [vx']; exact dx, f0, f1⟩
    · simp only [Heap.dirty, cx'] at cx ⊢; exact cx
    · simp only [Heap.tracked, cx'] at ux ⊢; exact ux
  · intro o ho
    rw [v0, C11z.stepped_el ww wW (by rw [dWd, dw]) (by rw [dw]; exact valid1 ho), eW o ho]
  · intro o ho
    rw [v1, C11z.stepped_el wb wB (by rw [dBd, db]) (by rw [db]; exact valid1 ho), eB o ho]

/-- `n` steps of the training loop on the layer: each step hands the NEW parameter tensors to the next -/
noncomputable def steps (bm : BMode) (lr : ℝ) (x : Nat) : Nat → Nat × Nat → HM ℝ (Nat × Nat)
  | 0, wb => pure wb
  | n + 1, (w, b) => fun H =>
      match trainStep bm lr (fcForward ⟨some w, some b⟩ [some x]) [w, b] H with
      | .ok ([rw, rb], H') => steps bm lr x n (rw, rb) H'
      | .ok _ => .err
      | .err => .err
      | .panic => .panic

/-- **the whole loop**: from a state satisfying `FCInv`, ANY number `n` of training steps succeeds, ends in such a state,
    leaves the input as it was, and the parameters are `W − n·lr·c·∂/∂W`, `B − n·lr·c·∂/∂B` of `Σ y` with `c = 1` in `sum`
    mode — gradient descent — and `c = 1/N` in `mean` mode, the tree as it is (finding D2): there the loop descends `N` times
    more slowly than the property demands (the derivatives do not depend on the parameters because `Σ y` is affine in them) -/
theorem fc_training_loop (bm : BMode) (lr : ℝ) (x N D O : Nat) : ∀ (n : Nat) (H : Heap ℝ) (w b : Nat), FCInv bm H w b x N D O →
    ∃ w' b' H', steps bm lr x n (w, b) H = .ok ((w', b'), H') ∧ FCInv bm H' w' b' x N D O ∧ H'.val x = H.val x ∧
      (∀ o, o < O → (H'.val w').el [o]
          = (H.val w).el [o] - (n : ℝ) * (lr * (bscale bm N * ∑ i ∈ Finset.range N, ∑ d ∈ Finset.range D, (H.val x).el [i, d]))) ∧
      (∀ o, o < O → (H'.val b').el [o] = (H.val b).el [o] - (n : ℝ) * (lr * (bscale bm N * (N : ℝ))))
  | 0, H, w, b, inv => ⟨w, b, H, rfl, inv, rfl, fun o _ => by simp, fun o _ => by simp⟩
  | n + 1, H, w, b, inv => by
    obtain ⟨rw, rb, H1, hstep, inv1, vx, e1, e2⟩ := fc_step_inv bm lr inv
    obtain ⟨w', b', H', hrun, inv', vx', f1, f2⟩ := fc_training_loop bm lr x N D O n H1 rw rb inv1
    refine ⟨w', b', H', ?_, inv', by rw [vx', vx], ?_, ?_⟩
    · show (match trainStep bm lr (fcForward ⟨some w, some b⟩ [some x]) [w, b] H with
          | .ok ([rw, rb], H') => steps bm lr x n (rw, rb) H'
          | .ok _ => .err
          | .err => .err
          | .panic => .panic) = _
      rw [hstep]
      exact hrun
    · intro o ho
      rw [f1 o ho, e1 o ho, vx]
      push_cast
      ring
    · intro o ho
      rw [f2 o ho, e2 o ho]
      push_cast
      ring

/-- the invariant is satisfiable -/
example (bm : BMode) : ∃ (H : Heap ℝ) (w b x N D O : Nat), FCInv bm H w b x N D O := by
  let H0 : Heap ℝ := #[⟨⟨[2], [3, 4]⟩, freshCtx true⟩]
  let H1 : Heap ℝ := H0.push ⟨⟨[2], [0, 1]⟩, freshCtx true⟩
  let H2 : Heap ℝ := H1.push ⟨⟨[1, 3], [1, 2, 5]⟩, freshCtx false⟩
  have r0 : Reach bm H0 := Reach.leaf (v := ⟨[2], [3, 4]⟩) (b := true) (r := 0) Reach.empty rfl
  have r1 : Reach bm H1 := Reach.leaf (v := ⟨[2], [0, 1]⟩) (b := true) (r := 1) r0 rfl
  have r2 : Reach bm H2 := Reach.leaf (v := ⟨[1, 3], [1, 2, 5]⟩) (b := false) (r := 2) r1 rfl
  exact ⟨H2, 0, 1, 2, 1, 3, 2, r2, ⟨by decide, rfl, rfl⟩, ⟨by decide, rfl, rfl⟩, by decide, rfl, rfl, by omega,
    ⟨rfl, by decide⟩, ⟨rfl, by decide⟩, ⟨rfl, by decide⟩, rfl, rfl, rfl, rfl, rfl⟩

end C11w
end Qeep
