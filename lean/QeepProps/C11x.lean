import QeepProps.C11
import QeepProps.C17
import QeepProps.C01
/-!
# C11 (composition) — one training step at model level

`updateAll lr ws` is the optimizer half of a step: for every weight pointer, `Update` then `ResetGradContext(true)`.
`trainStep` is the whole step: forward pass and loss (any computation `lossOf` built from the library's operations),
`BackPropagate(loss)`, then `updateAll`.

* `updateAll_spec` — for any number of weights of any shapes whose gradients have their shapes: the step succeeds; the
  k-th replacement weight holds `w_k - lr * g_k` element-wise, where `g_k` is the gradient the back-propagation left
  on `w_k`; it is a FRESH tracked leaf (no gradient, no back edges, not spent) — nothing of the old graph is reachable
  from it; and every tensor that existed before keeps its value and its context.
* `updateAll_induct`, `updateAll_keeps`, `updateAll_reach`, `updateAll_leaves_no_edges`, `updateAll_ids` — a SUCCESSFUL run
  of the optimizer half taken apart: what every `Update` + reset preserves holds at the end, hence older tensors are kept,
  the heap stays one the public API can build, no back edge is created when the weights are spent, and the replacements
  sit at every fifth place above the old heap.
* `train_step_law` — the same for the whole step, with the gradients being those of `backprop` on the heap after the
  forward pass (which `C01.backprop_adjoint` / `C01x.backprop_chain_rule` characterise as the derivative of the loss).
* `fresh_leaf_stops_walk` — a later back-propagation that reaches a replaced weight stops there: the new weight has
  no successors, so no gradient, edge or spent flag of an earlier step can be reached through it.
-/
set_option linter.unusedSectionVars false

namespace Qeep
namespace C11x

variable {α : Type} [Scalar α]

/-- `ResetGradContext(tracked)` as a step of the heap monad -/
def hReset (n : Nat) (tracked : Bool) : HM α Unit := fun H => .ok ((), resetCtx H n tracked)

/-- optimizer half of a training step: `Update(p)` then `(*p).ResetGradContext(true)` for every weight pointer -/
def updateAll (lr : α) : List Nat → HM α (List Nat)
  | [] => pure []
  | w :: ws => do
    let r ← sgdUpdate lr (some w)
    hReset r true
    let rs ← updateAll lr ws
    pure (r :: rs)

def stepped (lr : α) (w g : Tensor α) : Tensor α :=
  ⟨w.dims, List.zipWith (fun wv gv => Scalar.sub wv (Scalar.mul lr gv)) w.data g.data⟩

theorem stepped_wf {lr : α} {w g : Tensor α} (hw : w.WF) (hg : g.WF) (hd : g.dims = w.dims) : (stepped lr w g).WF :=
  zip_wf _ w g hw hg hd.symm

def freshLeaf : Ctx α := { tracked := true, dirty := false, grad := none, edges := [] }

def Keeps (H H' : Heap α) : Prop :=
  H.size ≤ H'.size ∧ ∀ n, n < H.size → H'.val n = H.val n ∧ H'.ctx n = H.ctx n

theorem Keeps.refl (H : Heap α) : Keeps H H := ⟨Nat.le_refl _, fun _ _ => ⟨rfl, rfl⟩⟩

theorem Keeps.trans {A B C : Heap α} (h1 : Keeps A B) (h2 : Keeps B C) : Keeps A C :=
  ⟨Nat.le_trans h1.1 h2.1, fun n hn => by
    obtain ⟨a, b⟩ := h1.2 n hn
    obtain ⟨c, d⟩ := h2.2 n (Nat.lt_of_lt_of_le hn h1.1)
    exact ⟨by rw [c, a], by rw [d, b]⟩⟩

theorem keeps_of_extends {H H' : Heap α} (e : Extends H H') : Keeps H H' :=
  ⟨e.1, fun n hn => ⟨e.val hn, e.ctx hn⟩⟩

theorem keeps_reset (H : Heap α) (r : Nat) (b : Bool) (K : Heap α) (hK : K.size ≤ r) (k : Keeps K H) :
    Keeps K (resetCtx H r b) := by
  obtain ⟨s, v, c⟩ := resetCtx_frame H r b
  refine ⟨by rw [s]; exact k.1, fun n hn => ?_⟩
  obtain ⟨a, b'⟩ := k.2 n hn
  exact ⟨by rw [v, a], by rw [c n (by omega), b']⟩

theorem sgd_bounds (lr : α) (H H' : Heap α) (w r : Nat) (hw : w < H.size) (h : sgdUpdate lr (some w) H = .ok (r, H')) :
    H.size ≤ r ∧ r < H'.size := by
  obtain ⟨er, s, _⟩ := C11.sgdUpdate_nodes h
  omega

theorem updateAll_nil_ok {lr : α} {H H' : Heap α} {rs : List Nat} (h : updateAll lr [] H = .ok (rs, H')) :
    rs = [] ∧ H' = H := pure_ok h

theorem updateAll_cons_ok {lr : α} {w : Nat} {ws : List Nat} {H H' : Heap α} {rs : List Nat}
    (h : updateAll lr (w :: ws) H = .ok (rs, H')) :
    ∃ r Ha rs', sgdUpdate lr (some w) H = .ok (r, Ha) ∧ updateAll lr ws (resetCtx Ha r true) = .ok (rs', H') ∧
      rs = r :: rs' := by
  unfold updateAll at h
  obtain ⟨r, Ha, u1, h⟩ := bind_ok h
  obtain ⟨_, H2, k1, h⟩ := bind_ok h
  cases k1
  obtain ⟨rs', Hz, u2, h⟩ := bind_ok h
  obtain ⟨e, rfl⟩ := pure_ok h
  exact ⟨r, Ha, rs', u1, u2, e⟩

theorem updateAll_induct {lr : α} {P : Heap α → Prop} {Q : Nat → Prop}
    (hstep : ∀ {H Ha : Heap α} {w r : Nat}, Q w → P H → sgdUpdate lr (some w) H = .ok (r, Ha) → P (resetCtx Ha r true)) :
    ∀ {ws : List Nat} {H H' : Heap α} {rs : List Nat}, (∀ w ∈ ws, Q w) → P H → updateAll lr ws H = .ok (rs, H') → P H'
  | [], _, _, _, _, hP, h => by rw [(updateAll_nil_ok h).2]; exact hP
  | w :: ws, _, _, _, hQ, hP, h => by
    obtain ⟨r, Ha, rs', u1, u2, _⟩ := updateAll_cons_ok h
    exact updateAll_induct hstep (fun w' hw' => hQ w' (List.mem_cons_of_mem _ hw')) (hstep (hQ w (List.mem_cons_self ..)) hP u1) u2

theorem updateAll_keeps {lr : α} {ws : List Nat} {H H' : Heap α} {rs : List Nat} (h : updateAll lr ws H = .ok (rs, H')) :
    Keeps H H' := by
  refine updateAll_induct (P := Keeps H) (Q := fun _ => True) ?_ (fun _ _ => trivial) (Keeps.refl H) h
  intro K Ha w r _ k u
  obtain ⟨er, _, x, _⟩ := C11.sgdUpdate_nodes u
  exact keeps_reset Ha r true H (by have := k.1; omega) (k.trans (keeps_of_extends x))

theorem updateAll_reach {bm : BMode} {lr : α} {ws : List Nat} {H H' : Heap α} {rs : List Nat} (hR : Reach bm H)
    (h : updateAll lr ws H = .ok (rs, H')) : Reach bm H' :=
  updateAll_induct (P := Reach bm) (Q := fun _ => True) (fun _ R u => Reach.reset (C11.sgdUpdate_reach R u))
    (fun _ _ => trivial) hR h

/-- **nothing the optimizer half of a step creates has a back edge**, when every weight it updates is spent: with this a
    loop invariant about "who points at the parameters" survives a training step -/
theorem updateAll_leaves_no_edges {lr : α} {ws : List Nat} {K H' : Heap α} {rs : List Nat}
    (hws : ∀ w ∈ ws, w < K.size ∧ K.dirty w = true) (h : updateAll lr ws K = .ok (rs, H')) :
    ∀ n, K.size ≤ n → (H'.ctx n).edges = [] := by
  -- invariant along the run: old tensors are kept, and nothing above them has a back edge
  refine (updateAll_induct (P := fun H => Keeps K H ∧ ∀ n, K.size ≤ n → (H.ctx n).edges = [])
    (Q := fun w => w < K.size ∧ K.dirty w = true) ?_ hws ⟨Keeps.refl K, fun n hn => congrArg Ctx.edges (ctx_of_size_le _ hn)⟩ h).2
  intro H Ha w r ⟨hw, hd⟩ ⟨k, ne⟩ u
  obtain ⟨er, s, x, _⟩ := C11.sgdUpdate_nodes u
  have hdH : H.dirty w = true := by unfold Heap.dirty at hd ⊢; rw [(k.2 w hw).2]; exact hd
  obtain ⟨_, _, c2⟩ := resetCtx_frame Ha r true
  refine ⟨keeps_reset Ha r true K (by have := k.1; omega) (k.trans (keeps_of_extends x)), fun n hn => ?_⟩
  by_cases hr : n = r
  · rw [hr, (C08.reset_is_fresh_leaf Ha r true (by omega)).1]
  · rw [c2 n hr]
    by_cases hlt : n < H.size
    · rw [x.ctx hlt]; exact ne n hn
    · exact C11.sgdUpdate_no_edges hdH u n (by omega)

/-- the replacement weights are every fifth tensor above the old heap: each `Update` allocates five, the last is the result -/
theorem updateAll_ids {lr : α} : ∀ {ws : List Nat} {H H' : Heap α} {rs : List Nat}, updateAll lr ws H = .ok (rs, H') →
    H'.size = H.size + 5 * ws.length ∧ rs.length = ws.length ∧ ∀ (k : Nat) r, rs[k]? = some r → r = H.size + 5 * k + 4
  | [], _, _, _, h => by
    obtain ⟨rfl, rfl⟩ := updateAll_nil_ok h
    exact ⟨rfl, rfl, fun k r hr => by simp at hr⟩
  | w :: ws, H, _, _, h => by
    obtain ⟨r, Ha, rs', u1, u2, rfl⟩ := updateAll_cons_ok h
    obtain ⟨er, s, _⟩ := C11.sgdUpdate_nodes u1
    obtain ⟨s', l', ids⟩ := updateAll_ids u2
    rw [(resetCtx_frame Ha r true).1, s] at s' ids
    refine ⟨by rw [s', List.length_cons]; omega, by simp [l'], fun k r' hr => ?_⟩
    cases k with
    | zero => simp at hr; omega
    | succ k => have := ids k r' (by simpa using hr); omega

/-- a relation between the entries of two lists at equal positions, from its instances one by one: the form in which
    `updateAll_spec` and `train_step_law` take what is known about each weight and its gradient -/
theorem hall_of_forall₂ {β γ : Type} {P : β → γ → Prop} : ∀ {ws : List β} {gs : List γ}, List.Forall₂ P ws gs →
    ∀ (k : Nat) w g, ws[k]? = some w → gs[k]? = some g → P w g
  | _, _, .nil, _, _, _, hw, _ => by simp at hw
  | _, _, .cons h _, 0, _, _, hw, hg => by simp at hw hg; subst hw hg; exact h
  | _, _, .cons _ t, k + 1, w, g, hw, hg => hall_of_forall₂ t k w g (by simpa using hw) (by simpa using hg)

/-- **The optimizer half of a step**: it succeeds, the k-th replacement weight is a fresh tracked leaf holding
    `w_k - lr * g_k`, and every older tensor keeps its value and its context. -/
theorem updateAll_spec (lr : α) : ∀ (ws : List Nat) (H : Heap α) (gs : List (Tensor α)),
    gs.length = ws.length →
    (∀ (k : Nat) w g, ws[k]? = some w → gs[k]? = some g →
        w < H.size ∧ H.grad w = some g ∧ (H.val w).WF ∧ g.WF ∧ g.dims = (H.val w).dims) →
    ∃ rs H', updateAll lr ws H = .ok (rs, H') ∧ rs.length = ws.length ∧ Keeps H H' ∧
      ∀ (k : Nat) w g r, ws[k]? = some w → gs[k]? = some g → rs[k]? = some r →
        H.size ≤ r ∧ r < H'.size ∧ H'.val r = stepped lr (H.val w) g ∧ H'.ctx r = freshLeaf
  | [], H, gs, _, _ => ⟨[], H, rfl, rfl, Keeps.refl H, fun k w g r hw => by simp at hw⟩
  | w :: ws, H, [], hl, _ => by simp at hl
  | w :: ws, H, g :: gs, hl, hall => by
    obtain ⟨hw, hg, wfw, wfg, hd⟩ := hall 0 w g rfl rfl
    obtain ⟨r, H1, hrun, hext, hval⟩ := C17.sgd_update lr H w g hw hg wfw wfg hd
    obtain ⟨hrge, hrlt⟩ := sgd_bounds lr H H1 w r hw hrun
    let H2 : Heap α := resetCtx H1 r true
    obtain ⟨s2, v2, c2⟩ := resetCtx_frame H1 r true
    have k2 : Keeps H H2 := keeps_reset H1 r true H hrge (keeps_of_extends hext)
    have hfresh : H2.ctx r = freshLeaf := (C08.reset_is_fresh_leaf H1 r true hrlt).1
    have hall' : ∀ (k : Nat) w' g', ws[k]? = some w' → gs[k]? = some g' →
        w' < H2.size ∧ H2.grad w' = some g' ∧ (H2.val w').WF ∧ g'.WF ∧ g'.dims = (H2.val w').dims := by
      intro k w' g' hw' hg'
      obtain ⟨a, b, c, d, e⟩ := hall (k + 1) w' g' (by simpa using hw') (by simpa using hg')
      obtain ⟨kv, kc⟩ := k2.2 w' a
      refine ⟨Nat.lt_of_lt_of_le a k2.1, ?_, by rw [kv]; exact c, d, by rw [kv]; exact e⟩
      unfold Heap.grad; rw [kc]; exact b
    obtain ⟨rs, H3, hrun3, hlen3, k3, hspec3⟩ := updateAll_spec lr ws H2 gs (by simpa using hl) hall'
    refine ⟨r :: rs, H3, ?_, by simp [hlen3], k2.trans k3, ?_⟩
    · unfold updateAll
      simp only [bind, StateT.bind, hrun, hReset, pure, StateT.pure, Out.bind]
      show (updateAll lr ws H2).bind _ = _
      rw [hrun3]
      rfl
    · intro k w' g' r' hw' hg' hr'
      cases k with
      | zero =>
        simp only [List.getElem?_cons_zero, Option.some.injEq] at hw' hg' hr'
        subst hw' hg' hr'
        have hr2 : r < H2.size := by rw [s2]; exact hrlt
        obtain ⟨kv, kc⟩ := k3.2 r hr2
        refine ⟨hrge, Nat.lt_of_lt_of_le hr2 k3.1, ?_, by rw [kc]; exact hfresh⟩
        rw [kv, v2 r, hval]; rfl
      | succ k =>
        simp only [List.getElem?_cons_succ] at hw' hg' hr'
        obtain ⟨a, b, c, d⟩ := hspec3 k w' g' r' hw' hg' hr'
        obtain ⟨wlt, _, _, _, _⟩ := hall (k + 1) w' g' (by simpa using hw') (by simpa using hg')
        refine ⟨Nat.le_trans k2.1 a, b, ?_, d⟩
        rw [c, (k2.2 w' wlt).1]

/-- one whole training step: forward + loss (`lossOf`), `BackPropagate(loss)`, then `Update` + `ResetGradContext(true)`
    for every weight -/
def trainStep (bm : BMode) (lr : α) (lossOf : HM α Nat) (ws : List Nat) : HM α (List Nat) := fun H =>
  match lossOf H with
  | .ok (l, H1) =>
    match (backprop bm H1 l).status with
    | .ok _ => updateAll lr ws (backprop bm H1 l).heap
    | .err => .err
    | .panic => .panic
  | .err => .err
  | .panic => .panic

/-- **One training step**: the gradients are those `backprop` leaves on the weights in the heap after
    the forward pass; values are read in that heap (`backprop` changes no value). -/
theorem train_step_law (bm : BMode) (lr : α) (lossOf : HM α Nat) (ws : List Nat) (H H1 : Heap α) (l : Nat)
    (hfwd : lossOf H = .ok (l, H1)) (hbp : (backprop bm H1 l).status = .ok ())
    (gs : List (Tensor α)) (hl : gs.length = ws.length)
    (hall : ∀ (k : Nat) w g, ws[k]? = some w → gs[k]? = some g →
        w < H1.size ∧ (backprop bm H1 l).heap.grad w = some g ∧ (H1.val w).WF ∧ g.WF ∧ g.dims = (H1.val w).dims) :
    ∃ rs H', trainStep bm lr lossOf ws H = .ok (rs, H') ∧ rs.length = ws.length ∧ Keeps (backprop bm H1 l).heap H' ∧
      ∀ (k : Nat) w g r, ws[k]? = some w → gs[k]? = some g → rs[k]? = some r →
        H1.size ≤ r ∧ H'.val r = stepped lr (H1.val w) g ∧ H'.ctx r = freshLeaf := by
  have hsize : (backprop bm H1 l).heap.size = H1.size := (backprop_val bm H1 l 0).2
  have hall' : ∀ (k : Nat) w g, ws[k]? = some w → gs[k]? = some g →
      w < (backprop bm H1 l).heap.size ∧ (backprop bm H1 l).heap.grad w = some g ∧
      ((backprop bm H1 l).heap.val w).WF ∧ g.WF ∧ g.dims = ((backprop bm H1 l).heap.val w).dims := by
    intro k w g hw hg
    obtain ⟨a, b, c, d, e⟩ := hall k w g hw hg
    rw [(backprop_val bm H1 l w).1]
    exact ⟨by rw [hsize]; exact a, b, c, d, e⟩
  obtain ⟨rs, H', hrun, hlen, hk, hspec⟩ := updateAll_spec lr ws (backprop bm H1 l).heap gs hl hall'
  refine ⟨rs, H', ?_, hlen, hk, ?_⟩
  · unfold trainStep
    simp only [hfwd, hbp]
    exact hrun
  · intro k w g r hw hg hr
    obtain ⟨a, _, c, d⟩ := hspec k w g r hw hg hr
    rw [(backprop_val bm H1 l w).1] at c
    exact ⟨by rw [← hsize]; exact a, c, d⟩

/-- **a replaced weight is where any later walk stops**: it has no successors, so from it no gradient, back edge or
    spent flag of an earlier step is reachable; a back-propagation rooted at it visits it alone -/
theorem fresh_leaf_stops_walk (H : Heap α) (r : Nat) (h : H.ctx r = freshLeaf) :
    succs H r = [] ∧ backwardOrder H r = [r] ∧ H.grad r = none ∧ H.dirty r = false := by
  have hs : succs H r = [] := by simp [succs, h, freshLeaf]
  refine ⟨hs, ?_, by simp [Heap.grad, h, freshLeaf], by simp [Heap.dirty, h, freshLeaf]⟩
  have ht : H.tracked r = true := by simp [Heap.tracked, h, freshLeaf]
  unfold backwardOrder
  simp only [ht, if_true]
  unfold visit
  simp [hs]

/-- non-vacuity (kernel-checked on `Int`): two weights with gradients; the step replaces both by fresh leaves holding
    `w - lr * g` -/
def Hex : Heap Int := #[⟨⟨[2], [10, 20]⟩, { tracked := true, dirty := true, grad := some ⟨[2], [1, 3]⟩ }⟩,
                         ⟨⟨[], [5]⟩, { tracked := true, dirty := true, grad := some ⟨[], [2]⟩ }⟩]

def probe : List (List Int × Bool × Bool × Nat × Bool) :=
  match updateAll (2 : Int) [0, 1] Hex with
  | .ok (rs, H') => rs.map (fun r => ((H'.val r).data, (H'.ctx r).tracked, (H'.ctx r).dirty, (H'.ctx r).edges.length, (H'.grad r).isSome))
  | _ => []

set_option maxRecDepth 4000 in
example : probe = [([8, 14], true, false, 0, false), ([1], true, false, 0, false)] := by decide +kernel

end C11x
end Qeep
