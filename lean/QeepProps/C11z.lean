import QeepProps.C11x
import QeepProps.C16z
import QeepProps.C15y
import QeepProps.C15w
import Mathlib.Tactic.IntervalCases
/-!
# C11 — one whole training step on an FC layer, end to end

`fc_train_step`: on any heap the public API can build, with an FC layer whose parameters `W, B : [O]` are tracked, unspent
and not consumed elsewhere, and an unspent input `x : [N, D]`: the step `Forward(x)`; `BackPropagate(y)`;
`SGD.Update(&W)`, `SGD.Update(&B)` (each followed by `ResetGradContext(true)`) — `C11x.trainStep` — whenever the
back-propagation returns without error, succeeds and replaces `W` and `B` by fresh tracked leaves with
`W'[o] = W[o] − lr·Σ_n Σ_d x[n][d]` and `B'[o] = B[o] − lr·N` (`sum` mode): gradient descent on `Σ_{n,o} y[n][o]` with the
partial derivatives `fc_backward_is_gradient` identifies. Composition of `C11x.train_step_law` (the step replaces every
weight `w` by `w − lr·g`, `g` what the walk left) and `C16z.fc_backprop` (what the walk leaves).
-/

namespace Qeep
namespace C11z
open RealScalar C01 C11x C16x C16z C15x C15w

theorem stepped_el {lr : ℝ} {w g : Tensor ℝ} (hw : w.WF) (hg : g.WF) (hd : g.dims = w.dims) {u : List Nat}
    (hu : Valid w.dims u) : (stepped lr w g).el u = w.el u - lr * g.el u := by
  unfold stepped
  rw [C15y.zip_el _ w g hw hg hd.symm hu]
  rfl

theorem fc_train_step (lr : ℝ) (H : Heap ℝ) (w b x N D O : Nat) (hR : Reach .sum H)
    (lw : Live H w) (lb : Live H b) (hx : x < H.size) (cx : H.dirty x = false) (hwb : w ≠ b)
    (ww : (H.val w).WF) (wb : (H.val b).WF) (wx : (H.val x).WF)
    (dw : (H.val w).dims = [O]) (db : (H.val b).dims = [O]) (dx : (H.val x).dims = [N, D])
    (hsole : ∀ v, ∀ e ∈ (H.ctx v).edges, e.target ≠ w ∧ e.target ≠ b)
    (y : Nat) (H1 : Heap ℝ) (hfwd : fcForward ⟨some w, some b⟩ [some x] H = .ok (y, H1))
    (hbp : (backprop .sum H1 y).status = .ok ()) :
    ∃ rw rb H', trainStep .sum lr (fcForward ⟨some w, some b⟩ [some x]) [w, b] H = .ok ([rw, rb], H') ∧
      H'.ctx rw = freshLeaf ∧ H'.ctx rb = freshLeaf ∧ (H'.val rw).dims = [O] ∧ (H'.val rb).dims = [O] ∧
      (∀ o, o < O → (H'.val rw).el [o]
          = (H.val w).el [o] - lr * ∑ n ∈ Finset.range N, ∑ d ∈ Finset.range D, (H.val x).el [n, d]) ∧
      (∀ o, o < O → (H'.val rb).el [o] = (H.val b).el [o] - lr * (N : ℝ)) := by
  obtain ⟨y', H1', hrun, himp⟩ := fc_backprop H w b x N D O hR lw lb hx cx hwb ww wb wx dw db dx hsole
  obtain ⟨rfl, rfl⟩ := run_unique hfwd hrun
  obtain ⟨dW, dB, gW, gB, wW, dWd, wB, dBd, eW, eB⟩ := himp hbp
  obtain ⟨hext, _⟩ := fresh_fcForward _ _ H _ H1 hfwd
  have vw : H1.val w = H.val w := hext.val lw.1
  have vb : H1.val b = H.val b := hext.val lb.1
  have hlt : H.size ≤ H1.size := hext.1
  obtain ⟨rs, H', hstep, hlen, _, hspec⟩ := train_step_law .sum lr (fcForward ⟨some w, some b⟩ [some x]) [w, b] H H1 y hfwd hbp
    [dW, dB] rfl (hall_of_forall₂
      (.cons ⟨by have := lw.1; omega, gW, by rw [vw]; exact ww, wW, by rw [vw, dWd, dw]⟩
        (.cons ⟨by have := lb.1; omega, gB, by rw [vb]; exact wb, wB, by rw [vb, dBd, db]⟩ .nil)))
  match rs, hlen with
  | [rw, rb], _ =>
    obtain ⟨_, v0, c0⟩ := hspec 0 w dW rw rfl rfl rfl
    obtain ⟨_, v1, c1⟩ := hspec 1 b dB rb rfl rfl rfl
    rw [vw] at v0; rw [vb] at v1
    refine ⟨rw, rb, H', hstep, c0, c1, by rw [v0]; exact dw, by rw [v1]; exact db, ?_, ?_⟩
    · intro o ho
      rw [v0, stepped_el ww wW (by rw [dWd, dw]) (by rw [dw]; exact valid1 ho), eW o ho]
    · intro o ho
      rw [v1, stepped_el wb wB (by rw [dBd, db]) (by rw [db]; exact valid1 ho), eB o ho]

/-- **the same step with leaf parameters and a data input: unconditional.** `Forward`, `BackPropagate`, `Update` of both
    parameters all succeed and the parameters are replaced by `W − lr·∂/∂W`, `B − lr·∂/∂B` of `Σ y`. -/
theorem fc_train_step_leaf (lr : ℝ) (H : Heap ℝ) (w b x N D O : Nat) (hR : Reach .sum H)
    (lw : Live H w) (lb : Live H b) (hx : x < H.size) (cx : H.dirty x = false) (ux : H.tracked x = false) (hwb : w ≠ b)
    (ww : (H.val w).WF) (wb : (H.val b).WF) (wx : (H.val x).WF)
    (dw : (H.val w).dims = [O]) (db : (H.val b).dims = [O]) (dx : (H.val x).dims = [N, D])
    (leafw : (H.ctx w).edges = []) (leafb : (H.ctx b).edges = [])
    (hsole : ∀ v, ∀ e ∈ (H.ctx v).edges, e.target ≠ w ∧ e.target ≠ b) :
    ∃ rw rb H', trainStep .sum lr (fcForward ⟨some w, some b⟩ [some x]) [w, b] H = .ok ([rw, rb], H') ∧
      H'.ctx rw = freshLeaf ∧ H'.ctx rb = freshLeaf ∧ (H'.val rw).dims = [O] ∧ (H'.val rb).dims = [O] ∧
      (∀ o, o < O → (H'.val rw).el [o]
          = (H.val w).el [o] - lr * ∑ n ∈ Finset.range N, ∑ d ∈ Finset.range D, (H.val x).el [n, d]) ∧
      (∀ o, o < O → (H'.val rb).el [o] = (H.val b).el [o] - lr * (N : ℝ)) := by
  obtain ⟨y, H1, hfwd, hok, _⟩ := fc_backprop_leaf H w b x N D O hR lw lb hx cx ux hwb ww wb wx dw db dx leafw leafb hsole
  exact fc_train_step lr H w b x N D O hR lw lb hx cx hwb ww wb wx dw db dx hsole y H1 hfwd hok

/-- the hypotheses of `fc_train_step_leaf` are satisfiable: `W = [3, 4]`, `B = [0, 1]` tracked leaves, `x = [[1, 2, 5]]` -/
example : ∃ (H : Heap ℝ) (w b x N D O : Nat), Reach .sum H ∧ Live H w ∧ Live H b ∧ x < H.size ∧ H.dirty x = false ∧
    H.tracked x = false ∧ w ≠ b ∧
    (H.val w).WF ∧ (H.val b).WF ∧ (H.val x).WF ∧ (H.val w).dims = [O] ∧ (H.val b).dims = [O] ∧ (H.val x).dims = [N, D] ∧
    (H.ctx w).edges = [] ∧ (H.ctx b).edges = [] ∧
    (∀ v, ∀ e ∈ (H.ctx v).edges, e.target ≠ w ∧ e.target ≠ b) := by
  let H0 : Heap ℝ := #[⟨⟨[2], [3, 4]⟩, freshCtx true⟩]
  let H1 : Heap ℝ := H0.push ⟨⟨[2], [0, 1]⟩, freshCtx true⟩
  let H2 : Heap ℝ := H1.push ⟨⟨[1, 3], [1, 2, 5]⟩, freshCtx false⟩
  have r0 : Reach .sum H0 := Reach.leaf (v := ⟨[2], [3, 4]⟩) (b := true) (r := 0) Reach.empty rfl
  have r1 : Reach .sum H1 := Reach.leaf (v := ⟨[2], [0, 1]⟩) (b := true) (r := 1) r0 rfl
  have r2 : Reach .sum H2 := Reach.leaf (v := ⟨[1, 3], [1, 2, 5]⟩) (b := false) (r := 2) r1 rfl
  have hed : ∀ v, (H2.ctx v).edges = [] := by
    intro v
    by_cases h3 : v < 3
    · interval_cases v <;> rfl
    · exact ctx_beyond H2 v (Nat.le_of_not_lt h3)
  -- closed facts about a literal heap: evaluation
  exact ⟨H2, 0, 1, 2, 1, 3, 2, r2, ⟨by decide, rfl, rfl⟩, ⟨by decide, rfl, rfl⟩, by decide, rfl, rfl, by omega,
    ⟨rfl, by decide⟩, ⟨rfl, by decide⟩, ⟨rfl, by decide⟩, rfl, rfl, rfl, hed 0, hed 1,
    fun v e he => by rw [hed v] at he; cases he⟩

end C11z
end Qeep
