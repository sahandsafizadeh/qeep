import QeepProofs.Run
import QeepProofs.Along
import QeepProofs.Real
/-!
# C12 — loss functions return the defined scalar

Over `ℝ`, for every batch size `n ≥ 1` and all values: `MSE.Compute` run on the heap model succeeds, leaves every
existing tensor untouched and returns the scalar tensor `[] ↦ (Σᵢ (tᵢ − pᵢ)²) / n`; the value does not depend on
tracking (contexts are computed separately from values: `C08.forward_value_ignores_flags`).

BCE and CE (clipping, logarithms, row sums): `C12x.bce_value`, `C12x.ce_value`.
-/

namespace Qeep
namespace C12
open RealScalar

variable {α : Type}

theorem reduce_rank1 (t : Tensor α) (n : Nat) (hd : t.dims = [n]) (hwf : t.WF) (trf : Tensor α → α) :
    t.reduceDimRaw 0 trf = some ⟨[], [trf t]⟩ := by
  have hlt : 0 < t.dims.length := by rw [hd]; simp
  obtain ⟨data', h1, h2, h3⟩ := reduceDim_spec t hwf 0 hlt trf
  have hsq : squeezeDims 0 t.dims = [] := by rw [hd]; rfl
  rw [hsq] at h1 h2 h3
  simp only [prod] at h2 h3
  obtain ⟨fib, f1, f2, f3⟩ := h3 0 (by omega)
  -- the single fibre is the whole data
  have hS : (insLE (t.dims.length - 1 - 0) 0
      (iterN (incr (delLE (t.dims.length - 1 - 0) t.dims.reverse)) 0 (zerosLike (delLE (t.dims.length - 1 - 0) t.dims.reverse)))).reverse = [0] := by
    rw [hd]; rfl
  rw [hS] at f2 f3
  have hn : t.dims.getD 0 0 = n := by rw [hd]; rfl
  have hlen : t.data.length = n := by rw [hwf.1, hd]; simp [prod]
  have hfib : fib = t.data := by
    apply List.ext_getElem?
    intro i
    by_cases hi : i < n
    · obtain ⟨e, _⟩ := f2 i (by rw [hn]; exact hi)
      rw [e]
      simp only [List.set_cons_zero]
      unfold Tensor.at?
      simp [hd, offset, hi, prod]
    · rw [List.getElem?_eq_none (by omega), List.getElem?_eq_none (by omega)]
  have hw : sliceDims (windowOf 0 t.dims [0]) = t.dims := by rw [hd]; simp [windowOf, unitWin, sliceDims]
  rw [hfib, hw] at f3
  have : data' = [trf t] := by
    match data', h2, f3 with
    | [x], _, f3 => simp at f3; rw [f3]
  rw [h1, this]

theorem vAlong_rank1 [Scalar α] (r : Reducer) (t : Tensor α) (n : Nat) (hd : t.dims = [n]) (hwf : t.WF) :
    vAlong r t 0 = .ok ⟨[], [r.fn t]⟩ := by
  have hv : validDimLt 0 t.dims = true := by rw [hd]; rfl
  simp [vAlong, vReduceDim, hv, reduce_rank1 t n hd hwf, Out.ofOpt]

theorem zipWith_maps {β γ δ ε : Type} (f : γ → δ → ε) (g : β → γ) (h : β → δ) (l : List β) :
    List.zipWith f (l.map g) (l.map h) = l.map (fun a => f (g a) (h a)) := by
  induction l with
  | nil => rfl
  | cons x xs ih => simp [ih]

theorem loss_head [Scalar α] {β : Type} {l : Loss} {yp yt : Option Nat} {H : Heap α} (p t : Nat) (f : Nat × Nat → HM α β)
    (hv : lossValid H l yp yt = .ok (p, t)) :
    (getHeap >>= fun H' => liftOut (lossValid H' l yp yt) >>= f) H = f (p, t) H := by
  rw [bind_run (show (getHeap : HM α (Heap α)) H = .ok (H, H) from rfl),
    bind_run (show (liftOut (lossValid H l yp yt) : HM α (Nat × Nat)) H = .ok ((p, t), H) by rw [hv]; rfl)]

/-- **MSE = mean of squared differences**, for every batch size and all values -/
theorem mse_value (H : Heap ℝ) (p t : Nat) (n : Nat) (hp : p < H.size) (ht : t < H.size)
    (wp : (H.val p).WF) (wt : (H.val t).WF) (dp : (H.val p).dims = [n]) (dt : (H.val t).dims = [n]) :
    ∃ r H', lossCompute Loss.mse (some p) (some t) H = .ok (r, H') ∧ Extends H H' ∧
      H'.val r = ⟨[], [((List.zipWith (fun tv pv => (tv - pv) ^ 2) (H.val t).data (H.val p).data).sum) / (n : ℝ)]⟩ := by
  have hdims : (H.val t).dims = (H.val p).dims := by rw [dp, dt]
  -- d = yt - yp
  obtain ⟨d, H1, h1⟩ := ran_hArith_same .sub t p H ht hp wt wp hdims
  -- d² = d.Pow(2)
  obtain ⟨d2, H2, h2⟩ := ran_hPow d (Scalar.two : ℝ) H1
  have wd : (H1.val d).WF := by rw [h1.val]; exact zip_wf _ _ _ wt wp hdims
  have wd2 : (H2.val d2).WF := by rw [h2.val]; exact map_wf _ _ wd
  have dd2 : (H2.val d2).dims = [n] := by rw [h2.val, h1.val]; exact dt
  -- MeanAlong(0)
  obtain ⟨r, H3, h3⟩ := ran_hAlong .mean d2 0 H2 _ (vAlong_rank1 .mean (H2.val d2) n dd2 wd2)
  refine ⟨r, H3, ?_, (h1.ext.trans h2.ext).trans h3.ext, ?_⟩
  · unfold lossCompute
    rw [loss_head p t _ (by simp [lossValid, dp, dt])]
    simp only []
    rw [bind_run h1.run, bind_run h2.run]
    exact h3.run
  · rw [h3.val]
    congr 2
    simp only [Reducer.fn, Tensor.mean, Tensor.avg, Tensor.sum, Tensor.fold, Tensor.numElems, dd2, prod]
    rw [h2.val, h1.val]
    simp only [vPow, Tensor.map, Arith.fn]
    rw [foldl_add, zero_eq, zero_add, div_eq, ofNat_eq]
    congr 1
    · rw [← List.zipWith_map]
      simp
    · simp

/-- non-vacuity: two rank-1 tensors of equal length in a heap -/
example : ∃ H : Heap ℝ, 0 < H.size ∧ 1 < H.size ∧ (H.val 0).WF ∧ (H.val 1).WF ∧ (H.val 0).dims = [2] ∧ (H.val 1).dims = [2] :=
  ⟨#[⟨⟨[2], [1, 2]⟩, {}⟩, ⟨⟨[2], [0, 1]⟩, {}⟩], Nat.zero_lt_two, Nat.one_lt_two, ⟨rfl, by decide⟩, ⟨rfl, by decide⟩, rfl, rfl⟩

end C12
end Qeep
