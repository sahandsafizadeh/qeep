import QeepProps.C12
import QeepProofs.Live
/-!
# C12 / C13 — the graph a loss builds, one lemma per operation, and the runs of BCE and CE

`StIf c H k v tr es`: node `k` of `H` holds `v`; and, if `c`, it is unspent, tracked iff `tr`, with back edges `es`.
With `c := False` this speaks of values only and asks nothing of the operands' contexts (the value theorems of `C12x`, `C14`);
with `c := True` it is `St` (the graph theorems of `C13x` and the end-to-end gradients). Each heap operation the losses
use has one lemma `run_*` in these terms (`stIf_push` on the node that the operation's `h*_iff` of `QeepProofs.Heap` says it
pushes; a further operation gets its `run_*` the same way, and `g_*` is `run_*` at `c := True`); `bce_run` and `ce_run` chain them along `lossCompute` once, and list every
node the loss allocates, in allocation order, as an offset from the size of the heap it started on.
-/

namespace Qeep
namespace C12x
open RealScalar

theorem wf_map {α ι : Type} {d : List Nat} {Z : List ι} (hZ : Z.length = prod d) (hd : ∀ x ∈ d, 0 < x) (f : ι → α) :
    (⟨d, Z.map f⟩ : Tensor α).WF := ⟨by simp [hZ], hd⟩

theorem eps_val : (Scalar.eps : ℝ) = 1 / 10 ^ 12 := eps_eq

theorem oneMinusEps_val : (Scalar.oneMinusEps : ℝ) = 1 - 1 / 10 ^ 12 := by
  simp only [Scalar.oneMinusEps, Scalar.ofSci]
  norm_num

/-- `clip(·, l, u)` on one real number -/
noncomputable def clipR (l u a : ℝ) : ℝ := max l (min a u)
/-- a target as BCE / CE use it: clipped to `[0, 1]` -/
noncomputable def tHat (t : ℝ) : ℝ := clipR 0 1 t
/-- a prediction as BCE / CE use it: clipped to `[ε, 1-ε]`, `ε = 10⁻¹²` -/
noncomputable def pHat (p : ℝ) : ℝ := clipR (1 / 10 ^ 12) (1 - 1 / 10 ^ 12) p

/-- a reduction of a rank-2 tensor `[m, n]` along dimension 1: one reducer call per row, on the row as a `[1, n]`
    window (that is the shape `reduceDimUsingFunc` hands to the reducer) -/
theorem reduce_rank2_dim1 {α : Type} (t : Tensor α) (m n : Nat) (hd : t.dims = [m, n]) (hwf : t.WF) (trf : Tensor α → α) :
    t.reduceDimRaw 1 trf = some ⟨[m], (List.range m).map (fun i => trf ⟨[1, n], chunk t.data n i⟩)⟩ := by
  obtain ⟨dims, data⟩ := t
  simp only at hd
  subst hd
  have hm : 0 < m := hwf.2 m (by simp)
  have hn : 0 < n := hwf.2 n (by simp)
  have hlen : data.length = m * n := by simpa [prod] using hwf.1
  obtain ⟨data', h1, h2, h3⟩ := reduceDim_spec (⟨[m, n], data⟩ : Tensor α) hwf 1 (by simp) trf
  have hsq : squeezeDims 1 [m, n] = [m] := rfl
  simp only [hsq] at h1 h2 h3
  have h2' : data'.length = m := by simpa [prod] using h2
  rw [h1]
  congr 2
  apply List.ext_getElem?
  intro i
  by_cases hi : i < m
  · obtain ⟨fib, f1, f2, f3⟩ := h3 i (by simpa [prod] using hi)
    have hdel : delLE (([m, n] : List Nat).length - 1 - 1) ([m, n] : List Nat).reverse = [m] := rfl
    simp only [hdel] at f2 f3
    have hu : Valid [m] [i] := .cons hi .nil
    have hval : val [m] [i] = i := by simp [val]
    have hit : iterN (incr [m]) i (zerosLike [m]) = [i] := by
      have := iter_val (ds := [m]) (u := [i]) (by simpa using hm) hu
      rwa [hval] at this
    rw [hit] at f2 f3
    have hS : (insLE (([m, n] : List Nat).length - 1 - 1) 0 [i]).reverse = [i, 0] := rfl
    simp only [hS] at f2 f3
    have hgetD : ([m, n] : List Nat).getD 1 0 = n := rfl
    rw [hgetD] at f1 f2
    have hfib : fib = chunk data n i := by
      apply List.ext_getElem?
      intro j
      by_cases hj : j < n
      · rw [(f2 j hj).1]
        simp only [List.set_cons_succ, List.set_cons_zero]
        have hat : (⟨[m, n], data⟩ : Tensor α).at? [i, j] = data[i * n + j]? := by
          simp [Tensor.at?, offset, hi, hj, prod]
        rw [hat, chunk_getElem? data n i j hj]
      · rw [List.getElem?_eq_none (by omega),
          List.getElem?_eq_none (by rw [chunk_length data n i m hlen hi]; omega)]
    have hw : sliceDims (windowOf 1 [m, n] [i, 0]) = [1, n] := by simp [windowOf, unitWin, sliceDims]
    rw [f3, hw, hfib]
    simp [List.getElem?_map, List.getElem?_range hi]
  · rw [List.getElem?_eq_none (by omega), List.getElem?_eq_none (by simp; omega)]

theorem vAlong_rank2_dim1 {α : Type} [Scalar α] (r : Reducer) (t : Tensor α) (m n : Nat) (hd : t.dims = [m, n]) (hwf : t.WF) :
    vAlong r t 1 = .ok ⟨[m], (List.range m).map (fun i => r.fn ⟨[1, n], chunk t.data n i⟩)⟩ := by
  have hv : validDimLt 1 t.dims = true := by rw [hd]; rfl
  simp [vAlong, vReduceDim, hv, reduce_rank2_dim1 t m n hd hwf, Out.ofOpt]

end C12x

namespace C13x
open RealScalar
open C12x (clipR tHat pHat wf_map)

/-- status of node `k` in heap `H`: holds `v`, is not spent, is tracked iff `tr`, and if tracked has back edges `es` -/
structure St (H : Heap ℝ) (k : Nat) (v : Tensor ℝ) (tr : Bool) (es : List (Edge ℝ)) : Prop where
  lt : k < H.size
  val : H.val k = v
  clean : H.dirty k = false
  tracked : H.tracked k = tr
  edges : tr = true → (H.ctx k).edges = es

/-- `St` with the three facts about the context claimed only under `c` -/
structure StIf (c : Prop) (H : Heap ℝ) (k : Nat) (v : Tensor ℝ) (tr : Bool) (es : List (Edge ℝ)) : Prop where
  lt : k < H.size
  val : H.val k = v
  ctx : c → H.dirty k = false ∧ H.tracked k = tr ∧ (tr = true → (H.ctx k).edges = es)

section Status
variable {c : Prop} {H H' : Heap ℝ} {k : Nat} {v : Tensor ℝ} {tr tr' : Bool} {es : List (Edge ℝ)}

theorem St.toIf (h : St H k v tr es) (c : Prop) : StIf c H k v tr es :=
  ⟨h.lt, h.val, fun _ => ⟨h.clean, h.tracked, h.edges⟩⟩

theorem StIf.st (h : StIf True H k v tr es) : St H k v tr es :=
  ⟨h.lt, h.val, (h.ctx trivial).1, (h.ctx trivial).2.1, (h.ctx trivial).2.2⟩

theorem St.mono (h : St H k v tr es) (e : Extends H H') : St H' k v tr es where
  lt := Nat.lt_of_lt_of_le h.lt e.1
  val := by rw [e.val h.lt]; exact h.val
  clean := (e.dirty h.lt).trans h.clean
  tracked := (e.tracked h.lt).trans h.tracked
  edges := by rw [e.ctx h.lt]; exact h.edges

theorem StIf.mono (h : StIf c H k v tr es) (e : Extends H H') : StIf c H' k v tr es where
  lt := Nat.lt_of_lt_of_le h.lt e.1
  val := by rw [e.val h.lt]; exact h.val
  ctx := fun hc => by rw [e.dirty h.lt, e.tracked h.lt, e.ctx h.lt]; exact h.ctx hc

theorem StIf.congr_tr (h : StIf c H k v tr es) (e : c → tr = tr') : StIf c H k v tr' es :=
  ⟨h.lt, h.val, fun hc => e hc ▸ h.ctx hc⟩

end Status

/-- allocating a node with the three-way context of `gradients.go`; its context is known if the operands are unspent -/
theorem stIf_push {c : Prop} (H : Heap ℝ) (v : Tensor ℝ) (ops : List Nat) (es : List (Edge ℝ))
    (hc : c → ∀ n ∈ ops, H.dirty n = false) :
    StIf c (H.push ⟨v, mkCtx H ops es⟩) H.size v (ops.any H.tracked) es := by
  have hctx : Heap.ctx (H.push ⟨v, mkCtx H ops es⟩) H.size = mkCtx H ops es := by simp [Heap.ctx]
  refine ⟨by simp, push_val_new H _, fun h => ?_⟩
  unfold Heap.dirty Heap.tracked
  rw [hctx]
  exact mkCtx_flags H ops es (hc h)

section GraphOps
variable {c : Prop} {H : Heap ℝ} {k x : Nat} {vx : Tensor ℝ} {trx : Bool} {esx : List (Edge ℝ)}

/-! The new nodes are named from `k = H.size` on, so that a chain of operations names them `k`, `k + 1`, … directly. -/

/-- every one-operand operation is `hOp1` on a value computed from the operand: one new node with one back edge -/
theorem run_op1 (hk : H.size = k) (hx : StIf c H x vx trx esx) {F : Tensor ℝ → Out (Tensor ℝ)} {v : Tensor ℝ}
    (hF : F vx = .ok v) (rule : Nat → Rule ℝ) :
    ∃ H', hOp1 x (F (H.val x)) rule H = .ok (k, H') ∧ Extends H H' ∧ H'.size = k + 1 ∧
      StIf c H' k v trx [⟨x, rule k⟩] := by
  subst hk
  refine ⟨H.push ⟨v, mkCtx H [x] [⟨x, rule H.size⟩]⟩, by rw [hx.val, hF]; rfl, extends_push _ _, by simp, ?_⟩
  exact (stIf_push H v [x] _ fun h => by simpa using (hx.ctx h).1).congr_tr fun h => by simpa using (hx.ctx h).2.1

theorem run_scale (hk : H.size = k) (hx : StIf c H x vx trx esx) (a : ℝ) :
    ∃ H', hScale x a H = .ok (k, H') ∧ Extends H H' ∧ H'.size = k + 1 ∧
      StIf c H' k (vScale vx a) trx [⟨x, .scaleX a⟩] :=
  run_op1 hk hx (F := fun t => .ok (vScale t a)) rfl fun _ => .scaleX a

theorem run_pow (hk : H.size = k) (hx : StIf c H x vx trx esx) (a : ℝ) :
    ∃ H', hPow x a H = .ok (k, H') ∧ Extends H H' ∧ H'.size = k + 1 ∧
      StIf c H' k (vPow vx a) trx [⟨x, .powX x a⟩] :=
  run_op1 hk hx (F := fun t => .ok (vPow t a)) rfl fun _ => .powX x a

theorem run_unary (hk : H.size = k) (u : Unary) (hx : StIf c H x vx trx esx) :
    ∃ H', hUnary u x H = .ok (k, H') ∧ Extends H H' ∧ H'.size = k + 1 ∧
      StIf c H' k (vUnary u vx) trx [⟨x, unaryRule u x k⟩] :=
  run_op1 hk hx (F := fun t => .ok (vUnary u t)) rfl fun y => unaryRule u x y

theorem run_along (hk : H.size = k) (hx : StIf c H x vx trx esx) (rd : Reducer) (d : Int) (v : Tensor ℝ)
    (h : vAlong rd vx d = .ok v) :
    ∃ H', hAlong rd x d H = .ok (k, H') ∧ Extends H H' ∧ H'.size = k + 1 ∧
      StIf c H' k v trx [⟨x, alongRule rd x k d.toNat⟩] :=
  run_op1 hk hx (F := fun t => vAlong rd t d) h fun y => alongRule rd x y d.toNat

theorem run_bcast (hk : H.size = k) (hx : StIf c H x vx trx esx) (s : List Int) (v : Tensor ℝ)
    (h : vBroadcast vx s = .ok v) :
    ∃ H', hBroadcast x s H = .ok (k, H') ∧ Extends H H' ∧ H'.size = k + 1 ∧
      StIf c H' k v trx [⟨x, .bcastX x k⟩] :=
  run_op1 hk hx (F := fun t => vBroadcast t s) h fun y => .bcastX x y

theorem run_ext {a b : Nat} {va vb : Tensor ℝ} {tra trb : Bool} {esa esb : List (Edge ℝ)} (hk : H.size = k) (cm : Cmp)
    (hcm : cm = .elmax ∨ cm = .elmin) (ha : StIf c H a va tra esa) (hb : StIf c H b vb trb esb) (v : Tensor ℝ)
    (h : vCmp cm va vb = .ok v) :
    ∃ H', hCmp cm a b H = .ok (k, H') ∧ Extends H H' ∧ H'.size = k + 1 ∧
      StIf c H' k v (tra || trb) [⟨a, .elext k a b⟩, ⟨b, .elext k b a⟩] := by
  subst hk
  refine ⟨H.push ⟨v, mkCtx H [a, b] [⟨a, .elext H.size a b⟩, ⟨b, .elext H.size b a⟩]⟩, ?_, extends_push _ _,
    by simp, ?_⟩
  · exact hCmp_iff.2 ⟨v, by rw [ha.val, hb.val, h], rfl, by rw [if_pos hcm]⟩
  · refine (stIf_push H v [a, b] _ fun hc n hn => ?_).congr_tr fun hc => by
      simp [(ha.ctx hc).2.1, (hb.ctx hc).2.1]
    simp at hn
    rcases hn with rfl | rfl
    · exact (ha.ctx hc).1
    · exact (hb.ctx hc).1

/-- the three nodes Add / Sub / Mul / Div allocates from `k` on, for operands `a`, `b` of one shape: `Broadcast(a)`,
    `Broadcast(b)` (identity copies, each with one Broadcast back edge) and the result -/
structure ArithSt {ι : Type} (c : Prop) (H : Heap ℝ) (k : Nat) (o : Arith) (a b : Nat) (d : List Nat) (Z : List ι)
    (f g : ι → ℝ) (tra trb : Bool) : Prop where
  a' : StIf c H k ⟨d, Z.map f⟩ tra [⟨a, .bcastX a k⟩]
  b' : StIf c H (k + 1) ⟨d, Z.map g⟩ trb [⟨b, .bcastX b (k + 1)⟩]
  res : StIf c H (k + 2) ⟨d, Z.map (fun z => o.fn (f z) (g z))⟩ (tra || trb) (arithEdges o k (k + 1))

theorem ArithSt.mono {ι : Type} {H' : Heap ℝ} {k : Nat} {o : Arith} {a b : Nat} {d : List Nat} {Z : List ι}
    {f g : ι → ℝ} {tra trb : Bool} (h : ArithSt c H k o a b d Z f g tra trb) (e : Extends H H') :
    ArithSt c H' k o a b d Z f g tra trb :=
  ⟨h.a'.mono e, h.b'.mono e, h.res.mono e⟩

theorem run_arith {ι : Type} {d : List Nat} {Z : List ι} (hk : H.size = k) (hZ : Z.length = prod d) (hd : ∀ x ∈ d, 0 < x)
    (o : Arith) {a b : Nat} {f g : ι → ℝ} {tra trb : Bool} {esa esb : List (Edge ℝ)}
    (ha : StIf c H a ⟨d, Z.map f⟩ tra esa) (hb : StIf c H b ⟨d, Z.map g⟩ trb esb) :
    ∃ H', hArith o a b H = .ok (k + 2, H') ∧ Extends H H' ∧ H'.size = k + 3 ∧ ArithSt c H' k o a b d Z f g tra trb := by
  have wa : (⟨d, Z.map f⟩ : Tensor ℝ).WF := wf_map hZ hd f
  have wb : (⟨d, Z.map g⟩ : Tensor ℝ).WF := wf_map hZ hd g
  have hshape : targetBroadcastDims (H.val a).dims (H.val b).dims = d := by
    rw [ha.val, hb.val]; exact targetBroadcastDims_self d
  obtain ⟨Ha, ra, ea, sa, sta⟩ := run_bcast hk ha (d.map Int.ofNat) _ (vBroadcastN_self _ wa)
  obtain ⟨Hb, rb, eb, sb, stb⟩ := run_bcast sa (hb.mono ea) (d.map Int.ofNat) _ (vBroadcastN_self _ wb)
  have sta' := sta.mono eb
  let v : Tensor ℝ := ⟨d, Z.map (fun z => o.fn (f z) (g z))⟩
  have hz : Tensor.zipRaw o.fn (⟨d, Z.map f⟩ : Tensor ℝ) ⟨d, Z.map g⟩ = some v := by
    simp [Tensor.zipRaw, v]
  have hsb : Hb.size = k + 2 := sb
  refine ⟨Hb.push ⟨v, mkCtx Hb [k, k + 1] (arithEdges o k (k + 1))⟩, ?_,
    (ea.trans eb).trans (extends_push _ _), by simp [hsb], sta'.mono (extends_push _ _), stb.mono (extends_push _ _), ?_⟩
  · rw [← hsb]
    exact hArith_iff.2 ⟨k, k + 1, Hb, v, hBroadcastPair_iff.2 ⟨Ha, by rw [hshape]; exact ra, by rw [hshape]; exact rb⟩,
      by rw [sta'.val, stb.val]; exact hz, rfl, rfl⟩
  · have := stIf_push (c := c) Hb v [k, k + 1] (arithEdges o k (k + 1)) fun hc n hn => by
      simp at hn
      rcases hn with rfl | rfl
      · exact (sta'.ctx hc).1
      · exact (stb.ctx hc).1
    rw [hsb] at this
    exact this.congr_tr fun hc => by simp [(sta'.ctx hc).2.1, (stb.ctx hc).2.1]

theorem vPow_zero_map {ι : Type} (d : List Nat) (Z : List ι) (f : ι → ℝ) :
    vPow (⟨d, Z.map f⟩ : Tensor ℝ) Scalar.zero = ⟨d, Z.map (fun _ => 1)⟩ := by
  simp only [vPow, Tensor.map, List.map_map, Function.comp_def, pow_eq, zero_eq, Real.rpow_zero]

theorem vScale_map {ι : Type} (d : List Nat) (Z : List ι) (f : ι → ℝ) (a : ℝ) :
    vScale (⟨d, Z.map f⟩ : Tensor ℝ) a = ⟨d, Z.map (fun z => a * f z)⟩ := by
  simp only [vScale, Tensor.map, List.map_map, Function.comp_def, mul_eq]

theorem vUnary_map {ι : Type} (u : Unary) (d : List Nat) (Z : List ι) (f : ι → ℝ) :
    vUnary u (⟨d, Z.map f⟩ : Tensor ℝ) = ⟨d, Z.map (fun z => u.fn (f z))⟩ := by
  simp only [vUnary, Tensor.map, List.map_map, Function.comp_def]

theorem vLog_map {ι : Type} (d : List Nat) (Z : List ι) (f : ι → ℝ) :
    vUnary .log (⟨d, Z.map f⟩ : Tensor ℝ) = ⟨d, Z.map (fun z => Real.log (f z))⟩ := by
  simp only [vUnary_map, Unary.fn, log_eq]

/-- the five nodes `clip(x, l, u)` allocates from `k` on: `x⁰`, `lower = l·x⁰`, `upper = u·x⁰`,
    `xmin = ElMin(x, upper)`, `ElMax(lower, xmin)`, with their values over `ℝ` and their back edges -/
structure ClipSt {ι : Type} (c : Prop) (H : Heap ℝ) (k x : Nat) (d : List Nat) (Z : List ι) (f : ι → ℝ) (l u : ℝ)
    (tr : Bool) : Prop where
  one : StIf c H k ⟨d, Z.map (fun _ => 1)⟩ tr [⟨x, .powX x 0⟩]
  lo : StIf c H (k + 1) ⟨d, Z.map (fun _ => l)⟩ tr [⟨k, .scaleX l⟩]
  up : StIf c H (k + 2) ⟨d, Z.map (fun _ => u)⟩ tr [⟨k, .scaleX u⟩]
  xmin : StIf c H (k + 3) ⟨d, Z.map (fun z => min (f z) u)⟩ tr
    [⟨x, .elext (k + 3) x (k + 2)⟩, ⟨k + 2, .elext (k + 3) (k + 2) x⟩]
  res : StIf c H (k + 4) ⟨d, Z.map (fun z => max l (min (f z) u))⟩ tr
    [⟨k + 1, .elext (k + 4) (k + 1) (k + 3)⟩, ⟨k + 3, .elext (k + 4) (k + 3) (k + 1)⟩]

theorem ClipSt.mono {ι : Type} {H' : Heap ℝ} {k : Nat} {d : List Nat} {Z : List ι} {f : ι → ℝ} {l u : ℝ} {tr : Bool}
    (h : ClipSt c H k x d Z f l u tr) (e : Extends H H') : ClipSt c H' k x d Z f l u tr :=
  ⟨h.one.mono e, h.lo.mono e, h.up.mono e, h.xmin.mono e, h.res.mono e⟩

theorem run_clip {ι : Type} {d : List Nat} {Z : List ι} (hk : H.size = k) (hZ : Z.length = prod d) (hd : ∀ x ∈ d, 0 < x)
    {f : ι → ℝ} (hx : StIf c H x ⟨d, Z.map f⟩ trx esx) (l u : ℝ) :
    ∃ H', clip x l u H = .ok (k + 4, H') ∧ Extends H H' ∧ H'.size = k + 5 ∧ ClipSt c H' k x d Z f l u trx := by
  obtain ⟨H1, r1, e1, s1, st1⟩ := run_pow hk hx (Scalar.zero : ℝ)
  rw [vPow_zero_map, zero_eq] at st1
  obtain ⟨H2, r2, e2, s2, st2⟩ := run_scale s1 st1 l
  obtain ⟨H3, r3, e3, s3, st3⟩ := run_scale (k := k + 2) s2 (st1.mono e2) u
  simp only [vScale_map, mul_one] at st2 st3
  obtain ⟨H4, r4, e4, s4, st4⟩ := run_ext (k := k + 3) s3 .elmin (Or.inr rfl) ((hx.mono (e1.trans e2)).mono e3) st3 _
    (vCmp_same .elmin _ _ (wf_map hZ hd f) (wf_map hZ hd _) rfl)
  simp only [C12.zipWith_maps, Cmp.fn, min_eq, Bool.or_self] at st4
  obtain ⟨H5, r5, e5, s5, st5⟩ := run_ext (k := k + 4) s4 .elmax (Or.inl rfl) ((st2.mono e3).mono e4) st4 _
    (vCmp_same .elmax _ _ (wf_map hZ hd _) (wf_map hZ hd _) rfl)
  simp only [C12.zipWith_maps, Cmp.fn, max_eq, Bool.or_self] at st5
  refine ⟨H5, ?_, (((e1.trans e2).trans e3).trans e4).trans e5, s5,
    st1.mono (((e2.trans e3).trans e4).trans e5), st2.mono ((e3.trans e4).trans e5), st3.mono (e4.trans e5),
    st4.mono e5, st5⟩
  unfold clip
  rw [bind_run r1, bind_run r2, bind_run r3, bind_run r4, r5]

/-! ### The same for `St` -/

theorem g_scale (hx : St H x vx trx esx) (a : ℝ) :
    ∃ H', hScale x a H = .ok (H.size, H') ∧ Extends H H' ∧ H'.size = H.size + 1 ∧
      St H' H.size (vScale vx a) trx [⟨x, .scaleX a⟩] :=
  (run_scale rfl (hx.toIf True) a).imp fun _ h => ⟨h.1, h.2.1, h.2.2.1, h.2.2.2.st⟩

theorem g_pow (hx : St H x vx trx esx) (a : ℝ) :
    ∃ H', hPow x a H = .ok (H.size, H') ∧ Extends H H' ∧ H'.size = H.size + 1 ∧
      St H' H.size (vPow vx a) trx [⟨x, .powX x a⟩] :=
  (run_pow rfl (hx.toIf True) a).imp fun _ h => ⟨h.1, h.2.1, h.2.2.1, h.2.2.2.st⟩

theorem g_log (hx : St H x vx trx esx) :
    ∃ H', hUnary .log x H = .ok (H.size, H') ∧ Extends H H' ∧ H'.size = H.size + 1 ∧
      St H' H.size (vUnary .log vx) trx [⟨x, .logX x⟩] :=
  (run_unary rfl .log (hx.toIf True)).imp fun _ h => ⟨h.1, h.2.1, h.2.2.1, h.2.2.2.st⟩

theorem g_along (hx : St H x vx trx esx) (rd : Reducer) (d : Int) (v : Tensor ℝ) (h : vAlong rd vx d = .ok v) :
    ∃ H', hAlong rd x d H = .ok (H.size, H') ∧ Extends H H' ∧ H'.size = H.size + 1 ∧
      St H' H.size v trx [⟨x, alongRule rd x H.size d.toNat⟩] :=
  (run_along rfl (hx.toIf True) rd d v h).imp fun _ h => ⟨h.1, h.2.1, h.2.2.1, h.2.2.2.st⟩

theorem g_ext {a b : Nat} {va vb : Tensor ℝ} {tra trb : Bool} {esa esb : List (Edge ℝ)} (c : Cmp)
    (hc : c = .elmax ∨ c = .elmin) (ha : St H a va tra esa) (hb : St H b vb trb esb) (v : Tensor ℝ)
    (h : vCmp c va vb = .ok v) :
    ∃ H', hCmp c a b H = .ok (H.size, H') ∧ Extends H H' ∧ H'.size = H.size + 1 ∧
      St H' H.size v (tra || trb) [⟨a, .elext H.size a b⟩, ⟨b, .elext H.size b a⟩] :=
  (run_ext rfl c hc (ha.toIf True) (hb.toIf True) v h).imp fun _ h => ⟨h.1, h.2.1, h.2.2.1, h.2.2.2.st⟩

theorem g_arith {ι : Type} {d : List Nat} {Z : List ι} (hZ : Z.length = prod d) (hd : ∀ x ∈ d, 0 < x) (o : Arith)
    {a b : Nat} {f g : ι → ℝ} {tra trb : Bool} {esa esb : List (Edge ℝ)}
    (ha : St H a ⟨d, Z.map f⟩ tra esa) (hb : St H b ⟨d, Z.map g⟩ trb esb) :
    ∃ H', hArith o a b H = .ok (H.size + 2, H') ∧ Extends H H' ∧ H'.size = H.size + 3 ∧
      St H' H.size ⟨d, Z.map f⟩ tra [⟨a, .bcastX a H.size⟩] ∧
      St H' (H.size + 1) ⟨d, Z.map g⟩ trb [⟨b, .bcastX b (H.size + 1)⟩] ∧
      St H' (H.size + 2) ⟨d, Z.map (fun z => o.fn (f z) (g z))⟩ (tra || trb) (arithEdges o H.size (H.size + 1)) :=
  (run_arith rfl hZ hd o (ha.toIf True) (hb.toIf True)).imp fun _ h =>
    ⟨h.1, h.2.1, h.2.2.1, h.2.2.2.a'.st, h.2.2.2.b'.st, h.2.2.2.res.st⟩

theorem g_clip {ι : Type} {d : List Nat} {Z : List ι} (hZ : Z.length = prod d) (hd : ∀ x ∈ d, 0 < x) {f : ι → ℝ}
    (hx : St H x ⟨d, Z.map f⟩ trx esx) (l u : ℝ) :
    ∃ H', clip x l u H = .ok (H.size + 4, H') ∧ Extends H H' ∧ H'.size = H.size + 5 ∧
      St H' H.size ⟨d, Z.map (fun _ => 1)⟩ trx [⟨x, .powX x 0⟩] ∧
      St H' (H.size + 1) ⟨d, Z.map (fun _ => l)⟩ trx [⟨H.size, .scaleX l⟩] ∧
      St H' (H.size + 2) ⟨d, Z.map (fun _ => u)⟩ trx [⟨H.size, .scaleX u⟩] ∧
      St H' (H.size + 3) ⟨d, Z.map (fun z => min (f z) u)⟩ trx
        [⟨x, .elext (H.size + 3) x (H.size + 2)⟩, ⟨H.size + 2, .elext (H.size + 3) (H.size + 2) x⟩] ∧
      St H' (H.size + 4) ⟨d, Z.map (fun z => max l (min (f z) u))⟩ trx
        [⟨H.size + 1, .elext (H.size + 4) (H.size + 1) (H.size + 3)⟩,
         ⟨H.size + 3, .elext (H.size + 4) (H.size + 3) (H.size + 1)⟩] :=
  (run_clip rfl hZ hd (hx.toIf True) l u).imp fun _ h =>
    ⟨h.1, h.2.1, h.2.2.1, h.2.2.2.one.st, h.2.2.2.lo.st, h.2.2.2.up.st, h.2.2.2.xmin.st, h.2.2.2.res.st⟩

end GraphOps

section Runs
variable {ι : Type} {c : Prop} {H : Heap ℝ} {p t : Nat} {Z : List ι} {fT fP : ι → ℝ} {trt : Bool}
  {est esp : List (Edge ℝ)}

/-- the two inputs of a loss, of one shape `d`, as element-wise images of the list of pairs (target, prediction) -/
theorem loss_inputs {c : Prop} {H : Heap ℝ} {p t : Nat} {d : List Nat} (hp : p < H.size) (ht : t < H.size)
    (wp : (H.val p).WF) (wt : (H.val t).WF) (dp : (H.val p).dims = d) (dt : (H.val t).dims = d)
    (hc : c → H.dirty t = false ∧ H.dirty p = false ∧ H.tracked p = true) :
    ((H.val t).data.zip (H.val p).data).length = prod d ∧
    StIf c H t ⟨d, ((H.val t).data.zip (H.val p).data).map (fun z => z.1)⟩ (H.tracked t) (H.ctx t).edges ∧
    StIf c H p ⟨d, ((H.val t).data.zip (H.val p).data).map (fun z => z.2)⟩ true (H.ctx p).edges := by
  have lp : (H.val p).data.length = prod d := by rw [wp.1, dp]
  have lt' : (H.val t).data.length = prod d := by rw [wt.1, dt]
  refine ⟨by simp [lp, lt'], ⟨ht, ?_, fun h => ⟨(hc h).1, rfl, fun _ => rfl⟩⟩,
    ⟨hp, ?_, fun h => ⟨(hc h).2.1, (hc h).2.2, fun _ => rfl⟩⟩⟩
  · rw [List.map_fst_zip (by omega), ← dt]
  · rw [List.map_snd_zip (by omega), ← dp]

/-- **the run of `lossCompute .bce`** on a target `t` and a tracked prediction `p` holding `fT`, `fP` over one index
    list of length `n ≥ 1`: it succeeds and allocates thirty nodes, one line below per line of `bce.go`
    (`t̂ = tHat ∘ fT`, `p̂ = pHat ∘ fP`): clip of the targets, clip of the predictions, `log p̂`, `t̂·log p̂`, `p̂⁰`,
    `p̂⁰ − t̂`, `p̂⁰ − p̂`, `log(1 − p̂)`, `(1 − t̂)·log(1 − p̂)`, their sum, its negative, the mean. -/
theorem bce_run {n : Nat} (hn : 0 < n) (hZ : Z.length = n)
    (ht : StIf c H t ⟨[n], Z.map fT⟩ trt est) (hp : StIf c H p ⟨[n], Z.map fP⟩ true esp) :
    ∃ H', lossCompute Loss.bce (some p) (some t) H = .ok (H.size + 29, H') ∧ Extends H H' ∧ H'.size = H.size + 30 ∧
      ClipSt c H' H.size t [n] Z fT 0 1 trt ∧
      ClipSt c H' (H.size + 5) p [n] Z fP (1 / 10 ^ 12) (1 - 1 / 10 ^ 12) true ∧
      StIf c H' (H.size + 10) ⟨[n], Z.map (fun z => Real.log (pHat (fP z)))⟩ true [⟨H.size + 9, .logX (H.size + 9)⟩] ∧
      ArithSt c H' (H.size + 11) .mul (H.size + 4) (H.size + 10) [n] Z (fun z => tHat (fT z))
        (fun z => Real.log (pHat (fP z))) trt true ∧
      StIf c H' (H.size + 14) ⟨[n], Z.map (fun _ => 1)⟩ true [⟨H.size + 9, .powX (H.size + 9) 0⟩] ∧
      ArithSt c H' (H.size + 15) .sub (H.size + 14) (H.size + 4) [n] Z (fun _ => 1) (fun z => tHat (fT z)) true trt ∧
      ArithSt c H' (H.size + 18) .sub (H.size + 14) (H.size + 9) [n] Z (fun _ => 1) (fun z => pHat (fP z)) true true ∧
      StIf c H' (H.size + 21) ⟨[n], Z.map (fun z => Real.log (1 - pHat (fP z)))⟩ true
        [⟨H.size + 20, .logX (H.size + 20)⟩] ∧
      ArithSt c H' (H.size + 22) .mul (H.size + 17) (H.size + 21) [n] Z (fun z => 1 - tHat (fT z))
        (fun z => Real.log (1 - pHat (fP z))) true true ∧
      ArithSt c H' (H.size + 25) .add (H.size + 13) (H.size + 24) [n] Z (fun z => tHat (fT z) * Real.log (pHat (fP z)))
        (fun z => (1 - tHat (fT z)) * Real.log (1 - pHat (fP z))) true true ∧
      StIf c H' (H.size + 28) ⟨[n], Z.map (fun z => -1 * (tHat (fT z) * Real.log (pHat (fP z))
        + (1 - tHat (fT z)) * Real.log (1 - pHat (fP z))))⟩ true [⟨H.size + 27, .scaleX (-1)⟩] ∧
      StIf c H' (H.size + 29) ⟨[], [Reducer.fn .mean ⟨[n], Z.map (fun z => -1 * (tHat (fT z) * Real.log (pHat (fP z))
        + (1 - tHat (fT z)) * Real.log (1 - pHat (fP z))))⟩]⟩ true [⟨H.size + 28, .avgAlongX (H.size + 28) 0⟩] := by
  have hZ' : Z.length = prod [n] := by simp [prod, hZ]
  have hd : ∀ y ∈ [n], 0 < y := by simpa using hn
  obtain ⟨H1, r1, e1, s1, c1⟩ := run_clip rfl hZ' hd ht (Scalar.zero : ℝ) Scalar.one
  obtain ⟨H2, r2, e2, s2, c2⟩ := run_clip s1 hZ' hd (hp.mono e1) (Scalar.eps : ℝ) Scalar.oneMinusEps
  rw [zero_eq, one_eq] at c1
  rw [C12x.eps_val, C12x.oneMinusEps_val] at c2
  have yt : StIf c H1 (H.size + 4) ⟨[n], Z.map (fun z => tHat (fT z))⟩ trt _ := c1.res
  have yp : StIf c H2 (H.size + 9) ⟨[n], Z.map (fun z => pHat (fP z))⟩ true _ := c2.res
  obtain ⟨H3, r3, e3, s3, lg⟩ := run_unary (k := H.size + 10) s2 .log yp
  rw [vLog_map] at lg
  obtain ⟨H4, r4, e4, s4, a4⟩ := run_arith s3 hZ' hd .mul (yt.mono (e2.trans e3)) lg
  have s1v := a4.res.congr_tr fun _ => Bool.or_true trt
  simp only [Arith.fn, mul_eq] at s1v
  obtain ⟨H5, r5, e5, s5, o5⟩ := run_pow (k := H.size + 14) s4 (yp.mono (e3.trans e4)) (Scalar.zero : ℝ)
  rw [vPow_zero_map, zero_eq] at o5
  obtain ⟨H6, r6, e6, s6, a6⟩ := run_arith s5 hZ' hd .sub o5 (yt.mono (((e2.trans e3).trans e4).trans e5))
  have t2 := a6.res.congr_tr fun _ => Bool.true_or trt
  simp only [Arith.fn, sub_eq] at t2
  obtain ⟨H7, r7, e7, s7, a7⟩ := run_arith (k := H.size + 18) s6 hZ' hd .sub (o5.mono e6)
    (yp.mono (((e3.trans e4).trans e5).trans e6))
  have y2 := a7.res
  simp only [Arith.fn, sub_eq, Bool.or_self] at y2
  obtain ⟨H8, r8, e8, s8, lg2⟩ := run_unary (k := H.size + 21) s7 .log y2
  rw [vLog_map] at lg2
  obtain ⟨H9, r9, e9, s9, a9⟩ := run_arith s8 hZ' hd .mul (t2.mono (e7.trans e8)) lg2
  have s2v := a9.res
  simp only [Arith.fn, mul_eq, Bool.or_self] at s2v
  obtain ⟨H10, r10, e10, s10, a10⟩ := run_arith (k := H.size + 25) s9 hZ' hd .add
    (s1v.mono ((((e5.trans e6).trans e7).trans e8).trans e9)) s2v
  have l := a10.res
  simp only [Arith.fn, add_eq, Bool.or_self] at l
  obtain ⟨H11, r11, e11, s11, ln⟩ := run_scale (k := H.size + 28) s10 l (Scalar.neg Scalar.one : ℝ)
  rw [vScale_map, neg_eq, one_eq] at ln
  obtain ⟨H12, r12, e12, s12, res⟩ := run_along s11 ln .mean 0 _ (C12.vAlong_rank1 .mean _ n rfl (wf_map hZ' hd _))
  have f11 : Extends H11 H12 := e12
  have f10 : Extends H10 H12 := e11.trans f11
  have f9 : Extends H9 H12 := e10.trans f10
  have f8 : Extends H8 H12 := e9.trans f9
  have f7 : Extends H7 H12 := e8.trans f8
  have f6 : Extends H6 H12 := e7.trans f7
  have f5 : Extends H5 H12 := e6.trans f6
  have f4 : Extends H4 H12 := e5.trans f5
  have f3 : Extends H3 H12 := e4.trans f4
  have f2 : Extends H2 H12 := e3.trans f3
  have f1 : Extends H1 H12 := e2.trans f2
  refine ⟨H12, ?_, e1.trans f1, s12, c1.mono f1, c2.mono f2, lg.mono f3, a4.mono f4, o5.mono f5,
    a6.mono f6, a7.mono f7, lg2.mono f8, a9.mono f9, a10.mono f10, ln.mono f11, res⟩
  unfold lossCompute
  rw [C12.loss_head p t _ (by simp [lossValid, hp.val, ht.val])]
  simp only []
  rw [bind_run r1, bind_run r2, bind_run r3, bind_run r4, bind_run r5, bind_run r6, bind_run r7, bind_run r8,
    bind_run r9, bind_run r10, bind_run r11, r12]

/-- **the run of `lossCompute .ce`** on `m × n` inputs holding `fT`, `fP` over one index list (row-major): seventeen
    nodes — the two clips, `log p̂`, `t̂·log p̂`, its row sums (`SumAlong(1)`; row `i` is `chunk · n i`), their negatives,
    the mean. -/
theorem ce_run {m n : Nat} (hm : 0 < m) (hn : 0 < n) (hZ : Z.length = m * n)
    (ht : StIf c H t ⟨[m, n], Z.map fT⟩ trt est) (hp : StIf c H p ⟨[m, n], Z.map fP⟩ true esp) :
    ∃ H', lossCompute Loss.ce (some p) (some t) H = .ok (H.size + 16, H') ∧ Extends H H' ∧ H'.size = H.size + 17 ∧
      ClipSt c H' H.size t [m, n] Z fT 0 1 trt ∧
      ClipSt c H' (H.size + 5) p [m, n] Z fP (1 / 10 ^ 12) (1 - 1 / 10 ^ 12) true ∧
      StIf c H' (H.size + 10) ⟨[m, n], Z.map (fun z => Real.log (pHat (fP z)))⟩ true
        [⟨H.size + 9, .logX (H.size + 9)⟩] ∧
      ArithSt c H' (H.size + 11) .mul (H.size + 4) (H.size + 10) [m, n] Z (fun z => tHat (fT z))
        (fun z => Real.log (pHat (fP z))) trt true ∧
      StIf c H' (H.size + 14) ⟨[m], (List.range m).map (fun i => Reducer.fn .sum
        ⟨[1, n], chunk (Z.map (fun z => tHat (fT z) * Real.log (pHat (fP z)))) n i⟩)⟩ true
        [⟨H.size + 13, .sumAlongX (H.size + 13) 1⟩] ∧
      StIf c H' (H.size + 15) ⟨[m], (List.range m).map (fun i => -1 * Reducer.fn .sum
        ⟨[1, n], chunk (Z.map (fun z => tHat (fT z) * Real.log (pHat (fP z)))) n i⟩)⟩ true
        [⟨H.size + 14, .scaleX (-1)⟩] ∧
      StIf c H' (H.size + 16) ⟨[], [Reducer.fn .mean ⟨[m], (List.range m).map (fun i => -1 * Reducer.fn .sum
        ⟨[1, n], chunk (Z.map (fun z => tHat (fT z) * Real.log (pHat (fP z)))) n i⟩)⟩]⟩ true
        [⟨H.size + 15, .avgAlongX (H.size + 15) 0⟩] := by
  have hZ' : Z.length = prod [m, n] := by simp [prod, hZ]
  have hd : ∀ y ∈ [m, n], 0 < y := by simp; omega
  obtain ⟨H1, r1, e1, s1, c1⟩ := run_clip rfl hZ' hd ht (Scalar.zero : ℝ) Scalar.one
  obtain ⟨H2, r2, e2, s2, c2⟩ := run_clip s1 hZ' hd (hp.mono e1) (Scalar.eps : ℝ) Scalar.oneMinusEps
  rw [zero_eq, one_eq] at c1
  rw [C12x.eps_val, C12x.oneMinusEps_val] at c2
  have yt : StIf c H1 (H.size + 4) ⟨[m, n], Z.map (fun z => tHat (fT z))⟩ trt _ := c1.res
  have yp : StIf c H2 (H.size + 9) ⟨[m, n], Z.map (fun z => pHat (fP z))⟩ true _ := c2.res
  obtain ⟨H3, r3, e3, s3, lg⟩ := run_unary (k := H.size + 10) s2 .log yp
  rw [vLog_map] at lg
  obtain ⟨H4, r4, e4, s4, a4⟩ := run_arith s3 hZ' hd .mul (yt.mono (e2.trans e3)) lg
  have sv := a4.res.congr_tr fun _ => Bool.or_true trt
  simp only [Arith.fn, mul_eq] at sv
  obtain ⟨H5, r5, e5, s5, l⟩ := run_along (k := H.size + 14) s4 sv .sum 1 _
    (C12x.vAlong_rank2_dim1 .sum _ m n rfl (wf_map hZ' hd _))
  obtain ⟨H6, r6, e6, s6, ln⟩ := run_scale s5 l (Scalar.neg Scalar.one : ℝ)
  rw [vScale_map, neg_eq, one_eq] at ln
  obtain ⟨H7, r7, e7, s7, res⟩ := run_along (k := H.size + 16) s6 ln .mean 0 _
    (C12.vAlong_rank1 .mean _ m rfl (wf_map (by simp [prod]) (by simpa using hm) _))
  have f6 : Extends H6 H7 := e7
  have f5 : Extends H5 H7 := e6.trans f6
  have f4 : Extends H4 H7 := e5.trans f5
  have f3 : Extends H3 H7 := e4.trans f4
  have f2 : Extends H2 H7 := e3.trans f3
  have f1 : Extends H1 H7 := e2.trans f2
  refine ⟨H7, ?_, e1.trans f1, s7, c1.mono f1, c2.mono f2, lg.mono f3, a4.mono f4, l.mono f5, ln.mono f6, res⟩
  unfold lossCompute
  rw [C12.loss_head p t _ (by simp [lossValid, hp.val, ht.val])]
  simp only []
  rw [bind_run r1, bind_run r2, bind_run r3, bind_run r4, bind_run r5, bind_run r6, r7]

end Runs

end C13x
end Qeep
