import QeepProps.C03
import QeepProps.C06
import QeepProps.C12g
import QeepProps.C13
import QeepProps.C14
import QeepProofs.FC
/-!
# C12 / C14 extension — BCE, CE and Softmax compute the defined values (over `ℝ`)

What the Go code does (`component/losses/bce.go`, `ce.go`, `component/layers/activations/softmax.go`) and what is
proved here about its model (`Qeep.Components`):

* `clip(x, l, u) = lower.ElMax(x.ElMin(upper))`, i.e. element-wise `max l (min x u)`;
* BCE clips the *targets* to `[0, 1]` and the predictions to `[ε, 1-ε]`, `ε = 1e-12`, then returns
  `MeanAlong(0)` of `-(t̂·log p̂ + (1-t̂)·log(1-p̂))`;
* CE clips the same way, then `SumAlong(1)`, `Scale(-1)`, `MeanAlong(0)`;
* Softmax does **not** subtract the maximum: `exp(x) / UnSqueeze(SumAlong(exp(x), dim), dim)`.

Every theorem is a total-correctness statement: for all sizes and all real values the run succeeds (no error, no
panic), only allocates (`Extends`), and the result node holds exactly the stated value. The runs of BCE and CE
themselves are `C13x.bce_run`, `C13x.ce_run` (`C12g`); here their last node is read off.
-/

set_option linter.unusedSectionVars false
set_option linter.unusedVariables false
namespace Qeep
namespace C12x
open RealScalar

section Generic
variable {α : Type} [Scalar α]

theorem run_unique {β : Type} {m : HM α β} {H H1 H2 : Heap α} {r1 r2 : β}
    (h1 : m H = .ok (r1, H1)) (h2 : m H = .ok (r2, H2)) : r1 = r2 ∧ H1 = H2 := by
  rw [h1] at h2
  injection h2 with h2
  injection h2 with a b
  exact ⟨a, b⟩

end Generic

theorem tensor_sum (t : Tensor ℝ) : t.sum = t.data.sum := by
  simp only [Tensor.sum, Tensor.fold]
  rw [foldl_add, zero_eq, zero_add]

/-- `MeanAlong(0)` after `Scale(−1)`, the tail of BCE and CE -/
theorem mean_neg_map {ι : Type} (n : Nat) (Z : List ι) (F : ι → ℝ) :
    Reducer.fn .mean (⟨[n], Z.map (fun z => -1 * F z)⟩ : Tensor ℝ) = -(1 / (n : ℝ)) * (Z.map F).sum := by
  simp only [Reducer.fn, Tensor.mean, Tensor.avg, tensor_sum, Tensor.numElems, prod, div_eq, ofNat_eq, Nat.mul_one]
  rw [List.sum_map_mul_left]
  ring

theorem vBroadcastN_one {α : Type} (n : Nat) (v : α) (hn : 0 < n) :
    vBroadcastN (⟨[1], [v]⟩ : Tensor α) [n] = .ok ⟨[n], List.replicate n v⟩ := by
  have := C13.vBroadcastN_const (⟨[1], [v]⟩ : Tensor α) ⟨by simp [prod], by simp⟩ v (by simp) [n] (by simpa using hn)
    (by simp [validBroadcast, validBroadcastLE])
  simpa [prod] using this

theorem vUnSqueeze_scalar {α : Type} (v : α) : vUnSqueeze (⟨[], [v]⟩ : Tensor α) 0 = .ok ⟨[1], [v]⟩ :=
  C13.vUnSqueeze_ok (⟨[], [v]⟩ : Tensor α) ⟨by simp [prod], by simp⟩ 0 (by simp [validUnSqueeze])

theorem targetBroadcast_n_one (n : Nat) (hn : 0 < n) : targetBroadcastDims [n] [1] = [n] := by
  simp only [targetBroadcastDims, List.reverse_cons, List.reverse_nil, List.nil_append, targetBroadcastLE]
  have : (if n > 1 then n else 1) = n := by split <;> omega
  simp [this]

theorem zipWith_replicate_right {β γ δ : Type} (f : β → γ → δ) (l : List β) (c : γ) {n : Nat} (h : l.length = n) :
    List.zipWith f l (List.replicate n c) = l.map (fun a => f a c) := by
  rw [List.zipWith_comm]
  exact C13.zipWith_replicate_left _ c l h

/-- **Softmax (rank 1) = exp(xᵢ) / Σⱼ exp(xⱼ)** — no max-shift in the code; for every length and all values. -/
theorem softmax_value (H : Heap ℝ) (x n : Nat) (hx : x < H.size) (hwf : (H.val x).WF) (hdim : (H.val x).dims = [n]) :
    ∃ r H', actForward (Activation.softmax 0) [some x] H = .ok (r, H') ∧ Extends H H' ∧
      H'.val r = ⟨[n], (H.val x).data.map (fun a => Real.exp a / ((H.val x).data.map Real.exp).sum)⟩ := by
  have hn : 0 < n := hwf.2 n (by rw [hdim]; simp)
  have hlen : (H.val x).data.length = n := by rw [hwf.1, hdim]; simp [prod]
  have hZ : (H.val x).data.length = prod [n] := by simp [prod, hlen]
  have hd : ∀ y ∈ [n], 0 < y := by simpa using hn
  -- e = x.Exp()
  obtain ⟨e, H1, h1'⟩ := ran_hUnary .exp x H
  have h1 : Ran (hUnary .exp x) H ⟨[n], (H.val x).data.map (fun a => Unary.fn .exp a)⟩ e H1 := hdim ▸ h1'
  have we : (H1.val e).WF := by rw [h1.val]; exact wf_map hZ hd _
  -- s = e.SumAlong(0)
  obtain ⟨s, H2, h2⟩ := ran_hAlong .sum e 0 H1 _ (C12.vAlong_rank1 .sum (H1.val e) n (by rw [h1.val]) we)
  -- s = s.UnSqueeze(0)
  obtain ⟨s', H3, h3⟩ := ran_hUnSqueeze s 0 H2 ⟨[1], [Reducer.fn .sum (H1.val e)]⟩ (by rw [h2.val]; exact vUnSqueeze_scalar _)
  have e3lt : e < H3.size := Nat.lt_of_lt_of_le h1.lt (h2.ext.trans h3.ext).1
  have e3val : H3.val e = ⟨[n], (H.val x).data.map (fun a => Unary.fn .exp a)⟩ := by
    rw [(h2.ext.trans h3.ext).val h1.lt, h1.val]
  -- e.Div(s)
  have hs3 : H3.val s' = ⟨[1], [Reducer.fn .sum (H1.val e)]⟩ := h3.val
  obtain ⟨r, H4, h4⟩ := ran_hArith .div e s' H3 e3lt h3.lt
    ⟨[n], (H.val x).data.map (fun a => Unary.fn .exp a)⟩ ⟨[n], List.replicate n (Reducer.fn .sum (H1.val e))⟩
    ⟨[n], List.zipWith (Arith.fn .div) ((H.val x).data.map (fun a => Unary.fn .exp a))
      (List.replicate n (Reducer.fn .sum (H1.val e)))⟩
    (by rw [e3val, hs3, targetBroadcast_n_one n hn]; exact vBroadcastN_self _ (wf_map hZ hd _))
    (by rw [e3val, hs3, targetBroadcast_n_one n hn]; exact vBroadcastN_one n _ hn)
    (by simp [Tensor.zipRaw, hlen])
  refine ⟨r, H4, ?_, ((h1.ext.trans h2.ext).trans h3.ext).trans h4.ext, ?_⟩
  · rw [C14.actForward_softmax, if_neg (by rw [hdim]; simp), bind_run h1.run]
    rw [bind_run (show hAlong .sum e ((0 : Nat) : Int) H1 = .ok (s, H2) from h2.run)]
    rw [bind_run (show hUnSqueeze s ((0 : Nat) : Int) H2 = .ok (s', H3) from h3.run)]
    exact h4.run
  · rw [h4.val]
    congr 1
    rw [h1.val]
    rw [zipWith_replicate_right _ _ _ (by rw [List.length_map, hlen]), List.map_map]
    simp only [Reducer.fn, tensor_sum, Unary.fn, Arith.fn, Function.comp_def, div_eq, exp_eq]

theorem softmax_sum_one (X : List ℝ) (hX : X ≠ []) :
    (X.map (fun a => Real.exp a / (X.map Real.exp).sum)).sum = 1 := by
  have hpos : 0 < (X.map Real.exp).sum := by
    apply List.sum_pos
    · intro y hy
      obtain ⟨a, _, rfl⟩ := List.mem_map.mp hy
      exact Real.exp_pos a
    · simpa using hX
  simp only [div_eq_mul_inv]
  rw [List.sum_map_mul_right]
  exact mul_inv_cancel₀ (ne_of_gt hpos)

theorem softmax_mem_Ioc (X : List ℝ) (a : ℝ) (ha : a ∈ X) :
    0 < Real.exp a / (X.map Real.exp).sum ∧ Real.exp a / (X.map Real.exp).sum ≤ 1 := by
  have hnn : ∀ y ∈ X.map Real.exp, 0 ≤ y := by
    intro y hy
    obtain ⟨b, _, rfl⟩ := List.mem_map.mp hy
    exact le_of_lt (Real.exp_pos b)
  have hle : Real.exp a ≤ (X.map Real.exp).sum := List.single_le_sum hnn _ (List.mem_map_of_mem ha)
  have hpos : 0 < (X.map Real.exp).sum := lt_of_lt_of_le (Real.exp_pos a) hle
  exact ⟨div_pos (Real.exp_pos a) hpos, (div_le_one hpos).mpr hle⟩

/-- **Softmax (rank 1) returns a point of the open-below simplex**: the run succeeds, the outputs are the
    normalised exponentials, they sum to 1 and each lies in `(0, 1]`. -/
theorem softmax_simplex (H : Heap ℝ) (x n : Nat) (hx : x < H.size) (hwf : (H.val x).WF) (hdim : (H.val x).dims = [n]) :
    ∃ r H', actForward (Activation.softmax 0) [some x] H = .ok (r, H') ∧ Extends H H' ∧
      (H'.val r).dims = [n] ∧ (H'.val r).data.sum = 1 ∧ ∀ y ∈ (H'.val r).data, 0 < y ∧ y ≤ 1 := by
  obtain ⟨r, H', h1, h2, h3⟩ := softmax_value H x n hx hwf hdim
  have hn : 0 < n := hwf.2 n (by rw [hdim]; simp)
  have hlen : (H.val x).data.length = n := by rw [hwf.1, hdim]; simp [prod]
  have hne : (H.val x).data ≠ [] := by
    intro h; rw [h] at hlen; simp at hlen; omega
  refine ⟨r, H', h1, h2, by rw [h3], by rw [h3]; exact softmax_sum_one _ hne, ?_⟩
  intro y hy
  rw [h3] at hy
  obtain ⟨a, ha, rfl⟩ := List.mem_map.mp hy
  exact softmax_mem_Ioc _ a ha

theorem tHat_mem (t : ℝ) : 0 ≤ tHat t ∧ tHat t ≤ 1 := by
  unfold tHat clipR
  exact ⟨le_max_left _ _, max_le (by norm_num) (min_le_right _ _)⟩

theorem pHat_mem (p : ℝ) : 0 < pHat p ∧ pHat p < 1 := by
  unfold pHat clipR
  refine ⟨lt_of_lt_of_le (by norm_num) (le_max_left _ _), ?_⟩
  apply lt_of_le_of_lt (max_le (by norm_num) (min_le_right _ _))
  norm_num

theorem tHat_id (t : ℝ) (h0 : 0 ≤ t) (h1 : t ≤ 1) : tHat t = t := by
  unfold tHat clipR
  rw [min_eq_left h1, max_eq_right h0]

theorem zipWith_as_map {β γ δ : Type} (G : β → γ → δ) (l : List β) (l' : List γ) :
    List.zipWith G l l' = (l.zip l').map (fun z => G z.1 z.2) := by
  rw [List.map_zip_eq_zipWith]; rfl

/-- **BCE = -(1/n) Σᵢ [t̂ᵢ·log p̂ᵢ + (1-t̂ᵢ)·log(1-p̂ᵢ)]** with `t̂ = clip(t, 0, 1)`, `p̂ = clip(p, ε, 1-ε)`, `ε = 10⁻¹²`:
    for every batch size `n ≥ 1` and all values the run succeeds and returns that scalar. -/
theorem bce_value (H : Heap ℝ) (p t : Nat) (n : Nat) (hp : p < H.size) (ht : t < H.size)
    (wp : (H.val p).WF) (wt : (H.val t).WF) (dp : (H.val p).dims = [n]) (dt : (H.val t).dims = [n]) :
    ∃ r H', lossCompute Loss.bce (some p) (some t) H = .ok (r, H') ∧ Extends H H' ∧
      H'.val r = ⟨[], [-(1 / (n : ℝ)) * (List.zipWith (fun tv pv =>
        tHat tv * Real.log (pHat pv) + (1 - tHat tv) * Real.log (1 - pHat pv)) (H.val t).data (H.val p).data).sum]⟩ := by
  obtain ⟨hZ, t0, p0⟩ := C13x.loss_inputs (c := False) hp ht wp wt dp dt False.elim
  obtain ⟨H', hrun, hext, -, -, -, -, -, -, -, -, -, -, -, -, hres⟩ :=
    C13x.bce_run (wp.2 n (by rw [dp]; simp)) (by simpa [prod] using hZ) t0 p0
  refine ⟨_, H', hrun, hext, ?_⟩
  rw [hres.val, mean_neg_map, zipWith_as_map]

/-- with targets already in `[0, 1]` the target clip is the identity: the textbook formula with `t` itself -/
theorem bce_value_unit_targets (H : Heap ℝ) (p t : Nat) (n : Nat) (hp : p < H.size) (ht : t < H.size)
    (wp : (H.val p).WF) (wt : (H.val t).WF) (dp : (H.val p).dims = [n]) (dt : (H.val t).dims = [n])
    (hunit : ∀ tv ∈ (H.val t).data, 0 ≤ tv ∧ tv ≤ 1) :
    ∃ r H', lossCompute Loss.bce (some p) (some t) H = .ok (r, H') ∧ Extends H H' ∧
      H'.val r = ⟨[], [-(1 / (n : ℝ)) * (List.zipWith (fun tv pv =>
        tv * Real.log (pHat pv) + (1 - tv) * Real.log (1 - pHat pv)) (H.val t).data (H.val p).data).sum]⟩ := by
  obtain ⟨r, H', h1, h2, h3⟩ := bce_value H p t n hp ht wp wt dp dt
  refine ⟨r, H', h1, h2, ?_⟩
  rw [h3, zipWith_as_map, zipWith_as_map]
  congr 4
  apply List.map_congr_left
  intro z hz
  have hm := (List.of_mem_zip (show (z.1, z.2) ∈ _ from hz)).1
  rw [tHat_id z.1 (hunit _ hm).1 (hunit _ hm).2]

theorem list_sum_nonpos (l : List ℝ) (h : ∀ x ∈ l, x ≤ 0) : l.sum ≤ 0 := by
  induction l with
  | nil => simp
  | cons x xs ih =>
    rw [List.sum_cons]
    have h1 := h x (by simp)
    have h2 := ih (fun y hy => h y (by simp [hy]))
    linarith

theorem bce_term_nonpos (t p : ℝ) (ht0 : 0 ≤ t) (ht1 : t ≤ 1) (hp0 : 0 < p) (hp1 : p < 1) :
    t * Real.log p + (1 - t) * Real.log (1 - p) ≤ 0 := by
  have l1 : Real.log p ≤ 0 := Real.log_nonpos (le_of_lt hp0) (le_of_lt hp1)
  have l2 : Real.log (1 - p) ≤ 0 := Real.log_nonpos (by linarith) (by linarith)
  have a1 : t * Real.log p ≤ 0 := mul_nonpos_iff.mpr (Or.inl ⟨ht0, l1⟩)
  have a2 : (1 - t) * Real.log (1 - p) ≤ 0 := mul_nonpos_iff.mpr (Or.inl ⟨by linarith, l2⟩)
  linarith

/-- the BCE formula is non-negative for **all** real inputs: the clips put `t̂` in `[0,1]` and `p̂` in `(0,1)` -/
theorem bce_formula_nonneg (n : ℕ) (T P : List ℝ) :
    0 ≤ -(1 / (n : ℝ)) * (List.zipWith (fun tv pv =>
        tHat tv * Real.log (pHat pv) + (1 - tHat tv) * Real.log (1 - pHat pv)) T P).sum := by
  have hs : (List.zipWith (fun tv pv =>
      tHat tv * Real.log (pHat pv) + (1 - tHat tv) * Real.log (1 - pHat pv)) T P).sum ≤ 0 := by
    apply list_sum_nonpos
    intro y hy
    rw [zipWith_as_map] at hy
    obtain ⟨z, _, rfl⟩ := List.mem_map.mp hy
    exact bce_term_nonpos _ _ (tHat_mem z.1).1 (tHat_mem z.1).2 (pHat_mem z.2).1 (pHat_mem z.2).2
  have hn : (0 : ℝ) ≤ 1 / (n : ℝ) := by positivity
  have : -(1 / (n : ℝ)) * (List.zipWith (fun tv pv =>
      tHat tv * Real.log (pHat pv) + (1 - tHat tv) * Real.log (1 - pHat pv)) T P).sum
      = (1 / (n : ℝ)) * (-(List.zipWith (fun tv pv =>
      tHat tv * Real.log (pHat pv) + (1 - tHat tv) * Real.log (1 - pHat pv)) T P).sum) := by ring
  rw [this]
  exact mul_nonneg hn (neg_nonneg.mpr hs)

/-- **BCE ≥ 0**: the run succeeds and the scalar it returns is non-negative, for every batch size and all values. -/
theorem bce_nonneg (H : Heap ℝ) (p t : Nat) (n : Nat) (hp : p < H.size) (ht : t < H.size)
    (wp : (H.val p).WF) (wt : (H.val t).WF) (dp : (H.val p).dims = [n]) (dt : (H.val t).dims = [n]) :
    ∃ r H' v, lossCompute Loss.bce (some p) (some t) H = .ok (r, H') ∧ H'.val r = ⟨[], [v]⟩ ∧ 0 ≤ v := by
  obtain ⟨r, H', h1, _, h3⟩ := bce_value H p t n hp ht wp wt dp dt
  exact ⟨r, H', _, h1, h3, bce_formula_nonneg n _ _⟩

theorem chunk_map {β γ : Type} (f : β → γ) (l : List β) (n i : Nat) : chunk (l.map f) n i = (chunk l n i).map f := by
  simp [chunk, List.map_take, List.map_drop]

theorem chunk_zip {β γ : Type} (a : List β) (b : List γ) (n i : Nat) :
    chunk (a.zip b) n i = (chunk a n i).zip (chunk b n i) := by
  simp only [chunk, List.zip_eq_zipWith, List.take_zipWith, List.drop_zipWith]

/-- **CE = -(1/m) Σ_rows Σ_classes t̂·log p̂** with `t̂ = clip(t, 0, 1)`, `p̂ = clip(p, ε, 1-ε)`, `ε = 10⁻¹²`: for every
    batch size `m ≥ 1`, class count `n ≥ 1` and all values the run succeeds and returns that scalar. Row `i` of a
    `[m, n]` tensor is `chunk data n i` (the `i`-th block of `n` consecutive row-major elements). -/
theorem ce_value (H : Heap ℝ) (p t : Nat) (m n : Nat) (hp : p < H.size) (ht : t < H.size)
    (wp : (H.val p).WF) (wt : (H.val t).WF) (dp : (H.val p).dims = [m, n]) (dt : (H.val t).dims = [m, n]) :
    ∃ r H', lossCompute Loss.ce (some p) (some t) H = .ok (r, H') ∧ Extends H H' ∧
      H'.val r = ⟨[], [-(1 / (m : ℝ)) * ((List.range m).map (fun i =>
        (List.zipWith (fun tv pv => tHat tv * Real.log (pHat pv))
          (chunk (H.val t).data n i) (chunk (H.val p).data n i)).sum)).sum]⟩ := by
  obtain ⟨hZ, t0, p0⟩ := C13x.loss_inputs (c := False) hp ht wp wt dp dt False.elim
  obtain ⟨H', hrun, hext, -, -, -, -, -, -, -, hres⟩ :=
    C13x.ce_run (wp.2 m (by rw [dp]; simp)) (wp.2 n (by rw [dp]; simp)) (by simpa [prod] using hZ) t0 p0
  refine ⟨_, H', hrun, hext, ?_⟩
  rw [hres.val, mean_neg_map]
  congr 5
  funext i
  rw [chunk_map, chunk_zip, zipWith_as_map]
  simp only [Reducer.fn, tensor_sum]

theorem mem_of_mem_chunk {β : Type} (l : List β) (n i : Nat) (a : β) (h : a ∈ chunk l n i) : a ∈ l :=
  List.mem_of_mem_drop (List.mem_of_mem_take h)

/-- with targets already in `[0, 1]` (e.g. one-hot rows) the target clip is the identity -/
theorem ce_value_unit_targets (H : Heap ℝ) (p t : Nat) (m n : Nat) (hp : p < H.size) (ht : t < H.size)
    (wp : (H.val p).WF) (wt : (H.val t).WF) (dp : (H.val p).dims = [m, n]) (dt : (H.val t).dims = [m, n])
    (hunit : ∀ tv ∈ (H.val t).data, 0 ≤ tv ∧ tv ≤ 1) :
    ∃ r H', lossCompute Loss.ce (some p) (some t) H = .ok (r, H') ∧ Extends H H' ∧
      H'.val r = ⟨[], [-(1 / (m : ℝ)) * ((List.range m).map (fun i =>
        (List.zipWith (fun tv pv => tv * Real.log (pHat pv))
          (chunk (H.val t).data n i) (chunk (H.val p).data n i)).sum)).sum]⟩ := by
  obtain ⟨r, H', h1, h2, h3⟩ := ce_value H p t m n hp ht wp wt dp dt
  refine ⟨r, H', h1, h2, ?_⟩
  rw [h3]
  congr 5
  funext i
  rw [zipWith_as_map, zipWith_as_map]
  congr 1
  apply List.map_congr_left
  intro z hz
  have hm := mem_of_mem_chunk _ _ _ _ (List.of_mem_zip (show (z.1, z.2) ∈ _ from hz)).1
  rw [tHat_id z.1 (hunit _ hm).1 (hunit _ hm).2]

theorem ce_formula_nonneg (m n : ℕ) (T P : List ℝ) :
    0 ≤ -(1 / (m : ℝ)) * ((List.range m).map (fun i =>
        (List.zipWith (fun tv pv => tHat tv * Real.log (pHat pv)) (chunk T n i) (chunk P n i)).sum)).sum := by
  have hs : ((List.range m).map (fun i =>
      (List.zipWith (fun tv pv => tHat tv * Real.log (pHat pv)) (chunk T n i) (chunk P n i)).sum)).sum ≤ 0 := by
    apply list_sum_nonpos
    intro y hy
    obtain ⟨i, _, rfl⟩ := List.mem_map.mp hy
    apply list_sum_nonpos
    intro w hw
    rw [zipWith_as_map] at hw
    obtain ⟨z, _, rfl⟩ := List.mem_map.mp hw
    exact mul_nonpos_iff.mpr (Or.inl ⟨(tHat_mem z.1).1,
      Real.log_nonpos (le_of_lt (pHat_mem z.2).1) (le_of_lt (pHat_mem z.2).2)⟩)
  have hn : (0 : ℝ) ≤ 1 / (m : ℝ) := by positivity
  have := mul_nonneg hn (neg_nonneg.mpr hs)
  linarith

/-- **CE ≥ 0**: the run succeeds and the scalar it returns is non-negative, for every batch size, class count and
    all values. -/
theorem ce_nonneg (H : Heap ℝ) (p t : Nat) (m n : Nat) (hp : p < H.size) (ht : t < H.size)
    (wp : (H.val p).WF) (wt : (H.val t).WF) (dp : (H.val p).dims = [m, n]) (dt : (H.val t).dims = [m, n]) :
    ∃ r H' v, lossCompute Loss.ce (some p) (some t) H = .ok (r, H') ∧ H'.val r = ⟨[], [v]⟩ ∧ 0 ≤ v := by
  obtain ⟨r, H', h1, _, h3⟩ := ce_value H p t m n hp ht wp wt dp dt
  exact ⟨r, H', _, h1, h3, ce_formula_nonneg m n _ _⟩

/-! "whenever the run returns `ok`" forms: the model is a function (`run_unique`), so these follow from the total forms -/

theorem bce_value_of_ok (H H' : Heap ℝ) (p t r : Nat) (n : Nat) (hp : p < H.size) (ht : t < H.size)
    (wp : (H.val p).WF) (wt : (H.val t).WF) (dp : (H.val p).dims = [n]) (dt : (H.val t).dims = [n])
    (hrun : lossCompute Loss.bce (some p) (some t) H = .ok (r, H')) :
    H'.val r = ⟨[], [-(1 / (n : ℝ)) * (List.zipWith (fun tv pv =>
        tHat tv * Real.log (pHat pv) + (1 - tHat tv) * Real.log (1 - pHat pv)) (H.val t).data (H.val p).data).sum]⟩ := by
  obtain ⟨r0, H0, h1, _, h3⟩ := bce_value H p t n hp ht wp wt dp dt
  obtain ⟨rfl, rfl⟩ := run_unique h1 hrun
  exact h3

theorem ce_value_of_ok (H H' : Heap ℝ) (p t r : Nat) (m n : Nat) (hp : p < H.size) (ht : t < H.size)
    (wp : (H.val p).WF) (wt : (H.val t).WF) (dp : (H.val p).dims = [m, n]) (dt : (H.val t).dims = [m, n])
    (hrun : lossCompute Loss.ce (some p) (some t) H = .ok (r, H')) :
    H'.val r = ⟨[], [-(1 / (m : ℝ)) * ((List.range m).map (fun i =>
        (List.zipWith (fun tv pv => tHat tv * Real.log (pHat pv))
          (chunk (H.val t).data n i) (chunk (H.val p).data n i)).sum)).sum]⟩ := by
  obtain ⟨r0, H0, h1, _, h3⟩ := ce_value H p t m n hp ht wp wt dp dt
  obtain ⟨rfl, rfl⟩ := run_unique h1 hrun
  exact h3

theorem softmax_value_of_ok (H H' : Heap ℝ) (x r n : Nat) (hx : x < H.size) (hwf : (H.val x).WF)
    (hdim : (H.val x).dims = [n]) (hrun : actForward (Activation.softmax 0) [some x] H = .ok (r, H')) :
    H'.val r = ⟨[n], (H.val x).data.map (fun a => Real.exp a / ((H.val x).data.map Real.exp).sum)⟩ := by
  obtain ⟨r0, H0, h1, _, h3⟩ := softmax_value H x n hx hwf hdim
  obtain ⟨rfl, rfl⟩ := run_unique h1 hrun
  exact h3

theorem bcast_col {α : Type} (m n : Nat) (v : List α) (hm : 0 < m) (hn : 0 < n) (hv : v.length = m) :
    ∃ data, (⟨[m, 1], v⟩ : Tensor α).broadcastRaw [m, n] = some ⟨[m, n], data⟩ ∧ data.length = m * n ∧
      ∀ i j, i < m → j < n → data[i * n + j]? = v[i]? := by
  have hwf : (⟨[m, 1], v⟩ : Tensor α).WF := ⟨by simp [prod, hv], by simp; omega⟩
  have hvb : validBroadcast [m, 1] [m, n] = true := by simp [validBroadcast, validBroadcastLE]
  obtain ⟨data, h1, h2, h3⟩ := C03.broadcast_get (⟨[m, 1], v⟩ : Tensor α) hwf [m, n] (by simp; omega) hvb
  refine ⟨data, h1, by simpa [prod] using h2.1, ?_⟩
  intro i j hi hj
  have hu : Valid [m, n].reverse [j, i] := by
    simp only [List.reverse_cons, List.reverse_nil, List.nil_append, List.cons_append]
    exact .cons hj (.cons hi .nil)
  obtain ⟨e1, _⟩ := h3 [j, i] hu
  have hr : ([j, i] : List Nat).reverse = [i, j] := rfl
  rw [hr, at?_rank2 m n data i j hi hj] at e1
  rw [e1]
  simp only [List.reverse_cons, List.reverse_nil, List.nil_append, List.cons_append, projLE, if_true]
  have h0 : (if 1 = n then j else 0) = 0 := by split <;> omega
  rw [h0]
  rw [at?_rank2 m 1 v i 0 hi (by omega)]
  simp

theorem targetBroadcast_mn_m1 (m n : Nat) (hn : 0 < n) : targetBroadcastDims [m, n] [m, 1] = [m, n] := by
  simp only [targetBroadcastDims, List.reverse_cons, List.reverse_nil, List.nil_append, List.cons_append, targetBroadcastLE]
  have h1 : (if n > 1 then n else 1) = n := by split <;> omega
  simp [h1]

/-- **Softmax on a batch (rank 2, `Dim = 1`)**: row `i` of the result is the normalised exponentials of row `i` of
    the input, `exp(x_ij) / Σ_j' exp(x_ij')` — for every batch size, class count and all values. Row `i` of a
    `[m, n]` tensor is `chunk data n i`. -/
theorem softmax_value_rank2 (H : Heap ℝ) (x m n : Nat) (hx : x < H.size) (hwf : (H.val x).WF)
    (hdim : (H.val x).dims = [m, n]) :
    ∃ r H', actForward (Activation.softmax 1) [some x] H = .ok (r, H') ∧ Extends H H' ∧
      (H'.val r).dims = [m, n] ∧ (H'.val r).data.length = m * n ∧
      ∀ i, i < m → chunk (H'.val r).data n i =
        (chunk (H.val x).data n i).map (fun a => Real.exp a / ((chunk (H.val x).data n i).map Real.exp).sum) := by
  have hm : 0 < m := hwf.2 m (by rw [hdim]; simp)
  have hn : 0 < n := hwf.2 n (by rw [hdim]; simp)
  have hlen : (H.val x).data.length = m * n := by rw [hwf.1, hdim]; simp [prod]
  have hZ : (H.val x).data.length = prod [m, n] := by simp [prod, hlen]
  have hd : ∀ y ∈ [m, n], 0 < y := by simp; omega
  -- e = x.Exp()
  obtain ⟨e, H1, h1'⟩ := ran_hUnary .exp x H
  have h1 : Ran (hUnary .exp x) H ⟨[m, n], (H.val x).data.map (fun a => Unary.fn .exp a)⟩ e H1 := hdim ▸ h1'
  have we : (H1.val e).WF := by rw [h1.val]; exact wf_map hZ hd _
  -- s = e.SumAlong(1)
  obtain ⟨s, H2, h2⟩ := ran_hAlong .sum e 1 H1 _ (vAlong_rank2_dim1 .sum (H1.val e) m n (by rw [h1.val]) we)
  -- s = s.UnSqueeze(1)
  obtain ⟨s', H3, h3⟩ := ran_hUnSqueeze s 1 H2 ⟨[m, 1], _⟩
    (by rw [h2.val]; exact C13.vUnSqueeze_ok _ ⟨by simp [prod], by simpa using hm⟩ 1 (by simp [validUnSqueeze]))
  have e3lt : e < H3.size := Nat.lt_of_lt_of_le h1.lt (h2.ext.trans h3.ext).1
  have e3val : H3.val e = ⟨[m, n], (H.val x).data.map (fun a => Unary.fn .exp a)⟩ := by
    rw [(h2.ext.trans h3.ext).val h1.lt, h1.val]
  -- e.Div(s)
  obtain ⟨B, b1, b2, b3⟩ := bcast_col m n
    ((List.range m).map (fun i => Reducer.fn .sum (⟨[1, n], chunk (H1.val e).data n i⟩ : Tensor ℝ))) hm hn (by simp)
  have hbB := C13.vBroadcastN_of_raw hd (by simp [validBroadcast, validBroadcastLE]) b1
  obtain ⟨r, H4, h4⟩ := ran_hArith .div e s' H3 e3lt h3.lt
    ⟨[m, n], (H.val x).data.map (fun a => Unary.fn .exp a)⟩ ⟨[m, n], B⟩
    ⟨[m, n], List.zipWith (Arith.fn .div) ((H.val x).data.map (fun a => Unary.fn .exp a)) B⟩
    (by rw [e3val, h3.val, targetBroadcast_mn_m1 m n hn]; exact vBroadcastN_self _ (wf_map hZ hd _))
    (by rw [e3val, h3.val, targetBroadcast_mn_m1 m n hn]; exact hbB)
    (by simp [Tensor.zipRaw, hlen, b2])
  refine ⟨r, H4, ?_, ((h1.ext.trans h2.ext).trans h3.ext).trans h4.ext, by rw [h4.val],
    by rw [h4.val]; simp [hlen, b2], ?_⟩
  · rw [C14.actForward_softmax, if_neg (by rw [hdim]; simp), bind_run h1.run]
    rw [bind_run (show hAlong .sum e ((1 : Nat) : Int) H1 = .ok (s, H2) from h2.run)]
    rw [bind_run (show hUnSqueeze s ((1 : Nat) : Int) H2 = .ok (s', H3) from h3.run)]
    exact h4.run
  · intro i hi
    rw [h4.val]
    have hcl : (chunk (H.val x).data n i).length = n := chunk_length _ n i m hlen hi
    apply List.ext_getElem?
    intro j
    by_cases hj : j < n
    · have hidx : i * n + j < m * n := idx2_lt hi hj
      have hX := List.getElem?_eq_getElem (l := (H.val x).data) (by omega : i * n + j < (H.val x).data.length)
      rw [chunk_getElem? _ n i j hj, List.getElem?_zipWith, b3 i j hi hj, h1.val]
      simp only [List.getElem?_map, chunk_getElem? (H.val x).data n i j hj, hX, List.getElem?_range hi,
        Option.map_some, chunk_map, Reducer.fn, tensor_sum, Unary.fn, Arith.fn, div_eq, exp_eq]
    · rw [List.getElem?_eq_none (by
          rw [chunk_length _ n i m (by simp [hlen, b2]) hi]; omega),
        List.getElem?_eq_none (by simp [hcl]; omega)]

theorem softmax_simplex_rank2 (H : Heap ℝ) (x m n : Nat) (hx : x < H.size) (hwf : (H.val x).WF)
    (hdim : (H.val x).dims = [m, n]) :
    ∃ r H', actForward (Activation.softmax 1) [some x] H = .ok (r, H') ∧ Extends H H' ∧
      (H'.val r).dims = [m, n] ∧
      ∀ i, i < m → (chunk (H'.val r).data n i).sum = 1 ∧ ∀ y ∈ chunk (H'.val r).data n i, 0 < y ∧ y ≤ 1 := by
  obtain ⟨r, H', h1, h2, h3, _, h5⟩ := softmax_value_rank2 H x m n hx hwf hdim
  have hn : 0 < n := hwf.2 n (by rw [hdim]; simp)
  have hlen : (H.val x).data.length = m * n := by rw [hwf.1, hdim]; simp [prod]
  refine ⟨r, H', h1, h2, h3, ?_⟩
  intro i hi
  have hcl : (chunk (H.val x).data n i).length = n := chunk_length _ n i m hlen hi
  have hne : chunk (H.val x).data n i ≠ [] := by
    intro h; rw [h] at hcl; simp at hcl; omega
  rw [h5 i hi]
  refine ⟨softmax_sum_one _ hne, ?_⟩
  intro y hy
  obtain ⟨a, ha, rfl⟩ := List.mem_map.mp hy
  exact softmax_mem_Ioc _ a ha

/-- non-vacuity: two well-formed `[2, 2]` tensors (batch × classes) in a heap; rank-1 witness: `C12` -/
example : ∃ H : Heap ℝ, 0 < H.size ∧ 1 < H.size ∧ (H.val 0).WF ∧ (H.val 1).WF ∧
    (H.val 0).dims = [2, 2] ∧ (H.val 1).dims = [2, 2] :=
  ⟨#[⟨⟨[2, 2], [1, 2, 3, 4]⟩, {}⟩, ⟨⟨[2, 2], [0, 1, 1, 0]⟩, {}⟩], Nat.zero_lt_two, Nat.one_lt_two, ⟨rfl, by decide⟩,
    ⟨rfl, by decide⟩, rfl, rfl⟩

end C12x
end Qeep
