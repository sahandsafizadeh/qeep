import QeepProps.C02
import QeepProps.C06
import QeepProofs.ValueOps
/-!
# C13 — loss gradients with respect to predictions equal the analytic derivatives (MSE)

As for C15: `C01.backprop_adjoint` delivers, along any graph, one rule application per back edge; here the *local*
backward pass of the MSE graph `l = MeanAlong(Pow(Sub(t, p), 2), 0)` is evaluated with the Model's rules, for every
batch size and all values (over `ℝ`): starting from an upstream gradient `c` on the scalar loss (the all-ones seed is
`c = 1`), the prediction receives `c · 2(pᵢ − tᵢ)/n` at every position.

BCE and CE gradients (clipping ties, logarithms): `C13x` (local backward pass), `C13u`, `C13v` (whole `BackPropagate` run).
-/

namespace Qeep
namespace C13
open RealScalar

theorem broadcast_const {α : Type} (t : Tensor α) (hwf : t.WF) (a : α) (ha : ∀ x ∈ t.data, x = a) (shape : List Nat)
    (hpos : ∀ h ∈ shape, 0 < h) (hv : validBroadcast t.dims shape = true) :
    t.broadcastRaw shape = some ⟨shape, List.replicate (prod shape) a⟩ := by
  obtain ⟨data, h1, h2, h3⟩ := broadcastRaw_spec t hwf shape hpos hv
  have hat : ∀ u v, t.at? u = some v → v = a := by
    intro u v h
    unfold Tensor.at? at h
    split at h
    · cases ho : offset t.dims u with
      | none => rw [ho] at h; simp at h
      | some o =>
        rw [ho] at h
        simp only [Option.bind_some] at h
        exact ha v (List.mem_of_getElem? h)
    · simp at h
  have : data = List.replicate (prod shape) a := by
    apply List.ext_getElem?
    intro k
    by_cases hk : k < prod shape
    · obtain ⟨e1, e2⟩ := h3 k hk
      rw [List.getElem?_replicate, if_pos hk]
      cases hv' : data[k]? with
      | none => rw [hv'] at e2; simp at e2
      | some v =>
        rw [hv'] at e1
        rw [hat _ v e1.symm]
    · rw [List.getElem?_eq_none (by omega), List.getElem?_eq_none (by simp; omega)]
  rw [h1, this]

theorem vBroadcastN_of_raw {α : Type} {t r : Tensor α} {shape : List Nat} (hpos : ∀ h ∈ shape, 0 < h)
    (hv : validBroadcast t.dims shape = true) (h : t.broadcastRaw shape = some r) : vBroadcastN t shape = .ok r := by
  unfold vBroadcastN vBroadcast
  rw [validInputDims_ofNat _ hpos, natDims_ofNat, hv, h]
  rfl

theorem vBroadcastN_const {α : Type} (t : Tensor α) (hwf : t.WF) (a : α) (ha : ∀ x ∈ t.data, x = a)
    (shape : List Nat) (hpos : ∀ h ∈ shape, 0 < h) (hv : validBroadcast t.dims shape = true) :
    vBroadcastN t shape = .ok ⟨shape, List.replicate (prod shape) a⟩ :=
  vBroadcastN_of_raw hpos hv (broadcast_const t hwf a ha shape hpos hv)

theorem vUnSqueeze_ok {α : Type} (t : Tensor α) (hwf : t.WF) (dim : Nat)
    (hv : validUnSqueeze (dim : Int) t.dims = true) :
    vUnSqueeze t (dim : Int) = .ok ⟨unsqueezeDims dim t.dims, t.data⟩ := by
  simp [vUnSqueeze, hv, C06.unsqueeze_data t hwf, Out.ofOpt]

theorem broadcast_one (c : ℝ) (n : Nat) (hn : 0 < n) :
    (⟨[1], [c]⟩ : Tensor ℝ).broadcastRaw [n] = some ⟨[n], List.replicate n c⟩ := by
  have := broadcast_const (⟨[1], [c]⟩ : Tensor ℝ) ⟨by simp [prod], by simp⟩ c (by simp) [n] (by simpa using hn)
    (by simp [validBroadcast, validBroadcastLE])
  simpa [prod] using this

/-- `reducerBroadcasted` of a scalar gradient towards a rank-1 operand: every position gets the scalar -/
theorem reducerBroadcasted_scalar (c : ℝ) (n : Nat) (hn : 0 < n) :
    reducerBroadcasted (⟨[], [c]⟩ : Tensor ℝ) [n] 0 = .ok ⟨[n], List.replicate n c⟩ := by
  have hu := vUnSqueeze_ok (⟨[], [c]⟩ : Tensor ℝ) ⟨by simp [prod], by simp⟩ 0 (by simp [validUnSqueeze])
  have hb := vBroadcastN_const (⟨[1], [c]⟩ : Tensor ℝ) ⟨by simp [prod], by simp⟩ c (by simp) [n] (by simpa using hn)
    (by simp [validBroadcast, validBroadcastLE])
  simp only [reducerBroadcasted, bind, Out.bind, hu, unsqueezeDims, List.take_nil, List.drop_nil, List.nil_append, hb]
  simp [prod]

theorem zipWith_replicate_left {β γ δ : Type} (f : β → γ → δ) (c : β) (l : List γ) {n : Nat} (h : l.length = n) :
    List.zipWith f (List.replicate n c) l = l.map (fun a => f c a) := by
  subst h
  induction l with
  | nil => rfl
  | cons a l ih => simp [List.replicate_succ, ih]

theorem bcastExpand_same {α : Type} (red : Tensor α → Int → Out (Tensor α)) (g : Tensor α) :
    ∀ (j : Nat) (l : List Nat), bcastExpand red j l l g = .ok g
  | _, [] => rfl
  | j, d :: l => by simp [bcastExpand, bcastExpand_same red g (j + 1) l]

/-- the `Broadcast` rule between equal shapes returns the gradient unchanged (no expansion, nothing to reduce), in
    either mode and over every scalar domain -/
theorem bcastRule_self {α : Type} [Scalar α] (bm : BMode) (ds : List Nat) (g : Tensor α) : bcastRule bm ds ds g = .ok g := by
  unfold bcastRule
  simp only [Nat.sub_self, bcastLead, bind, Out.bind, List.drop_zero]
  exact bcastExpand_same _ g 0 ds

/-- the reducer of the `Broadcast` rule: `SumAlong` wanted, `AvgAlong` in the code as it is (finding D2) -/
def bmRed : BMode → Reducer
  | .sum => .sum
  | .mean => .avg

theorem bcastRule_eq (bm : BMode) (src dst : List Nat) {α : Type} [Scalar α] (gy : Tensor α) :
    bcastRule bm src dst gy = (bcastLead (fun t d => vAlong (bmRed bm) t d) (dst.length - src.length) gy).bind
      (bcastExpand (fun t d => vAlong (bmRed bm) t d) 0 src (dst.drop (dst.length - src.length))) := by
  cases bm <;> rfl

theorem bcastRule_same (bm : BMode) (ds : List Nat) (g : Tensor ℝ) : bcastRule bm ds ds g = .ok g :=
  bcastRule_self bm ds g

/-- **MSE, local backward pass**: from an upstream gradient `c` on the scalar loss, through MeanAlong(0), Pow(2),
    Sub (second operand) and the identity Broadcast of the prediction, the prediction receives `c · 2(pᵢ − tᵢ)/n`. -/
theorem mse_local_vjp (bm : BMode) (H : Heap ℝ) (p t p' d d2 : Nat) (n : Nat) (c : ℝ) (hn : 0 < n)
    (wp : (H.val p).WF) (wt : (H.val t).WF) (dp : (H.val p).dims = [n]) (dt : (H.val t).dims = [n])
    (hp' : H.val p' = H.val p)
    (hd : H.val d = ⟨[n], List.zipWith (fun tv pv => tv - pv) (H.val t).data (H.val p).data⟩)
    (hd2 : H.val d2 = (H.val d).map (fun v => v ^ (2 : ℝ))) :
    ∃ c1 c2 c3 c4,
      evalRule bm H (⟨[], [c]⟩ : Tensor ℝ) (.avgAlongX d2 0) = .ok c1 ∧
      evalRule bm H c1 (.powX d 2) = .ok c2 ∧
      evalRule bm H c2 .negG = .ok c3 ∧
      evalRule bm H c3 (.bcastX p p') = .ok c4 ∧
      c4 = ⟨[n], List.zipWith (fun tv pv => c * (2 * (pv - tv)) / (n : ℝ)) (H.val t).data (H.val p).data⟩ := by
  have hlt : (H.val t).data.length = n := by rw [wt.1, dt]; simp [prod]
  have hlp : (H.val p).data.length = n := by rw [wp.1, dp]; simp [prod]
  have wd : (H.val d).WF := by
    rw [hd]; refine ⟨by simp [hlt, hlp, prod], by simpa using hn⟩
  have dd2 : (H.val d2).dims = [n] := by rw [hd2, hd]; rfl
  have e1 : evalRule bm H (⟨[], [c]⟩ : Tensor ℝ) (.avgAlongX d2 0)
      = .ok ⟨[n], (List.replicate n c).map (fun g => (1 / (n : ℝ)) * g)⟩ := by
    simp only [evalRule, dd2, bind, Out.bind, reducerBroadcasted_scalar c n hn, pure, List.getD_cons_zero]
    simp [vScale, Tensor.map]
  have wc1 : (⟨[n], (List.replicate n c).map (fun g => (1 / (n : ℝ)) * g)⟩ : Tensor ℝ).WF :=
    ⟨by simp [prod], by simpa using hn⟩
  have e2 := C02.rule_pow bm H (⟨[n], (List.replicate n c).map (fun g => (1 / (n : ℝ)) * g)⟩ : Tensor ℝ) d wc1 wd (by rw [hd]) 2
  let c2 : Tensor ℝ := ⟨[n], List.zipWith (fun g v => g * (if (2 : ℝ) = 0 then 0 else 2 * v ^ ((2 : ℝ) - 1)))
    ((List.replicate n c).map (fun g => (1 / (n : ℝ)) * g)) (H.val d).data⟩
  let c3 : Tensor ℝ := ⟨c2.dims, c2.data.map (fun g => -1 * g)⟩
  refine ⟨⟨[n], (List.replicate n c).map (fun g => (1 / (n : ℝ)) * g)⟩, c2, c3, c3, e1, e2, (C02.rule_add_sub bm H c2).2, ?_, ?_⟩
  · simp only [evalRule, hp', dp]
    exact bcastRule_same bm _ _
  · simp only [c3, c2]
    congr 1
    rw [hd, List.map_replicate, zipWith_replicate_left _ _ _ (by simp [hlt, hlp]), List.map_map, List.map_zipWith]
    congr 1
    funext tv pv
    have : ((2 : ℝ) - 1) = 1 := by norm_num
    simp only [Function.comp_def, this, Real.rpow_one, if_neg (two_ne_zero' ℝ)]
    ring

end C13
end Qeep
