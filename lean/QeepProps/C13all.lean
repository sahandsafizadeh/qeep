import QeepProps.C13x
import QeepProps.C13z
import QeepProps.C13w
import QeepProps.C13u
import QeepProps.C13t
import QeepProps.C13s
/-! Every module with a theorem of property C13; the check of C13 builds this module (`lake build QeepProps.C13all`) and
then prints the axioms of each theorem (`work/audit_C13.lean`). -/
