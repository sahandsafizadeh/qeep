import QeepProps.C13t
/-!
# C13 / C15 — the logistic loss: the gradient `Sigmoid → BCE` stores is the Mathlib derivative of the composite loss

`logistic_loss_deriv`: the loss of `Sigmoid → BCE` as a function of the logits,

    −(1/n) · Σₖ [tₖ·log σ(xₖ) + (1 − tₖ)·log(1 − σ(xₖ))],

has the partial derivative `(σ(xᵢ) − tᵢ)/n` with respect to `xᵢ` (Mathlib `HasDerivAt`; chain rule through `C13x.bce_formula_deriv`
and `C15x.d_sig`) — exactly the value `C13t.sigmoid_bce_backprop_el` finds at position `i` of `x.Gradient()` where `σ(xᵢ)` is
strictly inside BCE's clip band (with `t = t̂`).
-/

namespace Qeep
namespace C13s
open RealScalar C13x C15x

theorem sig_pos (a : ℝ) : 0 < sig a := by
  unfold sig
  have := Real.exp_pos (-a)
  positivity

theorem sig_lt_one (a : ℝ) : sig a < 1 := by
  unfold sig
  have h := Real.exp_pos (-a)
  rw [inv_lt_one_iff₀]
  right
  linarith

/-- one summand: `d/dx [−(t·log σ(x) + (1−t)·log(1−σ(x)))] = σ(x) − t` -/
theorem logistic_summand_deriv (t a : ℝ) :
    HasDerivAt (fun x => -(t * Real.log (sig x) + (1 - t) * Real.log (1 - sig x))) (sig a - t) a := by
  have h0 := sig_pos a
  have h1 := sig_lt_one a
  have hb := bce_deriv t (sig a) h0 h1
  have hc := hb.comp a (d_sig a)
  refine (hc.congr_deriv ?_)
  have e0 : sig a ≠ 0 := ne_of_gt h0
  have e1 : 1 - sig a ≠ 0 := by linarith
  field_simp
  ring

/-- **the logistic loss** differentiated with respect to the logit `xᵢ`: `(σ(xᵢ) − tᵢ)/n` -/
theorem logistic_loss_deriv {n : ℕ} (t x : Fin n → ℝ) (i : Fin n) :
    HasDerivAt (fun s => -(1 / (n : ℝ)) * ∑ k, (t k * Real.log (sig (Function.update x i s k))
        + (1 - t k) * Real.log (1 - sig (Function.update x i s k))))
      ((sig (x i) - t i) / (n : ℝ)) (x i) := by
  have hd := logistic_summand_deriv (t i) (x i)
  have hs := hasDerivAt_sum_update (fun k y => -(t k * Real.log (sig y) + (1 - t k) * Real.log (1 - sig y))) x i _ hd
  have := hs.const_mul (1 / (n : ℝ))
  refine (this.congr_deriv (by ring)).congr_of_eventuallyEq ?_
  filter_upwards with s
  simp only [Finset.sum_neg_distrib]
  ring

end C13s
end Qeep
