import QeepProps.C13u
import QeepProps.C15u
import QeepProps.C15t
import QeepProps.C16z
import Mathlib.Tactic.IntervalCases
import Mathlib.Tactic.FieldSimp
/-!
# C13 / C15 — an activation under a loss: Sigmoid → BCE, the logistic gradient

`sigmoid_bce_backprop`: any reachable heap, a tracked unspent rank-1 input `x` (leaf or not) that nothing consumes yet, an
untracked unspent target `t`. Run `Sigmoid.Forward(x)`, `BCE.Compute(s, t)` and `BackPropagate(loss)`. If the back-propagation
returns without error, `x.Gradient()[i] = bceGrad 1 n t̂ᵢ σ(xᵢ) · σ(xᵢ)(1 − σ(xᵢ))` — the chain rule across the two components on
the real walk over thirty-seven tensors, by COMPOSING `C13u.bce_backprop_full` with `C15u.sigmoid_in_walk` — and where `σ(xᵢ)`
is strictly inside the clip band this is the textbook logistic gradient `(σ(xᵢ) − t̂ᵢ)/n` (`sigmoid_bce_backprop_el`), 0 where
it is strictly outside.
-/

set_option linter.unusedVariables false

namespace Qeep
namespace C13t
open RealScalar C13x C13z C13v C13u C15x C15z C15u C01 C01x C01z C01w C01q C20
open C12x (tHat pHat)

theorem zip3 (B : ℝ → ℝ → ℝ) (φ σ : ℝ → ℝ) : ∀ (T X : List ℝ),
    List.zipWith (fun g a => g * φ a) (List.zipWith B T (X.map σ)) X = List.zipWith (fun tv a => B tv (σ a) * φ a) T X
  | [], _ => by simp
  | _ :: _, [] => by simp
  | tv :: T, a :: X => by simp [zip3 B φ σ T X]

/-- the logistic identity: `∂BCE/∂p · σ' = (σ − t)/n` -/
theorem logistic_identity (n : Nat) (hn : 0 < n) (τ s : ℝ) (h0 : s ≠ 0) (h1 : 1 - s ≠ 0) :
    (1 * (-1 / (n : ℝ)) * (τ / s - (1 - τ) / (1 - s))) * (s * (1 - s)) = (s - τ) / (n : ℝ) := by
  have hn' : (n : ℝ) ≠ 0 := by exact_mod_cast (Nat.pos_iff_ne_zero.mp hn)
  field_simp
  ring

/-- **Sigmoid → BCE**, both statements from one setup: `bce_backprop_full` on the heap `Sigmoid.Forward` returns gives the loss
    graph's footprint, progress statement and the gradient it leaves on `σ(x)`. The gradient on `x` is then
    `C15u.sigmoid_in_walk`; on a leaf `x` the progress statement is discharged below the prediction with the per-edge
    acceptance `C15t.sg_edge_ok` of the Sigmoid graph, the walk visiting the two graphs and `x` only. -/
theorem sigmoid_bce_full (bm : BMode) (H : Heap ℝ) (x t n : Nat) (hR : Reach bm H) (hwf : (H.val x).WF) (l : Live H x)
    (dx : (H.val x).dims = [n]) (ht : t < H.size) (wt : (H.val t).WF) (dt : (H.val t).dims = [n])
    (htt : H.tracked t = false) (htc : H.dirty t = false)
    (hsole : ∀ v, ∀ e ∈ (H.ctx v).edges, e.target ≠ x) :
    ∃ s H1 r H2, actForward Activation.sigmoid [some x] H = .ok (s, H1) ∧
      lossCompute Loss.bce (some s) (some t) H1 = .ok (r, H2) ∧
      ((H.ctx x).edges = [] → (backprop bm H2 r).status = .ok ()) ∧
      ((backprop bm H2 r).status = .ok () →
        (backprop bm H2 r).heap.grad x = some ⟨[n], List.zipWith
          (fun tv a => bceGrad 1 n (tHat tv) (sig a) * (sig a * (1 - sig a))) (H.val t).data (H.val x).data⟩) := by
  obtain ⟨s, H1, hrun1, hext1, R1, rfl, hsz1, vx, v2, v3, v4, v5, vr, c0, c1, c2, c3, c4, c5, c6⟩ :=
    sigmoid_full bm H x hR hwf l
  have hxk : x < H.size := l.1
  have ls : Live H1 (H.size + 6) :=
    ⟨by omega, by simp [Heap.tracked, c6, liveCtx], by simp [Heap.dirty, c6, liveCtx]⟩
  have ws : (H1.val (H.size + 6)).WF := by rw [vr]; exact map_wf _ _ hwf
  have ds : (H1.val (H.size + 6)).dims = [n] := by rw [vr]; exact dx
  have vt1 : H1.val t = H.val t := hext1.val ht
  have tt1 : H1.tracked t = false := (hext1.tracked ht).trans htt
  have ct1 : H1.dirty t = false := (hext1.dirty ht).trans htc
  obtain ⟨H2, hrun2, hext2, hsz2, R2, troot, hfoot, hokc, himp⟩ := bce_backprop_full bm H1 (H.size + 6) t n R1 ls.1
    (by omega) ws (by rw [vt1]; exact wt) ds (by rw [vt1]; exact dt) ls.2.1 ls.2.2 tt1 ct1
  have hdag := reach_dag R2
  have old : ∀ k, k < H1.size → H2.ctx k = H1.ctx k := fun k hk => hext2.ctx hk
  have oldv : ∀ k, k < H1.size → H2.val k = H1.val k := fun k hk => hext2.val hk
  -- the Sigmoid graph and `x` as they stand in the final heap
  have vx2 : H2.val x = H.val x := by rw [oldv x (by omega), vx]
  have wx2 : (H2.val x).WF := by rw [vx2]; exact hwf
  have w2 : H2.val (H.size + 2) = (H2.val x).map (fun a => Real.exp (-a)) := by rw [oldv _ (by omega), v2, vx2]
  have w3 : H2.val (H.size + 3) = H2.val H.size := by rw [oldv _ (by omega), oldv _ (by omega), v3]
  have w4 : H2.val (H.size + 4) = H2.val (H.size + 2) := by rw [oldv _ (by omega), oldv _ (by omega), v4]
  have w5 : H2.val (H.size + 5) = (H2.val x).map (fun a => 1 + Real.exp (-a)) := by rw [oldv _ (by omega), v5, vx2]
  have hc : ∀ i, i ≤ 6 → H2.ctx (H.size + i) = liveCtx (sgEdges x H.size i) := by
    intro i hi
    rw [old _ (by omega)]
    interval_cases i <;> simp only [sgEdges, Nat.add_zero]
    · exact c0
    · exact c1
    · exact c2
    · exact c3
    · exact c4
    · exact c5
    · exact c6
  have cx2 : H2.ctx x = H.ctx x := by rw [old x (by omega), hext1.ctx hxk]
  have gx : H2.grad x = none := grad_none_ext hR (hext1.trans hext2) hxk l.2.2
  refine ⟨H.size + 6, H1, H1.size + 29, H2, hrun1, hrun2, ?_, ?_⟩
  · intro hleaf
    have ex : (H2.ctx x).edges = [] := by rw [cx2]; exact hleaf
    have hvis : ∀ v ∈ backwardOrder H2 (H1.size + 29), H2.tracked v = true ∧
        (H1.size ≤ v ∨ (H.size ≤ v ∧ v ≤ H.size + 6) ∨ v = x) := by
      apply order_subset H2 (H1.size + 29)
        (fun v => H2.tracked v = true ∧ (H1.size ≤ v ∨ (H.size ≤ v ∧ v ≤ H.size + 6) ∨ v = x)) ⟨troot, Or.inl (by omega)⟩
      intro u ⟨hut, hu⟩ v hv
      have hvt : H2.tracked v = true := by
        unfold succs at hv; exact (List.mem_filter.mp hv).2
      obtain ⟨-, e, he, rfl⟩ := C01.mem_succs.mp hv
      refine ⟨hvt, ?_⟩
      rcases hu with hu | ⟨h1', h2'⟩ | rfl
      · rcases hfoot u hu hut e he with h | h
        · left; exact h
        · right; left; omega
      · obtain ⟨i, hi, rfl⟩ : ∃ i, i ≤ 6 ∧ u = H.size + i := ⟨u - H.size, by omega, by omega⟩
        rw [hc i hi] at he
        rcases sgEdges_target hi he with h | h
        · right; right; exact h
        · right; left; omega
      · rw [ex] at he; simp at he
    have hv1 : ∀ k, (markDirty H2 (backwardOrder H2 (H1.size + 29))).val k = H2.val k := fun k => markDirty_val _ _ k
    apply hokc (fun _ gg => Shaped [n] gg) (fun _ a b' ha hb => C15w.shaped_add_ok _ a b' ha hb) (fun gg hgg => hgg)
    · intro k hk hlt gg hgk
      obtain ⟨_, h | ⟨h1', h2'⟩ | rfl⟩ := hvis k hk
      · omega
      · obtain ⟨i, hi, rfl⟩ : ∃ i, i ≤ 6 ∧ k = H.size + i := ⟨k - H.size, by omega, by omega⟩
        rw [(liveCtx_grad H2 _ _ (hc i hi)).1] at hgk; cases hgk
      · rw [gx] at hgk; cases hgk
    · intro u hu hlt e he htr gy hgy
      rw [C16z.evalRule_val_congr bm _ H2 hv1]
      obtain ⟨_, h | ⟨h1', h2'⟩ | rfl⟩ := hvis u hu
      · omega
      · obtain ⟨i, hi, rfl⟩ : ∃ i, i ≤ 6 ∧ u = H.size + i := ⟨u - H.size, by omega, by omega⟩
        rw [hc i hi] at he
        obtain ⟨g', q1, q2⟩ := C15t.sg_edge_ok bm H2 x H.size wx2 w2 w3 w4 w5 i hi e he gy (by rw [vx2, dx]; exact hgy)
        rw [vx2, dx] at q2
        exact ⟨g', q1, q2⟩
      · rw [ex] at he; simp at he
  · intro hok
    obtain ⟨my, f6⟩ := himp hok
    have hdagH := reach_dag hR
    have wG : (⟨[n], List.zipWith (fun tv pv => bceGrad 1 n (tHat tv) pv) (H1.val t).data (H1.val (H.size + 6)).data⟩ :
        Tensor ℝ).WF := by
      have wt1 : (H1.val t).WF := by rw [vt1]; exact wt
      have dt1 : (H1.val t).dims = [n] := by rw [vt1]; exact dt
      have := zip_wf (fun tv pv => bceGrad 1 n (tHat tv) pv) _ _ wt1 ws (by rw [dt1, ds])
      rwa [dt1] at this
    have res := sigmoid_in_walk bm H2 (H1.size + 29) x H.size hdag troot hok wx2 hxk w2 w3 w4 w5 hc
      (((hext1.trans hext2).tracked hxk).trans l.2.1) gx (by omega) (by intro i hi; omega)
      (by
        intro v hvo hv e hev
        rcases hv with hv | hv
        · rw [old v (by omega), hext1.ctx hv] at hev
          have a1 := hsole v e hev
          have := hdagH v e hev
          exact ⟨a1, by omega⟩
        · have := hfoot v (by omega) (C01.mem_order_tracked hvo) e hev
          exact ⟨by omega, by omega⟩)
      _ wG (by rw [vx2, dx]) my f6
    rw [res]
    unfold gz
    rw [vx2, vt1, vr]
    simp only [Tensor.map]
    rw [zip3]

theorem sigmoid_bce_backprop (bm : BMode) (H : Heap ℝ) (x t n : Nat) (hR : Reach bm H) (hwf : (H.val x).WF) (l : Live H x)
    (dx : (H.val x).dims = [n]) (ht : t < H.size) (wt : (H.val t).WF) (dt : (H.val t).dims = [n])
    (htt : H.tracked t = false) (htc : H.dirty t = false)
    (hsole : ∀ v, ∀ e ∈ (H.ctx v).edges, e.target ≠ x) :
    ∃ s H1 r H2, actForward Activation.sigmoid [some x] H = .ok (s, H1) ∧
      lossCompute Loss.bce (some s) (some t) H1 = .ok (r, H2) ∧
      ((backprop bm H2 r).status = .ok () →
        (backprop bm H2 r).heap.grad x = some ⟨[n], List.zipWith
          (fun tv a => bceGrad 1 n (tHat tv) (sig a) * (sig a * (1 - sig a))) (H.val t).data (H.val x).data⟩) := by
  obtain ⟨s, H1, r, H2, h1, h2, _, hg⟩ := sigmoid_bce_full bm H x t n hR hwf l dx ht wt dt htt htc hsole
  exact ⟨s, H1, r, H2, h1, h2, hg⟩

/-- **Sigmoid → BCE on a leaf input: unconditional.** `BackPropagate(loss)` SUCCEEDS (either mode), hence `x.Gradient()` is
    the logistic gradient of `sigmoid_bce_backprop`. -/
theorem sigmoid_bce_backprop_leaf (bm : BMode) (H : Heap ℝ) (x t n : Nat) (hR : Reach bm H) (hwf : (H.val x).WF) (l : Live H x)
    (dx : (H.val x).dims = [n]) (ht : t < H.size) (wt : (H.val t).WF) (dt : (H.val t).dims = [n])
    (htt : H.tracked t = false) (htc : H.dirty t = false) (hleaf : (H.ctx x).edges = [])
    (hsole : ∀ v, ∀ e ∈ (H.ctx v).edges, e.target ≠ x) :
    ∃ s H1 r H2, actForward Activation.sigmoid [some x] H = .ok (s, H1) ∧
      lossCompute Loss.bce (some s) (some t) H1 = .ok (r, H2) ∧ (backprop bm H2 r).status = .ok () ∧
      (backprop bm H2 r).heap.grad x = some ⟨[n], List.zipWith
        (fun tv a => bceGrad 1 n (tHat tv) (sig a) * (sig a * (1 - sig a))) (H.val t).data (H.val x).data⟩ := by
  obtain ⟨s, H1, r, H2, h1, h2, hl, hg⟩ := sigmoid_bce_full bm H x t n hR hwf l dx ht wt dt htt htc hsole
  exact ⟨s, H1, r, H2, h1, h2, hl hleaf, hg (hl hleaf)⟩

/-- **the logistic gradient**: position `i` of `x.Gradient()` is `(σ(xᵢ) − t̂ᵢ)/n` where `σ(xᵢ)` is strictly inside the clip
    band of BCE, and 0 where it is strictly outside -/
theorem sigmoid_bce_backprop_el (bm : BMode) (H : Heap ℝ) (x t n : Nat) (hR : Reach bm H) (hwf : (H.val x).WF) (l : Live H x)
    (dx : (H.val x).dims = [n]) (ht : t < H.size) (wt : (H.val t).WF) (dt : (H.val t).dims = [n])
    (htt : H.tracked t = false) (htc : H.dirty t = false)
    (hsole : ∀ v, ∀ e ∈ (H.ctx v).edges, e.target ≠ x) :
    ∃ s H1 r H2, actForward Activation.sigmoid [some x] H = .ok (s, H1) ∧
      lossCompute Loss.bce (some s) (some t) H1 = .ok (r, H2) ∧
      ((backprop bm H2 r).status = .ok () →
        ∃ K, (backprop bm H2 r).heap.grad x = some K ∧ K.dims = [n] ∧
          ∀ (i : Nat) (hi : i < n) (tv a : ℝ), (H.val t).data[i]? = some tv → (H.val x).data[i]? = some a →
            (1 / 10 ^ 12 + 1 / 10 ^ 240 < sig a → sig a < 1 - 1 / 10 ^ 12 - 1 / 10 ^ 240 →
              K.data[i]? = some ((sig a - tHat tv) / (n : ℝ))) ∧
            (sig a < 1 / 10 ^ 12 - 1 / 10 ^ 240 ∨ 1 - 1 / 10 ^ 12 + 1 / 10 ^ 240 < sig a → K.data[i]? = some 0)) := by
  obtain ⟨s, H1, r, H2, h1, h2, himp⟩ := sigmoid_bce_backprop bm H x t n hR hwf l dx ht wt dt htt htc hsole
  have hn : 0 < n := hwf.2 n (by rw [dx]; simp)
  refine ⟨s, H1, r, H2, h1, h2, fun hok => ⟨_, himp hok, rfl, ?_⟩⟩
  intro i hi tv a htv ha
  have hget : (List.zipWith (fun tv a => bceGrad 1 n (tHat tv) (sig a) * (sig a * (1 - sig a))) (H.val t).data (H.val x).data)[i]?
      = some (bceGrad 1 n (tHat tv) (sig a) * (sig a * (1 - sig a))) := by
    rw [List.getElem?_zipWith, htv, ha]
  have hθ : (0 : ℝ) < 1 / 10 ^ 240 := by positivity
  have hε : (0 : ℝ) < 1 / 10 ^ 12 := by positivity
  refine ⟨fun p q => ?_, fun p => ?_⟩
  · rw [hget, bceGrad_inside 1 n _ (sig a) p q, logistic_identity n hn _ _ (by linarith) (by linarith)]
  · rw [hget, bceGrad_outside 1 n _ (sig a) p, zero_mul]

end C13t
end Qeep
