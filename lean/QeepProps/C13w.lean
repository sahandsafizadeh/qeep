import QeepProps.C13z
/-!
# C13 / C02 — on a leaf prediction `BackPropagate` of the MSE loss SUCCEEDS and stores `2(p − t)/n`
-/

namespace Qeep
namespace C13w
open C13z C01 C20

/-- **MSE on a leaf prediction**: `BackPropagate` of the loss succeeds and `p.Gradient()` is `2(pᵢ − tᵢ)/n` -/
theorem mse_backprop_leaf (bm : BMode) (H : Heap ℝ) (p t n : Nat) (hR : Reach bm H) (hp : p < H.size) (ht : t < H.size)
    (wp : (H.val p).WF) (wt : (H.val t).WF) (dp : (H.val p).dims = [n]) (dt : (H.val t).dims = [n])
    (hpt : H.tracked p = true) (hpc : H.dirty p = false) (htt : H.tracked t = false) (htc : H.dirty t = false)
    (hleaf : (H.ctx p).edges = []) :
    ∃ r H', lossCompute Loss.mse (some p) (some t) H = .ok (r, H') ∧ (backprop bm H' r).status = .ok () ∧
      (backprop bm H' r).heap.grad p
        = some ⟨[n], List.zipWith (fun tv pv => 2 * (pv - tv) / (n : ℝ)) (H.val t).data (H.val p).data⟩ := by
  obtain ⟨H', hrun, hext, _, _, troot, hfoot, hokc, hg⟩ := mse_backprop_full bm H p t n hR hp ht wp wt dp dt hpt hpc htt htc
  have hok := leaf_of_full hR hext hp hpc hleaf (Nat.le_add_right _ _) troot hfoot hokc
  exact ⟨_, H', hrun, hok, (hg hok).2⟩

end C13w
end Qeep
