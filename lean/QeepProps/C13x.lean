import QeepProps.C13
import QeepProps.C15
import QeepProps.C12x
import QeepProofs.Calculus
import QeepProofs.Real
/-!
# C13 extension — BCE and CE: the local backward pass delivers the derivative of the loss formula (over `ℝ`)

For every batch size / class count, all real values, every upstream gradient `c` and both modes of the Broadcast
backward rule (every Broadcast node in these graphs is between equal shapes, and SumAlong's rule is
`reducerBroadcasted`, i.e. forward UnSqueeze + Broadcast, so finding D2 does not touch the loss gradients):
composing the Model's rules along the back edges of the graph `lossCompute` builds (`bce_graph` / `ce_graph`, read
off `bce_run` / `ce_run` of `C12g`) — for BCE the two paths into `p̂` (through `log p̂` and `log(1−p̂)`), summed at
`p̂`, then the clip — the prediction receives `bceGrad` resp. `ceGrad`
(`bce_local_vjp` / `ce_local_vjp`), which is the derivative of the formula (`bce_formula_deriv`, `ce_formula_deriv`,
Mathlib calculus) strictly inside the clip band and 0 strictly outside (`bce_gradient` / `ce_gradient`). The clip
`ElMax(l·x⁰, ElMin(x, u·x⁰))` multiplies the gradient with `clipD l u x` (`clip_local_vjp`); the other paths, through
the all-ones constants `x⁰`, deliver zeros (`const_path_zero`).

**The naive statement is false for the code** (`clipD_naive_false`): "factor 1 whenever `ε < p < 1−ε`" fails for
`p = 1 − ε − 1e-241`: the library's `Eq` (`|a−b| ≤ 1e-240`) makes ElMin's tie rule fire and the factor is ½. "Strictly
inside / outside" therefore means: by more than `θ = 1e-240` (`ε + θ < p < 1 − ε − θ`, resp. `p < ε − θ` or `1 − ε + θ < p`).
Over float64 the excluded slivers contain only the two bounds themselves (doubles are spaced `1.1e-16` near `1 − ε` and
`2e-28` near `ε`): the exact ties `p = ε`, `p = 1 − ε`, where the factor is ½ (`clipD_tie`). The targets enter as
`t̂ = clip(t, 0, 1)` (no gradient is asked for them); `tHat t = t` for `t ∈ [0, 1]` (`C12x.tHat_id`).

Not in this file: that no *further* path from the loss reaches the prediction (the only other consumers of `p̂` and `p`
are the `Pow(·, 0)` constants, covered by `const_path_zero`; `C13v.clip_in_walk`), and the lifting from path pullbacks
to the stored `Gradient()` of a whole `BackPropagate` run (`C13u.bce_backprop_full`, `C13v.ce_backprop_full`).
-/

set_option linter.unusedVariables false
namespace Qeep
namespace C13x
open RealScalar
open C12x (clipR tHat pHat wf_map)

theorem bce_deriv (t p : ℝ) (hp0 : 0 < p) (hp1 : p < 1) :
    HasDerivAt (fun p => -(t * Real.log p + (1 - t) * Real.log (1 - p))) (-(t / p - (1 - t) / (1 - p))) p := by
  have hne : p ≠ 0 := hp0.ne'
  have hne1 : 1 - p ≠ 0 := by linarith
  have h1 : HasDerivAt (fun y => t * Real.log y) (t * p⁻¹) p := (Real.hasDerivAt_log hne).const_mul t
  have h2 : HasDerivAt (fun y : ℝ => 1 - y) (-1) p := by
    simpa using (hasDerivAt_id p).const_sub 1
  have h3 : HasDerivAt (fun y => Real.log (1 - y)) ((1 - p)⁻¹ * -1) p :=
    (Real.hasDerivAt_log hne1).comp p h2
  have h4 := (h1.add (h3.const_mul (1 - t))).neg
  refine h4.congr_deriv ?_
  field_simp
  ring

theorem ce_deriv (t p : ℝ) (hp : p ≠ 0) : HasDerivAt (fun p => -(t * Real.log p)) (-(t / p)) p := by
  have h1 : HasDerivAt (fun y => t * Real.log y) (t * p⁻¹) p := (Real.hasDerivAt_log hp).const_mul t
  refine h1.neg.congr_deriv ?_
  rw [div_eq_mul_inv]

/-- what the two tie-aware rules of `clip(x, l, u) = ElMax(l·x⁰, ElMin(x, u·x⁰))` multiply the gradient with along the
    path result → ElMin result → `x` (`Scalar.near a b` is the library's `Eq`: `|a − b| ≤ 1e-240`):
    first factor = ElMax rule towards the ElMin result, second factor = ElMin rule towards `x` -/
noncomputable def clipD (l u a : ℝ) : ℝ :=
  ((if Scalar.near (max l (min a u)) (min a u) then 1 else 0) - (1 / 2) * (if Scalar.near (min a u) l then 1 else 0)) *
  ((if Scalar.near (min a u) a then 1 else 0) - (1 / 2) * (if Scalar.near a u then 1 else 0))

theorem near_iff (u v : ℝ) : Scalar.near u v = true ↔ |u - v| ≤ 1 / 10 ^ 240 := by
  have : Scalar.near u v = decide (|u - v| ≤ (Scalar.eqThr : ℝ)) := rfl
  rw [this, decide_eq_true_eq]
  have e : (Scalar.eqThr : ℝ) = 1 / 10 ^ 240 := by simp [Scalar.eqThr, Scalar.ofSci]
  rw [e]

section Threshold
variable {θ : ℝ} (hnear : ∀ x y : ℝ, Scalar.near x y = true ↔ |x - y| ≤ θ)
include hnear

theorem near_of_le {x y : ℝ} (h1 : x ≤ y + θ) (h2 : y ≤ x + θ) : Scalar.near x y = true :=
  (hnear x y).2 (abs_le.2 ⟨by linarith, by linarith⟩)

theorem not_near_of_lt {x y : ℝ} (h : x + θ < y ∨ y + θ < x) : Scalar.near x y = false := by
  rw [← Bool.not_eq_true, hnear, abs_le]
  rintro ⟨h1, h2⟩
  rcases h with h | h <;> linarith

theorem near_max {l m : ℝ} (hθ : 0 < θ) (h : l ≤ m + θ) : Scalar.near (max l m) m = true :=
  near_of_le hnear (max_le h (by linarith)) (by linarith [le_max_right l m])

theorem not_near_max {l m : ℝ} (hθ : 0 < θ) (h : m + θ < l) : Scalar.near (max l m) m = false := by
  rw [max_eq_left (by linarith)]
  exact not_near_of_lt hnear (.inr h)

/-- the factor of the clip for an equality threshold `θ > 0`, whatever its value: 1 inside the band by more than `θ`,
    0 outside by more than `θ`, ½ within `θ` of a bound. With `m = min a u` only `m ≤ a`, `m ≤ u` and
    `x ≤ a → x ≤ u → x ≤ m` are used, so `a ≤ u` and `u ≤ a` need not be told apart. -/
theorem clipD_thr (hθ : 0 < θ) (l u a : ℝ) :
    (l + θ < a → a < u - θ → clipD l u a = 1) ∧ (a < l - θ → clipD l u a = 0) ∧ (u + θ < a → clipD l u a = 0) ∧
    (l + 2 * θ < u → |a - u| ≤ θ → clipD l u a = 1 / 2) ∧ (l + 2 * θ < u → |a - l| ≤ θ → clipD l u a = 1 / 2) := by
  have m1 := min_le_left a u
  have m2 := min_le_right a u
  refine ⟨fun h1 h2 => ?_, fun h => ?_, fun h => ?_, fun hlu h => ?_, fun hlu h => ?_⟩
  · have m3 : a ≤ min a u := le_min le_rfl (by linarith)
    have n1 := near_max hnear (l := l) (m := min a u) hθ (by linarith)
    have n2 := not_near_of_lt hnear (x := min a u) (y := l) (.inr (by linarith))
    have n3 := near_of_le hnear (x := min a u) (y := a) (by linarith) (by linarith)
    have n4 := not_near_of_lt hnear (x := a) (y := u) (.inl (by linarith))
    simp [clipD, n1, n2, n3, n4]
  · have n1 := not_near_max hnear (l := l) (m := min a u) hθ (by linarith)
    have n2 := not_near_of_lt hnear (x := min a u) (y := l) (.inl (by linarith))
    simp [clipD, n1, n2]
  · have n3 := not_near_of_lt hnear (x := min a u) (y := a) (.inl (by linarith))
    have n4 := not_near_of_lt hnear (x := a) (y := u) (.inr h)
    simp [clipD, n3, n4]
  · obtain ⟨h1, h2⟩ := abs_le.mp h
    have m3 : a - θ ≤ min a u := le_min (by linarith) (by linarith)
    have m4 : u - θ ≤ min a u := le_min (by linarith) (by linarith)
    have n1 := near_max hnear (l := l) (m := min a u) hθ (by linarith)
    have n2 := not_near_of_lt hnear (x := min a u) (y := l) (.inr (by linarith))
    have n3 := near_of_le hnear (x := min a u) (y := a) (by linarith) (by linarith)
    have n4 := (hnear a u).2 h
    simp [clipD, n1, n2, n3, n4]
    norm_num
  · obtain ⟨h1, h2⟩ := abs_le.mp h
    have m3 : a ≤ min a u := le_min le_rfl (by linarith)
    have n1 := near_max hnear (l := l) (m := min a u) hθ (by linarith)
    have n2 := near_of_le hnear (x := min a u) (y := l) (by linarith) (by linarith)
    have n3 := near_of_le hnear (x := min a u) (y := a) (by linarith) (by linarith)
    have n4 := not_near_of_lt hnear (x := a) (y := u) (.inl (by linarith))
    simp [clipD, n1, n2, n3, n4]
    norm_num

end Threshold

/-- **1 strictly inside the band, 0 strictly outside** — "strictly" up to the library's equality threshold
    `θ = 1e-240`: inside means `l + θ < a < u − θ`, outside means `a < l − θ` or `u + θ < a`. -/
theorem clipD_cases (l u a : ℝ) (hlu : l ≤ u) :
    (l + 1 / 10 ^ 240 < a → a < u - 1 / 10 ^ 240 → clipD l u a = 1) ∧
    (a < l - 1 / 10 ^ 240 → clipD l u a = 0) ∧
    (u + 1 / 10 ^ 240 < a → clipD l u a = 0) := by
  have h := clipD_thr near_iff (by positivity) l u a
  exact ⟨h.1, h.2.1, h.2.2.1⟩

/-- **½ on the ties**: within `θ = 1e-240` of a bound (bounds more than `2θ` apart) -/
theorem clipD_tie (l u a : ℝ) (hlu : l + 2 / 10 ^ 240 < u) :
    (|a - u| ≤ 1 / 10 ^ 240 → clipD l u a = 1 / 2) ∧ (|a - l| ≤ 1 / 10 ^ 240 → clipD l u a = 1 / 2) := by
  have h := clipD_thr near_iff (by positivity) l u a
  rw [show (2 : ℝ) / 10 ^ 240 = 2 * (1 / 10 ^ 240) by ring] at hlu
  exact ⟨h.2.2.2.1 hlu, h.2.2.2.2 hlu⟩

/-- the naive reading "gradient factor 1 whenever `ε < p < 1 − ε`" is **false** for the code: a prediction within
    `1e-240` below `1 − ε` is strictly inside the band, yet the factor is ½ (tie rule of ElMin). Over float64 such a
    number does not exist (the spacing of doubles near 1 is `1.1e-16`), over `ℝ` it does. -/
theorem clipD_naive_false :
    ∃ a : ℝ, 1 / 10 ^ 12 < a ∧ a < 1 - 1 / 10 ^ 12 ∧ clipD (1 / 10 ^ 12) (1 - 1 / 10 ^ 12) a = 1 / 2 := by
  refine ⟨1 - 1 / 10 ^ 12 - 1 / 10 ^ 241, by norm_num, by norm_num, ?_⟩
  refine (clipD_tie _ _ _ (by norm_num)).1 ?_
  rw [abs_le]; constructor <;> norm_num

section Rules
variable {ι : Type} (bm : BMode) (H : Heap ℝ) {d : List Nat} {Z : List ι}

theorem r_log (hZ : Z.length = prod d) (hd : ∀ x ∈ d, 0 < x) {x : Nat} {f : ι → ℝ} (hx : H.val x = ⟨d, Z.map f⟩)
    (g : ι → ℝ) :
    evalRule bm H ⟨d, Z.map g⟩ (.logX x) = .ok ⟨d, Z.map (fun z => g z * (1 / f z))⟩ := by
  have := C02.rule_log bm H ⟨d, Z.map g⟩ x (wf_map hZ hd g) (by rw [hx]; exact wf_map hZ hd f) (by rw [hx])
  rw [this, hx]
  simp only [C14.zipWith_maps]

theorem r_mul (hZ : Z.length = prod d) (hd : ∀ x ∈ d, 0 < x) {o : Nat} {f : ι → ℝ} (ho : H.val o = ⟨d, Z.map f⟩)
    (g : ι → ℝ) :
    evalRule bm H ⟨d, Z.map g⟩ (.mulG o) = .ok ⟨d, Z.map (fun z => g z * f z)⟩ := by
  have wo : (H.val o).WF := by rw [ho]; exact wf_map hZ hd f
  have := (C02.rule_mul_div bm H ⟨d, Z.map g⟩ o o (wf_map hZ hd g) wo wo (by rw [ho]) (by rw [ho])).1
  rw [this, ho]
  simp only [C14.zipWith_maps]

theorem r_neg (g : ι → ℝ) :
    evalRule bm H ⟨d, Z.map g⟩ .negG = .ok ⟨d, Z.map (fun z => -1 * g z)⟩ := by
  rw [(C02.rule_add_sub bm H _).2]
  simp only [List.map_map, Function.comp_def]

theorem r_scale (a : ℝ) (g : ι → ℝ) :
    evalRule bm H ⟨d, Z.map g⟩ (.scaleX a) = .ok ⟨d, Z.map (fun z => a * g z)⟩ := by
  rw [C02.rule_scale]
  simp only [List.map_map, Function.comp_def]

theorem r_id (G : Tensor ℝ) : evalRule bm H G .idG = .ok G := (C02.rule_add_sub bm H G).1

/-- the `Broadcast` node `hArith` puts in front of an operand of the common shape: identity rule, either mode -/
theorem r_bcast (G : Tensor ℝ) {x y : Nat} (h : (H.val x).dims = (H.val y).dims) :
    evalRule bm H G (.bcastX x y) = .ok G :=
  C15x.r_bcast bm H G x y h

/-- `Pow(·, 0)` (the all-ones constant of `clip` and of `1 − ŷ`): the rule returns zeros whatever arrives -/
theorem r_pow0 (G : Tensor ℝ) {x : Nat} {f : ι → ℝ} (hx : H.val x = ⟨d, Z.map f⟩) :
    evalRule bm H G (.powX x Scalar.zero) = .ok ⟨d, Z.map (fun _ => 0)⟩ := by
  have hz : isZero (Scalar.zero : ℝ) = true := by simp [isZero]
  simp only [evalRule, hz, if_true, pure, vScale, Tensor.map, hx, List.map_map, Function.comp_def]
  simp only [mul_eq, zero_eq, zero_mul]

theorem r_elext (hZ : Z.length = prod d) (hd : ∀ x ∈ d, 0 < x) {y a b : Nat} {fy fa fb : ι → ℝ}
    (hy : H.val y = ⟨d, Z.map fy⟩) (ha : H.val a = ⟨d, Z.map fa⟩) (hb : H.val b = ⟨d, Z.map fb⟩) (g : ι → ℝ) :
    evalRule bm H ⟨d, Z.map g⟩ (.elext y a b) = .ok ⟨d, Z.map (fun z =>
      g z * ((if Scalar.near (fy z) (fa z) then 1 else 0) - (1 / 2) * (if Scalar.near (fa z) (fb z) then 1 else 0)))⟩ := by
  simp only [evalRule, hy, ha, hb, bind, Out.bind]
  rw [vCmp_same .eq _ _ (wf_map hZ hd fy) (wf_map hZ hd fa) rfl]
  simp only [C14.zipWith_maps]
  rw [vCmp_same .eq _ _ (wf_map hZ hd fa) (wf_map hZ hd fb) rfl]
  simp only [C14.zipWith_maps, vScale, Tensor.map, List.map_map, Function.comp_def]
  rw [vArith_same .sub _ _ (wf_map hZ hd (fun a => Cmp.eq.fn (fy a) (fa a)))
    (wf_map hZ hd (fun x => Scalar.mul Scalar.half (Cmp.eq.fn (fa x) (fb x)))) rfl]
  simp only [C14.zipWith_maps]
  rw [vArith_same .mul _ _ (wf_map hZ hd g) (wf_map hZ hd (fun a => Arith.sub.fn (Cmp.eq.fn (fy a) (fa a))
    (Scalar.mul Scalar.half (Cmp.eq.fn (fa a) (fb a))))) rfl]
  simp only [C14.zipWith_maps, Cmp.fn, Arith.fn, mul_eq, sub_eq, Scalar.ofBool, half_eq, one_eq, zero_eq]

theorem r_avg1 (x n : Nat) (c : ℝ) (hn : 0 < n) (hx : (H.val x).dims = [n]) (hZ : Z.length = n) :
    evalRule bm H (⟨[], [c]⟩ : Tensor ℝ) (.avgAlongX x 0) = .ok ⟨[n], Z.map (fun _ => 1 / (n : ℝ) * c)⟩ := by
  simp only [evalRule, hx, bind, Out.bind, C13.reducerBroadcasted_scalar c n hn, pure, List.getD_cons_zero]
  simp [vScale, Tensor.map, List.map_const', hZ]

end Rules

theorem add_maps {ι : Type} {d : List Nat} {Z : List ι} (hZ : Z.length = prod d) (hd : ∀ x ∈ d, 0 < x) (f g : ι → ℝ) :
    vArith .add (⟨d, Z.map f⟩ : Tensor ℝ) ⟨d, Z.map g⟩ = .ok ⟨d, Z.map (fun z => f z + g z)⟩ := by
  rw [vArith_same .add _ _ (wf_map hZ hd f) (wf_map hZ hd g) rfl]
  simp only [C14.zipWith_maps, Arith.fn, add_eq]

/-- the backward rules along a path of back edges, composed (the rule of the edge nearest to the loss first) -/
noncomputable def pullPath (bm : BMode) (H : Heap ℝ) : List (Rule ℝ) → Tensor ℝ → Out (Tensor ℝ)
  | [], g => .ok g
  | r :: rs, g => (evalRule bm H g r).bind (pullPath bm H rs)

theorem pullPath_nil (bm : BMode) (H : Heap ℝ) (g : Tensor ℝ) : pullPath bm H [] g = .ok g := rfl

theorem pullPath_cons (bm : BMode) (H : Heap ℝ) {r : Rule ℝ} {rs : List (Rule ℝ)} {g g' : Tensor ℝ}
    (h : evalRule bm H g r = .ok g') : pullPath bm H (r :: rs) g = pullPath bm H rs g' := by
  simp only [pullPath, h, Out.bind]

/-- **clip, local backward pass** (`clip(x, l, u) = ElMax(l·x⁰, ElMin(x, u·x⁰))`): a gradient `g` arriving at the clip's
    result reaches `x`, through the ElMax rule (towards the ElMin result) and the ElMin rule (towards `x`), as
    `g · clipD l u x` — 1 strictly inside the band, 0 strictly outside, ½ on a tie (`clipD_cases`, `clipD_tie`). -/
theorem clip_local_vjp {ι : Type} (bm : BMode) (H : Heap ℝ) {d : List Nat} {Z : List ι} (hZ : Z.length = prod d)
    (hd : ∀ x ∈ d, 0 < x) (x lo up xmin r : Nat) (l u : ℝ) (f g : ι → ℝ)
    (hx : H.val x = ⟨d, Z.map f⟩) (hlo : H.val lo = ⟨d, Z.map (fun _ => l)⟩) (hup : H.val up = ⟨d, Z.map (fun _ => u)⟩)
    (hmin : H.val xmin = ⟨d, Z.map (fun z => min (f z) u)⟩)
    (hr : H.val r = ⟨d, Z.map (fun z => max l (min (f z) u))⟩) :
    pullPath bm H [.elext r xmin lo, .elext xmin x up] ⟨d, Z.map g⟩ = .ok ⟨d, Z.map (fun z => g z * clipD l u (f z))⟩ := by
  rw [pullPath_cons bm H (r_elext bm H hZ hd hr hmin hlo g), pullPath_cons bm H (r_elext bm H hZ hd hmin hx hup _),
    pullPath_nil]
  refine congrArg (fun F => Out.ok (⟨_, Z.map F⟩ : Tensor ℝ)) (funext fun z => ?_)
  simp only [clipD]
  ring

/-- the other paths from the clip's result to `x` run through the constant `x⁰` (towards `lower` and `upper`): its
    `Pow(·, 0)` rule delivers zeros whatever arrives, and adding zeros changes nothing -/
theorem const_path_zero {ι : Type} (bm : BMode) (H : Heap ℝ) {d : List Nat} {Z : List ι} (hZ : Z.length = prod d)
    (hd : ∀ x ∈ d, 0 < x) (x : Nat) (f g : ι → ℝ) (hx : H.val x = ⟨d, Z.map f⟩) (G : Tensor ℝ) :
    ∃ z, evalRule bm H G (.powX x 0) = .ok z ∧ vArith .add (⟨d, Z.map g⟩ : Tensor ℝ) z = .ok ⟨d, Z.map g⟩ := by
  refine ⟨⟨d, Z.map (fun _ => 0)⟩, ?_, ?_⟩
  · have := r_pow0 bm H G hx
    rwa [zero_eq] at this
  · rw [add_maps hZ hd]
    simp only [add_zero]

/-- the nodes of the graph `lossCompute .bce` builds that lie on a path from the loss to the prediction `p`
    (the all-ones constants `p⁰`, `p̂⁰` only contribute zeros, see `const_path_zero`) -/
structure BceIds where
  p : Nat
  /-- `lower = ε·p⁰`, `upper = (1−ε)·p⁰`, `pmin = ElMin(p, upper)`, `ph = p̂ = ElMax(lower, pmin)` -/
  lo : Nat
  up : Nat
  pmin : Nat
  ph : Nat
  /-- `lg = Log(p̂)`; `s1 = Mul(t̂, lg)` on the broadcast operands `tb`, `lgb` -/
  lg : Nat
  tb : Nat
  lgb : Nat
  s1 : Nat
  /-- `y2 = Sub(p̂⁰, p̂)` on the broadcast operand `phb` of `p̂`; `lg2 = Log(y2)`; `s2 = Mul(t2, lg2)` on `t2b`, `lg2b`,
      `t2 = 1 − t̂` -/
  phb : Nat
  y2 : Nat
  lg2 : Nat
  t2b : Nat
  lg2b : Nat
  s2 : Nat
  /-- `l = Add(s1, s2)` on the broadcast operands `s1b`, `s2b`; `ln = Scale(l, −1)`; loss = `MeanAlong(ln, 0)` -/
  s1b : Nat
  s2b : Nat
  ln : Nat

/-- loss → `ln` → `l` → `s1` → `lg` → `p̂` -/
noncomputable def BceIds.pathA (N : BceIds) : List (Rule ℝ) :=
  [.avgAlongX N.ln 0, .scaleX (-1), .idG, .bcastX N.s1 N.s1b, .mulG N.tb, .bcastX N.lg N.lgb, .logX N.ph]
/-- loss → `ln` → `l` → `s2` → `lg2` → `y2` → `p̂` -/
noncomputable def BceIds.pathB (N : BceIds) : List (Rule ℝ) :=
  [.avgAlongX N.ln 0, .scaleX (-1), .idG, .bcastX N.s2 N.s2b, .mulG N.t2b, .bcastX N.lg2 N.lg2b, .logX N.y2, .negG,
   .bcastX N.ph N.phb]
/-- `p̂` → `pmin` → `p` -/
noncomputable def BceIds.pathClip (N : BceIds) : List (Rule ℝ) := [.elext N.ph N.pmin N.lo, .elext N.pmin N.p N.up]

/-- what the forward pass stored in those nodes, position by position over an index list `Z`: `fP` the predictions,
    `τ` the (clipped) targets -/
structure BceVals {ι : Type} (H : Heap ℝ) (N : BceIds) (n : Nat) (Z : List ι) (fP τ : ι → ℝ) : Prop where
  p : H.val N.p = ⟨[n], Z.map fP⟩
  lo : H.val N.lo = ⟨[n], Z.map (fun _ => 1 / 10 ^ 12)⟩
  up : H.val N.up = ⟨[n], Z.map (fun _ => 1 - 1 / 10 ^ 12)⟩
  pmin : H.val N.pmin = ⟨[n], Z.map (fun z => min (fP z) (1 - 1 / 10 ^ 12))⟩
  ph : H.val N.ph = ⟨[n], Z.map (fun z => pHat (fP z))⟩
  tb : H.val N.tb = ⟨[n], Z.map τ⟩
  t2b : H.val N.t2b = ⟨[n], Z.map (fun z => 1 - τ z)⟩
  y2 : H.val N.y2 = ⟨[n], Z.map (fun z => 1 - pHat (fP z))⟩
  lg : (H.val N.lg).dims = [n]
  lgb : (H.val N.lgb).dims = [n]
  s1 : (H.val N.s1).dims = [n]
  s1b : (H.val N.s1b).dims = [n]
  phb : (H.val N.phb).dims = [n]
  lg2 : (H.val N.lg2).dims = [n]
  lg2b : (H.val N.lg2b).dims = [n]
  s2 : (H.val N.s2).dims = [n]
  s2b : (H.val N.s2b).dims = [n]
  ln : (H.val N.ln).dims = [n]

/-- the gradient BCE's graph delivers to prediction `pv` with target `tv`, batch size `n`, upstream `c` -/
noncomputable def bceGrad (c : ℝ) (n : Nat) (τ pv : ℝ) : ℝ :=
  c * (-1 / (n : ℝ)) * (τ / pHat pv - (1 - τ) / (1 - pHat pv)) * clipD (1 / 10 ^ 12) (1 - 1 / 10 ^ 12) pv

theorem pHat_inside_strict (p : ℝ) {θ : ℝ} (h1 : 1 / 10 ^ 12 + θ < p) (h2 : p < 1 - 1 / 10 ^ 12 - θ)
    (hθ : 0 < θ := by positivity) : pHat p = p := by
  unfold pHat clipR
  rw [min_eq_left (h2.trans (sub_lt_self _ hθ)).le, max_eq_right ((lt_add_of_pos_right _ hθ).trans h1).le]

theorem bceGrad_inside (c : ℝ) (n : Nat) (τ pv : ℝ) (h1 : 1 / 10 ^ 12 + 1 / 10 ^ 240 < pv)
    (h2 : pv < 1 - 1 / 10 ^ 12 - 1 / 10 ^ 240) :
    bceGrad c n τ pv = c * (-1 / (n : ℝ)) * (τ / pv - (1 - τ) / (1 - pv)) := by
  unfold bceGrad
  rw [(clipD_cases _ _ pv (by norm_num)).1 h1 h2, pHat_inside_strict pv h1 h2, mul_one]

theorem bceGrad_outside (c : ℝ) (n : Nat) (τ pv : ℝ)
    (h : pv < 1 / 10 ^ 12 - 1 / 10 ^ 240 ∨ 1 - 1 / 10 ^ 12 + 1 / 10 ^ 240 < pv) : bceGrad c n τ pv = 0 := by
  unfold bceGrad
  rcases h with h | h
  · rw [(clipD_cases _ _ pv (by norm_num)).2.1 h, mul_zero]
  · rw [(clipD_cases _ _ pv (by norm_num)).2.2 h, mul_zero]

/-- **BCE, local backward pass** (positions indexed by `Z`): seeded with `c` on the scalar loss, the two paths to `p̂`
    (through `log p̂` and through `log(1 − p̂)`) are pulled back by the Model's rules, their contributions are added
    at `p̂` (fan-in), and the sum is pulled through the clip to `p`: position `z` receives `bceGrad c n (τ z) (p z)`.
    Either mode of the Broadcast rule (all Broadcast nodes are between equal shapes). -/
theorem bce_local_vjp_gen {ι : Type} (bm : BMode) (H : Heap ℝ) (N : BceIds) (n : Nat) (hn : 0 < n) (Z : List ι)
    (hZn : Z.length = n) (fP τ : ι → ℝ) (hv : BceVals H N n Z fP τ) (c : ℝ) :
    ∃ A B G,
      pullPath bm H N.pathA ⟨[], [c]⟩ = .ok A ∧ pullPath bm H N.pathB ⟨[], [c]⟩ = .ok B ∧
      vArith .add A B = .ok G ∧
      pullPath bm H N.pathClip G = .ok ⟨[n], Z.map (fun z => bceGrad c n (τ z) (fP z))⟩ := by
  have hZ : Z.length = prod [n] := by simp [prod, hZn]
  have hd : ∀ x ∈ [n], 0 < x := by simpa using hn
  have e0 := r_avg1 bm H (Z := Z) N.ln n c hn hv.ln hZn
  have e1 := r_scale bm H (d := [n]) (Z := Z) (-1) (fun _ => 1 / (n : ℝ) * c)
  have a2 := r_mul bm H hZ hd hv.tb (fun z => -1 * (1 / (n : ℝ) * c))
  have a3 := r_log bm H hZ hd hv.ph (fun z => -1 * (1 / (n : ℝ) * c) * τ z)
  have hA : pullPath bm H N.pathA ⟨[], [c]⟩
      = .ok ⟨[n], Z.map (fun z => -1 * (1 / (n : ℝ) * c) * τ z * (1 / pHat (fP z)))⟩ := by
    unfold BceIds.pathA
    rw [pullPath_cons bm H e0, pullPath_cons bm H e1, pullPath_cons bm H (r_id bm H _),
      pullPath_cons bm H (r_bcast bm H _ (by rw [hv.s1, hv.s1b])), pullPath_cons bm H a2,
      pullPath_cons bm H (r_bcast bm H _ (by rw [hv.lg, hv.lgb])), pullPath_cons bm H a3, pullPath_nil]
  have b2 := r_mul bm H hZ hd hv.t2b (fun z => -1 * (1 / (n : ℝ) * c))
  have b3 := r_log bm H hZ hd hv.y2 (fun z => -1 * (1 / (n : ℝ) * c) * (1 - τ z))
  have b4 := r_neg bm H (d := [n]) (Z := Z) (fun z => -1 * (1 / (n : ℝ) * c) * (1 - τ z) * (1 / (1 - pHat (fP z))))
  have hB : pullPath bm H N.pathB ⟨[], [c]⟩
      = .ok ⟨[n], Z.map (fun z => -1 * (-1 * (1 / (n : ℝ) * c) * (1 - τ z) * (1 / (1 - pHat (fP z)))))⟩ := by
    unfold BceIds.pathB
    rw [pullPath_cons bm H e0, pullPath_cons bm H e1, pullPath_cons bm H (r_id bm H _),
      pullPath_cons bm H (r_bcast bm H _ (by rw [hv.s2, hv.s2b])), pullPath_cons bm H b2,
      pullPath_cons bm H (r_bcast bm H _ (by rw [hv.lg2, hv.lg2b])), pullPath_cons bm H b3,
      pullPath_cons bm H b4, pullPath_cons bm H (r_bcast bm H _ (by rw [hv.ph, hv.phb])), pullPath_nil]
  refine ⟨_, _, _, hA, hB, add_maps hZ hd _ _, ?_⟩
  unfold BceIds.pathClip
  rw [clip_local_vjp bm H hZ hd N.p N.lo N.up N.pmin N.ph _ _ fP _ hv.p hv.lo hv.up hv.pmin hv.ph]
  refine congrArg (fun F => Out.ok (⟨_, Z.map F⟩ : Tensor ℝ)) (funext fun z => ?_)
  unfold bceGrad
  ring

theorem map_zip_fst {β γ δ : Type} (f : β → δ) (T : List β) (P : List γ) (h : T.length ≤ P.length) :
    (T.zip P).map (fun z => f z.1) = T.map f := by
  have := congrArg (List.map f) (List.map_fst_zip (l₁ := T) (l₂ := P) h)
  simpa only [List.map_map, Function.comp_def] using this

theorem map_zip_snd {β γ δ : Type} (f : γ → δ) (T : List β) (P : List γ) (h : P.length ≤ T.length) :
    (T.zip P).map (fun z => f z.2) = P.map f := by
  have := congrArg (List.map f) (List.map_snd_zip (l₁ := T) (l₂ := P) h)
  simpa only [List.map_map, Function.comp_def] using this

/-- the same node values stated on the data of the two inputs: `P` the predictions, `T` the targets; `t̂ = tHat`
    (`clip(·, 0, 1)`), `p̂ = pHat` (`clip(·, ε, 1−ε)`), constants `ε·p⁰ = ε`, `(1−ε)·p⁰ = 1−ε` -/
structure BceNodeVals (H : Heap ℝ) (N : BceIds) (n : Nat) (T P : List ℝ) : Prop where
  p : H.val N.p = ⟨[n], P⟩
  lo : H.val N.lo = ⟨[n], P.map (fun _ => 1 / 10 ^ 12)⟩
  up : H.val N.up = ⟨[n], P.map (fun _ => 1 - 1 / 10 ^ 12)⟩
  pmin : H.val N.pmin = ⟨[n], P.map (fun pv => min pv (1 - 1 / 10 ^ 12))⟩
  ph : H.val N.ph = ⟨[n], P.map pHat⟩
  tb : H.val N.tb = ⟨[n], T.map tHat⟩
  t2b : H.val N.t2b = ⟨[n], T.map (fun tv => 1 - tHat tv)⟩
  y2 : H.val N.y2 = ⟨[n], P.map (fun pv => 1 - pHat pv)⟩
  lg : (H.val N.lg).dims = [n]
  lgb : (H.val N.lgb).dims = [n]
  s1 : (H.val N.s1).dims = [n]
  s1b : (H.val N.s1b).dims = [n]
  phb : (H.val N.phb).dims = [n]
  lg2 : (H.val N.lg2).dims = [n]
  lg2b : (H.val N.lg2b).dims = [n]
  s2 : (H.val N.s2).dims = [n]
  s2b : (H.val N.s2b).dims = [n]
  ln : (H.val N.ln).dims = [n]

theorem BceNodeVals.toVals {H : Heap ℝ} {N : BceIds} {n : Nat} {T P : List ℝ} (hT : T.length = n) (hP : P.length = n)
    (h : BceNodeVals H N n T P) : BceVals H N n (T.zip P) (fun z => z.2) (fun z => tHat z.1) where
  p := by rw [h.p, List.map_snd_zip (by omega)]
  lo := by rw [h.lo, map_zip_snd (fun _ => (1 : ℝ) / 10 ^ 12) T P (by omega)]
  up := by rw [h.up, map_zip_snd (fun _ => (1 : ℝ) - 1 / 10 ^ 12) T P (by omega)]
  pmin := by rw [h.pmin, map_zip_snd (fun pv => min pv ((1 : ℝ) - 1 / 10 ^ 12)) T P (by omega)]
  ph := by rw [h.ph, map_zip_snd pHat T P (by omega)]
  tb := by rw [h.tb, map_zip_fst tHat T P (by omega)]
  t2b := by rw [h.t2b, map_zip_fst (fun tv => 1 - tHat tv) T P (by omega)]
  y2 := by rw [h.y2, map_zip_snd (fun pv => 1 - pHat pv) T P (by omega)]
  lg := h.lg
  lgb := h.lgb
  s1 := h.s1
  s1b := h.s1b
  phb := h.phb
  lg2 := h.lg2
  lg2b := h.lg2b
  s2 := h.s2
  s2b := h.s2b
  ln := h.ln

/-- **BCE, local backward pass**: for every batch size `n ≥ 1`, all predictions `P`, all targets `T` and every upstream
    gradient `c` (the all-ones seed is `c = 1`): the pullbacks along the two paths loss → `p̂` succeed, their sum `G` is
    what accumulates at `p̂`, and pulled through the clip the prediction receives, at position `i`,
    `bceGrad c n (tHat Tᵢ) Pᵢ = c · (−1/n) · (t̂ᵢ/p̂ᵢ − (1−t̂ᵢ)/(1−p̂ᵢ)) · clipD ε (1−ε) Pᵢ`. -/
theorem bce_local_vjp (bm : BMode) (H : Heap ℝ) (N : BceIds) (n : Nat) (hn : 0 < n) (T P : List ℝ)
    (hT : T.length = n) (hP : P.length = n) (hv : BceNodeVals H N n T P) (c : ℝ) :
    ∃ A B G,
      pullPath bm H N.pathA ⟨[], [c]⟩ = .ok A ∧ pullPath bm H N.pathB ⟨[], [c]⟩ = .ok B ∧
      vArith .add A B = .ok G ∧
      pullPath bm H N.pathClip G = .ok ⟨[n], List.zipWith (fun tv pv => bceGrad c n (tHat tv) pv) T P⟩ := by
  obtain ⟨A, B, G, h1, h2, h3, h4⟩ := bce_local_vjp_gen bm H N n hn (T.zip P) (by simp [hT, hP])
    (fun z => z.2) (fun z => tHat z.1) (hv.toVals hT hP) c
  refine ⟨A, B, G, h1, h2, h3, ?_⟩
  rw [h4, C12x.zipWith_as_map]

/-- **BCE gradient = derivative of the BCE formula where the prediction is strictly inside the clip band, 0 where it is
    strictly outside** (strictly: by more than the library's equality threshold `θ = 1e-240`; in between the tie rule
    of ElMax / ElMin gives half the value, `clipD_tie`). The targets enter as `t̂ = clip(t, 0, 1)`. -/
theorem bce_local_vjp_partial (bm : BMode) (H : Heap ℝ) (N : BceIds) (n : Nat) (hn : 0 < n) (T P : List ℝ)
    (hT : T.length = n) (hP : P.length = n) (hv : BceNodeVals H N n T P) (c : ℝ) :
    ∃ A B G K,
      pullPath bm H N.pathA ⟨[], [c]⟩ = .ok A ∧ pullPath bm H N.pathB ⟨[], [c]⟩ = .ok B ∧
      vArith .add A B = .ok G ∧ pullPath bm H N.pathClip G = .ok K ∧ K.dims = [n] ∧ K.data.length = n ∧
      ∀ (i : Nat) (hi : i < n) (tv pv : ℝ), T[i]? = some tv → P[i]? = some pv →
        (1 / 10 ^ 12 + 1 / 10 ^ 240 < pv → pv < 1 - 1 / 10 ^ 12 - 1 / 10 ^ 240 →
          K.data[i]? = some (c * (-1 / (n : ℝ)) * (tHat tv / pv - (1 - tHat tv) / (1 - pv)))) ∧
        (pv < 1 / 10 ^ 12 - 1 / 10 ^ 240 ∨ 1 - 1 / 10 ^ 12 + 1 / 10 ^ 240 < pv → K.data[i]? = some 0) := by
  obtain ⟨A, B, G, h1, h2, h3, h4⟩ := bce_local_vjp bm H N n hn T P hT hP hv c
  refine ⟨A, B, G, _, h1, h2, h3, h4, rfl, by simp [hT, hP], ?_⟩
  intro i hi tv pv ht hp
  have hget : (List.zipWith (fun tv pv => bceGrad c n (tHat tv) pv) T P)[i]? = some (bceGrad c n (tHat tv) pv) := by
    rw [List.getElem?_zipWith, ht, hp]
  refine ⟨fun a b => ?_, fun a => ?_⟩
  · rw [hget, bceGrad_inside c n _ pv a b]
  · rw [hget, bceGrad_outside c n _ pv a]

theorem reducerBroadcasted_const (a : ℝ) (m n : Nat) (hm : 0 < m) (hn : 0 < n) :
    reducerBroadcasted (⟨[m], List.replicate m a⟩ : Tensor ℝ) [m, n] 1 = .ok ⟨[m, n], List.replicate (m * n) a⟩ := by
  have hu := C13.vUnSqueeze_ok (⟨[m], List.replicate m a⟩ : Tensor ℝ) ⟨by simp [prod], by simpa using hm⟩ 1
    (by simp [validUnSqueeze])
  have hb := C13.vBroadcastN_const (⟨[m, 1], List.replicate m a⟩ : Tensor ℝ) ⟨by simp [prod], by simp; omega⟩ a
    (fun x hx => List.eq_of_mem_replicate hx) [m, n] (by simp; omega) (by simp [validBroadcast, validBroadcastLE])
  simp only [reducerBroadcasted, bind, Out.bind, hu, unsqueezeDims, List.take_succ_cons, List.take_zero,
    List.drop_succ_cons, List.drop_zero, List.cons_append, List.nil_append, hb]
  simp [prod]

/-- the nodes of the graph `lossCompute .ce` builds that lie on the path from the loss to the prediction `p` -/
structure CeIds where
  p : Nat
  /-- `lower = ε·p⁰`, `upper = (1−ε)·p⁰`, `pmin = ElMin(p, upper)`, `ph = p̂ = ElMax(lower, pmin)` -/
  lo : Nat
  up : Nat
  pmin : Nat
  ph : Nat
  /-- `lg = Log(p̂)`; `s = Mul(t̂, lg)` on the broadcast operands `tb`, `lgb` -/
  lg : Nat
  tb : Nat
  lgb : Nat
  s : Nat
  /-- `ln = Scale(SumAlong(s, 1), −1)`; loss = `MeanAlong(ln, 0)` -/
  ln : Nat

/-- loss → `ln` → `SumAlong(s,1)` → `s` → `lg` → `p̂` -/
noncomputable def CeIds.pathA (N : CeIds) : List (Rule ℝ) :=
  [.avgAlongX N.ln 0, .scaleX (-1), .sumAlongX N.s 1, .mulG N.tb, .bcastX N.lg N.lgb, .logX N.ph]
/-- `p̂` → `pmin` → `p` -/
noncomputable def CeIds.pathClip (N : CeIds) : List (Rule ℝ) := [.elext N.ph N.pmin N.lo, .elext N.pmin N.p N.up]

/-- what the forward pass stored in those nodes (`m` rows, `n` classes; positions indexed by `Z`, row-major) -/
structure CeVals {ι : Type} (H : Heap ℝ) (N : CeIds) (m n : Nat) (Z : List ι) (fP τ : ι → ℝ) : Prop where
  p : H.val N.p = ⟨[m, n], Z.map fP⟩
  lo : H.val N.lo = ⟨[m, n], Z.map (fun _ => 1 / 10 ^ 12)⟩
  up : H.val N.up = ⟨[m, n], Z.map (fun _ => 1 - 1 / 10 ^ 12)⟩
  pmin : H.val N.pmin = ⟨[m, n], Z.map (fun z => min (fP z) (1 - 1 / 10 ^ 12))⟩
  ph : H.val N.ph = ⟨[m, n], Z.map (fun z => pHat (fP z))⟩
  tb : H.val N.tb = ⟨[m, n], Z.map τ⟩
  lg : (H.val N.lg).dims = [m, n]
  lgb : (H.val N.lgb).dims = [m, n]
  s : (H.val N.s).dims = [m, n]
  ln : (H.val N.ln).dims = [m]

/-- the gradient CE's graph delivers to prediction `pv` with target `tv`, batch size `m`, upstream `c` -/
noncomputable def ceGrad (c : ℝ) (m : Nat) (τ pv : ℝ) : ℝ :=
  c * (-1 / (m : ℝ)) * (τ / pHat pv) * clipD (1 / 10 ^ 12) (1 - 1 / 10 ^ 12) pv

theorem ceGrad_inside (c : ℝ) (m : Nat) (τ pv : ℝ) (h1 : 1 / 10 ^ 12 + 1 / 10 ^ 240 < pv)
    (h2 : pv < 1 - 1 / 10 ^ 12 - 1 / 10 ^ 240) : ceGrad c m τ pv = c * (-1 / (m : ℝ)) * (τ / pv) := by
  unfold ceGrad
  rw [(clipD_cases _ _ pv (by norm_num)).1 h1 h2, pHat_inside_strict pv h1 h2, mul_one]

theorem ceGrad_outside (c : ℝ) (m : Nat) (τ pv : ℝ)
    (h : pv < 1 / 10 ^ 12 - 1 / 10 ^ 240 ∨ 1 - 1 / 10 ^ 12 + 1 / 10 ^ 240 < pv) : ceGrad c m τ pv = 0 := by
  unfold ceGrad
  rcases h with h | h
  · rw [(clipD_cases _ _ pv (by norm_num)).2.1 h, mul_zero]
  · rw [(clipD_cases _ _ pv (by norm_num)).2.2 h, mul_zero]

/-- **CE, local backward pass** (positions indexed by `Z`): seeded with `c` on the scalar loss, through MeanAlong(0),
    Scale(−1), SumAlong(1) (rule `reducerBroadcasted`: UnSqueeze + Broadcast *forward* operations), Mul, Log and the
    clip, position `z` of the prediction receives `ceGrad c m (τ z) (p z)`. The mode of the Broadcast *rule* does not
    matter: the statement holds for both. -/
theorem ce_local_vjp_gen {ι : Type} (bm : BMode) (H : Heap ℝ) (N : CeIds) (m n : Nat) (hm : 0 < m) (hn : 0 < n)
    (Z : List ι) (hZmn : Z.length = m * n) (fP τ : ι → ℝ) (hv : CeVals H N m n Z fP τ) (c : ℝ) :
    ∃ G, pullPath bm H N.pathA ⟨[], [c]⟩ = .ok G ∧
      pullPath bm H N.pathClip G = .ok ⟨[m, n], Z.map (fun z => ceGrad c m (τ z) (fP z))⟩ := by
  have hZ : Z.length = prod [m, n] := by simp [prod, hZmn]
  have hd : ∀ x ∈ [m, n], 0 < x := by simp; omega
  have e0 := r_avg1 bm H (Z := List.range m) N.ln m c hm hv.ln (by simp)
  have e1 := r_scale bm H (d := [m]) (Z := List.range m) (-1) (fun _ => 1 / (m : ℝ) * c)
  have e2 : evalRule bm H ⟨[m], (List.range m).map (fun _ => -1 * (1 / (m : ℝ) * c))⟩ (.sumAlongX N.s 1)
      = .ok ⟨[m, n], Z.map (fun _ => -1 * (1 / (m : ℝ) * c))⟩ := by
    simp only [evalRule, hv.s]
    rw [List.map_const', List.length_range, reducerBroadcasted_const _ m n hm hn, List.map_const', hZmn]
  have a2 := r_mul bm H hZ hd hv.tb (fun z => -1 * (1 / (m : ℝ) * c))
  have a3 := r_log bm H hZ hd hv.ph (fun z => -1 * (1 / (m : ℝ) * c) * τ z)
  have hA : pullPath bm H N.pathA ⟨[], [c]⟩
      = .ok ⟨[m, n], Z.map (fun z => -1 * (1 / (m : ℝ) * c) * τ z * (1 / pHat (fP z)))⟩ := by
    unfold CeIds.pathA
    rw [pullPath_cons bm H e0, pullPath_cons bm H e1, pullPath_cons bm H e2, pullPath_cons bm H a2,
      pullPath_cons bm H (r_bcast bm H _ (by rw [hv.lg, hv.lgb])), pullPath_cons bm H a3, pullPath_nil]
  refine ⟨_, hA, ?_⟩
  unfold CeIds.pathClip
  rw [clip_local_vjp bm H hZ hd N.p N.lo N.up N.pmin N.ph _ _ fP _ hv.p hv.lo hv.up hv.pmin hv.ph]
  refine congrArg (fun F => Out.ok (⟨_, Z.map F⟩ : Tensor ℝ)) (funext fun z => ?_)
  unfold ceGrad
  ring

/-- the same node values stated on the row-major data of the two inputs -/
structure CeNodeVals (H : Heap ℝ) (N : CeIds) (m n : Nat) (T P : List ℝ) : Prop where
  p : H.val N.p = ⟨[m, n], P⟩
  lo : H.val N.lo = ⟨[m, n], P.map (fun _ => 1 / 10 ^ 12)⟩
  up : H.val N.up = ⟨[m, n], P.map (fun _ => 1 - 1 / 10 ^ 12)⟩
  pmin : H.val N.pmin = ⟨[m, n], P.map (fun pv => min pv (1 - 1 / 10 ^ 12))⟩
  ph : H.val N.ph = ⟨[m, n], P.map pHat⟩
  tb : H.val N.tb = ⟨[m, n], T.map tHat⟩
  lg : (H.val N.lg).dims = [m, n]
  lgb : (H.val N.lgb).dims = [m, n]
  s : (H.val N.s).dims = [m, n]
  ln : (H.val N.ln).dims = [m]

theorem CeNodeVals.toVals {H : Heap ℝ} {N : CeIds} {m n : Nat} {T P : List ℝ} (hT : T.length = m * n)
    (hP : P.length = m * n) (h : CeNodeVals H N m n T P) :
    CeVals H N m n (T.zip P) (fun z => z.2) (fun z => tHat z.1) where
  p := by rw [h.p, List.map_snd_zip (by omega)]
  lo := by rw [h.lo, map_zip_snd (fun _ => (1 : ℝ) / 10 ^ 12) T P (by omega)]
  up := by rw [h.up, map_zip_snd (fun _ => (1 : ℝ) - 1 / 10 ^ 12) T P (by omega)]
  pmin := by rw [h.pmin, map_zip_snd (fun pv => min pv ((1 : ℝ) - 1 / 10 ^ 12)) T P (by omega)]
  ph := by rw [h.ph, map_zip_snd pHat T P (by omega)]
  tb := by rw [h.tb, map_zip_fst tHat T P (by omega)]
  lg := h.lg
  lgb := h.lgb
  s := h.s
  ln := h.ln

/-- **CE, local backward pass**: for every batch size `m ≥ 1`, class count `n ≥ 1`, all predictions `P`, all targets `T`
    (row-major) and every upstream gradient `c`: the prediction receives, at row-major position `k`,
    `ceGrad c m (tHat T_k) P_k = c · (−1/m) · t̂_k/p̂_k · clipD ε (1−ε) P_k` — for both modes of the Broadcast rule. -/
theorem ce_local_vjp (bm : BMode) (H : Heap ℝ) (N : CeIds) (m n : Nat) (hm : 0 < m) (hn : 0 < n) (T P : List ℝ)
    (hT : T.length = m * n) (hP : P.length = m * n) (hv : CeNodeVals H N m n T P) (c : ℝ) :
    ∃ G, pullPath bm H N.pathA ⟨[], [c]⟩ = .ok G ∧
      pullPath bm H N.pathClip G = .ok ⟨[m, n], List.zipWith (fun tv pv => ceGrad c m (tHat tv) pv) T P⟩ := by
  obtain ⟨G, h1, h2⟩ := ce_local_vjp_gen bm H N m n hm hn (T.zip P) (by simp [hT, hP])
    (fun z => z.2) (fun z => tHat z.1) (hv.toVals hT hP) c
  refine ⟨G, h1, ?_⟩
  rw [h2, C12x.zipWith_as_map]

/-- **CE gradient = derivative of the CE formula where the prediction is strictly inside the clip band, 0 where it is
    strictly outside**: element `(i, j)` (row `i`, class `j`) receives `c · (−1/m) · t̂ᵢⱼ / pᵢⱼ`, resp. `0`. -/
theorem ce_local_vjp_partial (bm : BMode) (H : Heap ℝ) (N : CeIds) (m n : Nat) (hm : 0 < m) (hn : 0 < n) (T P : List ℝ)
    (hT : T.length = m * n) (hP : P.length = m * n) (hv : CeNodeVals H N m n T P) (c : ℝ) :
    ∃ G K, pullPath bm H N.pathA ⟨[], [c]⟩ = .ok G ∧ pullPath bm H N.pathClip G = .ok K ∧ K.dims = [m, n] ∧
      ∀ (i j : Nat) (hi : i < m) (hj : j < n) (tv pv : ℝ),
        (⟨[m, n], T⟩ : Tensor ℝ).at? [i, j] = some tv → (⟨[m, n], P⟩ : Tensor ℝ).at? [i, j] = some pv →
        (1 / 10 ^ 12 + 1 / 10 ^ 240 < pv → pv < 1 - 1 / 10 ^ 12 - 1 / 10 ^ 240 →
          K.at? [i, j] = some (c * (-1 / (m : ℝ)) * (tHat tv / pv))) ∧
        (pv < 1 / 10 ^ 12 - 1 / 10 ^ 240 ∨ 1 - 1 / 10 ^ 12 + 1 / 10 ^ 240 < pv → K.at? [i, j] = some 0) := by
  obtain ⟨G, h1, h2⟩ := ce_local_vjp bm H N m n hm hn T P hT hP hv c
  refine ⟨G, _, h1, h2, rfl, ?_⟩
  intro i j hi hj tv pv ht hp
  rw [at?_rank2 m n _ i j hi hj] at ht hp ⊢
  have hget : (List.zipWith (fun tv pv => ceGrad c m (tHat tv) pv) T P)[i * n + j]? = some (ceGrad c m (tHat tv) pv) := by
    rw [List.getElem?_zipWith, ht, hp]
  refine ⟨fun a b => ?_, fun a => ?_⟩
  · rw [hget, ceGrad_inside c m _ pv a b]
  · rw [hget, ceGrad_outside c m _ pv a]

theorem hasDerivAt_sum_update {κ : Type} [Fintype κ] [DecidableEq κ] (F : κ → ℝ → ℝ) (x : κ → ℝ) (i : κ) (F' : ℝ)
    (hF : HasDerivAt (F i) F' (x i)) :
    HasDerivAt (fun s => ∑ k, F k (Function.update x i s k)) F' (x i) := by
  have h : ∀ k ∈ (Finset.univ : Finset κ),
      HasDerivAt (fun s => F k (Function.update x i s k)) (if k = i then F' else 0) (x i) := by
    intro k _
    by_cases hk : k = i
    · subst hk
      simp only [Function.update_self, if_true]
      exact hF
    · simp only [Function.update_of_ne hk, hk, if_false]
      exact hasDerivAt_const _ _
  have := HasDerivAt.fun_sum h
  simpa using this

/-- **the BCE formula** `−(1/n) Σₖ [tₖ·log pₖ + (1−tₖ)·log(1−pₖ)]`, differentiated with respect to `pᵢ ∈ (0,1)`:
    `(−1/n)·(tᵢ/pᵢ − (1−tᵢ)/(1−pᵢ))` — the value `bce_local_vjp_partial` finds at position `i` (with `c = 1`, `t = t̂`). -/
theorem bce_formula_deriv {n : ℕ} (t x : Fin n → ℝ) (i : Fin n) (h0 : 0 < x i) (h1 : x i < 1) :
    HasDerivAt (fun s => -(1 / (n : ℝ)) * ∑ k, (t k * Real.log (Function.update x i s k)
        + (1 - t k) * Real.log (1 - Function.update x i s k)))
      (-1 / (n : ℝ) * (t i / x i - (1 - t i) / (1 - x i))) (x i) := by
  have hd := bce_deriv (t i) (x i) h0 h1
  have hs := hasDerivAt_sum_update (fun k y => -(t k * Real.log y + (1 - t k) * Real.log (1 - y))) x i _ hd
  have := hs.const_mul (1 / (n : ℝ))
  refine (this.congr_deriv (by ring)).congr_of_eventuallyEq ?_
  filter_upwards with s
  simp only [Finset.sum_neg_distrib]
  ring

/-- **the CE formula** `−(1/m) Σᵢ Σⱼ tᵢⱼ·log pᵢⱼ`, differentiated with respect to `pᵢⱼ ≠ 0`: `(−1/m)·tᵢⱼ/pᵢⱼ` — the value
    `ce_local_vjp_partial` finds at element `(i, j)` (with `c = 1`, `t = t̂`). -/
theorem ce_formula_deriv {m n : ℕ} (t x : Fin m × Fin n → ℝ) (ij : Fin m × Fin n) (h0 : x ij ≠ 0) :
    HasDerivAt (fun s => -(1 / (m : ℝ)) * ∑ i, ∑ j, t (i, j) * Real.log (Function.update x ij s (i, j)))
      (-1 / (m : ℝ) * (t ij / x ij)) (x ij) := by
  have hd := ce_deriv (t ij) (x ij) h0
  have hs := hasDerivAt_sum_update (fun k y => -(t k * Real.log y)) x ij _ hd
  have := hs.const_mul (1 / (m : ℝ))
  refine (this.congr_deriv (by ring)).congr_of_eventuallyEq ?_
  filter_upwards with s
  rw [← Finset.sum_product']
  simp only [Finset.sum_neg_distrib, Finset.univ_product_univ]
  ring

/-- `rs` are the rules on consecutive back edges leading from node `a` to node `c`, every node on the way tracked
    (so that back-propagation follows each of these edges, `C01.backprop_adjoint`) -/
inductive BackPath (H : Heap ℝ) : Nat → List (Rule ℝ) → Nat → Prop
  | nil (a : Nat) : BackPath H a [] a
  | cons {a b c : Nat} {r : Rule ℝ} {rs : List (Rule ℝ)} :
      (⟨b, r⟩ : Edge ℝ) ∈ (H.ctx a).edges → H.tracked b = true → BackPath H b rs c → BackPath H a (r :: rs) c

theorem BackPath.step {H : Heap ℝ} {a b c : Nat} {v vb : Tensor ℝ} {es esb : List (Edge ℝ)} {r : Rule ℝ}
    {rs : List (Rule ℝ)} (ha : StIf True H a v true es) (hm : (⟨b, r⟩ : Edge ℝ) ∈ es) (hb : StIf True H b vb true esb)
    (rest : BackPath H b rs c) : BackPath H a (r :: rs) c :=
  .cons (by rw [(ha.ctx trivial).2.2 rfl]; exact hm) (hb.ctx trivial).2.1 rest

/-- **the graph `lossCompute .bce` builds** on a tracked, unspent prediction `p` and an unspent target `t` (rank 1,
    length `n`): the run succeeds, the nodes `N` between the loss and `p` hold the values `bce_local_vjp` assumes,
    and the back edges carry exactly the rules of the three paths — loss → `p̂` through `log p̂`, loss → `p̂` through
    `log(1 − p̂)`, and `p̂` → `p` through the clip. -/
theorem bce_graph (H : Heap ℝ) (p t n : Nat) (hp : p < H.size) (ht : t < H.size)
    (wp : (H.val p).WF) (wt : (H.val t).WF) (dp : (H.val p).dims = [n]) (dt : (H.val t).dims = [n])
    (hpt : H.tracked p = true) (hpc : H.dirty p = false) (htc : H.dirty t = false) :
    ∃ r H' N, lossCompute Loss.bce (some p) (some t) H = .ok (r, H') ∧ Extends H H' ∧ N.p = p ∧
      BceNodeVals H' N n (H.val t).data (H.val p).data ∧
      BackPath H' r N.pathA N.ph ∧ BackPath H' r N.pathB N.ph ∧ BackPath H' N.ph N.pathClip p := by
  have hn : 0 < n := wp.2 n (by rw [dp]; simp)
  have lp : (H.val p).data.length = n := by rw [wp.1, dp]; simp [prod]
  have lt' : (H.val t).data.length = n := by rw [wt.1, dt]; simp [prod]
  obtain ⟨hZ, t0, p0⟩ := loss_inputs (c := True) hp ht wp wt dp dt fun _ => ⟨htc, hpc, hpt⟩
  obtain ⟨H', hrun, hext, -, -, c2, Plg, a4, -, -, a7, Plg2, a9, a10, Pln, Pr⟩ :=
    bce_run hn (by simpa [prod] using hZ) t0 p0
  have Pp := p0.mono hext
  have Ps1 := a4.res.congr_tr fun _ => Bool.or_true _
  let N : BceIds := {
    p := p, lo := H.size + 6, up := H.size + 7, pmin := H.size + 8, ph := H.size + 9,
    lg := H.size + 10, tb := H.size + 11, lgb := H.size + 12, s1 := H.size + 13, phb := H.size + 19,
    y2 := H.size + 20, lg2 := H.size + 21, t2b := H.size + 22, lg2b := H.size + 23, s2 := H.size + 24,
    s1b := H.size + 25, s2b := H.size + 26, ln := H.size + 28 }
  refine ⟨H.size + 29, H', N, hrun, hext, rfl, ?_, ?_, ?_, ?_⟩
  · exact {
      p := Pp.val.trans (by rw [List.map_snd_zip (by omega)])
      lo := c2.lo.val.trans (by rw [map_zip_snd (fun _ => (1 : ℝ) / 10 ^ 12) _ _ (by omega)])
      up := c2.up.val.trans (by rw [map_zip_snd (fun _ => (1 : ℝ) - 1 / 10 ^ 12) _ _ (by omega)])
      pmin := c2.xmin.val.trans (by rw [map_zip_snd (fun pv => min pv ((1 : ℝ) - 1 / 10 ^ 12)) _ _ (by omega)])
      ph := c2.res.val.trans (congrArg _ (map_zip_snd pHat _ _ (by omega)))
      tb := a4.a'.val.trans (by rw [map_zip_fst tHat _ _ (by omega)])
      t2b := a9.a'.val.trans (by rw [map_zip_fst (fun tv => 1 - tHat tv) _ (H.val p).data (by omega)])
      y2 := a7.res.val.trans (congrArg _ (map_zip_snd (fun pv => 1 - pHat pv) (H.val t).data _ (by omega)))
      lg := congrArg Tensor.dims Plg.val
      lgb := congrArg Tensor.dims a4.b'.val
      s1 := congrArg Tensor.dims Ps1.val
      s1b := congrArg Tensor.dims a10.a'.val
      phb := congrArg Tensor.dims a7.b'.val
      lg2 := congrArg Tensor.dims Plg2.val
      lg2b := congrArg Tensor.dims a9.b'.val
      s2 := congrArg Tensor.dims a9.res.val
      s2b := congrArg Tensor.dims a10.b'.val
      ln := congrArg Tensor.dims Pln.val }
  -- each membership below: the edge is the first (`.head`) or the second (`.tail _ (.head _)`) of the node's two
  · exact .step Pr (.head _) Pln (.step Pln (.head _) a10.res (.step a10.res (.head _) a10.a'
      (.step a10.a' (.head _) Ps1 (.step Ps1 (.tail _ (.head _)) a4.b' (.step a4.b' (.head _) Plg
      (.step Plg (.head _) c2.res (.nil _)))))))
  · exact .step Pr (.head _) Pln (.step Pln (.head _) a10.res (.step a10.res (.tail _ (.head _)) a10.b'
      (.step a10.b' (.head _) a9.res (.step a9.res (.tail _ (.head _)) a9.b' (.step a9.b' (.head _) Plg2
      (.step Plg2 (.head _) a7.res (.step a7.res (.tail _ (.head _)) a7.b' (.step a7.b' (.head _) c2.res
      (.nil _)))))))))
  · exact .step c2.res (.tail _ (.head _)) c2.xmin (.step c2.xmin (.head _) Pp (.nil _))

/-- **the graph `lossCompute .ce` builds** on a tracked, unspent prediction `p` and an unspent target `t` (rank 2,
    `m` rows, `n` classes): the run succeeds, the nodes `N` between the loss and `p` hold the values `ce_local_vjp`
    assumes, and the back edges carry exactly the rules of the path loss → `p̂` and of the clip path `p̂` → `p`. -/
theorem ce_graph (H : Heap ℝ) (p t m n : Nat) (hp : p < H.size) (ht : t < H.size)
    (wp : (H.val p).WF) (wt : (H.val t).WF) (dp : (H.val p).dims = [m, n]) (dt : (H.val t).dims = [m, n])
    (hpt : H.tracked p = true) (hpc : H.dirty p = false) (htc : H.dirty t = false) :
    ∃ r H' N, lossCompute Loss.ce (some p) (some t) H = .ok (r, H') ∧ Extends H H' ∧ N.p = p ∧
      CeNodeVals H' N m n (H.val t).data (H.val p).data ∧
      BackPath H' r N.pathA N.ph ∧ BackPath H' N.ph N.pathClip p := by
  have hm : 0 < m := wp.2 m (by rw [dp]; simp)
  have hn : 0 < n := wp.2 n (by rw [dp]; simp)
  have lp : (H.val p).data.length = m * n := by rw [wp.1, dp]; simp [prod]
  have lt' : (H.val t).data.length = m * n := by rw [wt.1, dt]; simp [prod]
  obtain ⟨hZ, t0, p0⟩ := loss_inputs (c := True) hp ht wp wt dp dt fun _ => ⟨htc, hpc, hpt⟩
  obtain ⟨H', hrun, hext, -, -, c2, Plg, a4, Pl, Pln, Pr⟩ := ce_run hm hn (by simpa [prod] using hZ) t0 p0
  have Pp := p0.mono hext
  have Ps := a4.res.congr_tr fun _ => Bool.or_true _
  let N : CeIds := {
    p := p, lo := H.size + 6, up := H.size + 7, pmin := H.size + 8, ph := H.size + 9,
    lg := H.size + 10, tb := H.size + 11, lgb := H.size + 12, s := H.size + 13, ln := H.size + 15 }
  refine ⟨H.size + 16, H', N, hrun, hext, rfl, ?_, ?_, ?_⟩
  · exact {
      p := Pp.val.trans (by rw [List.map_snd_zip (by omega)])
      lo := c2.lo.val.trans (by rw [map_zip_snd (fun _ => (1 : ℝ) / 10 ^ 12) _ _ (by omega)])
      up := c2.up.val.trans (by rw [map_zip_snd (fun _ => (1 : ℝ) - 1 / 10 ^ 12) _ _ (by omega)])
      pmin := c2.xmin.val.trans (by rw [map_zip_snd (fun pv => min pv ((1 : ℝ) - 1 / 10 ^ 12)) _ _ (by omega)])
      ph := c2.res.val.trans (congrArg _ (map_zip_snd pHat _ _ (by omega)))
      tb := a4.a'.val.trans (by rw [map_zip_fst tHat _ _ (by omega)])
      lg := congrArg Tensor.dims Plg.val
      lgb := congrArg Tensor.dims a4.b'.val
      s := congrArg Tensor.dims Ps.val
      ln := congrArg Tensor.dims Pln.val }
  · exact .step Pr (.head _) Pln (.step Pln (.head _) Pl (.step Pl (.head _) Ps
      (.step Ps (.tail _ (.head _)) a4.b' (.step a4.b' (.head _) Plg (.step Plg (.head _) c2.res (.nil _))))))
  · exact .step c2.res (.tail _ (.head _)) c2.xmin (.step c2.xmin (.head _) Pp (.nil _))

/-- **BCE**: for every batch size and all values — run `lossCompute .bce` on a tracked prediction; then along the back
    edges the run created (`BackPath`) the Model's backward rules, seeded with `c` on the loss, deliver to the
    prediction the derivative of the BCE formula (`bce_formula_deriv`, with `t̂ = clip(t,0,1)`) wherever the prediction
    is strictly inside the clip band, and 0 wherever it is strictly outside. -/
theorem bce_gradient (bm : BMode) (H : Heap ℝ) (p t n : Nat) (hp : p < H.size) (ht : t < H.size)
    (wp : (H.val p).WF) (wt : (H.val t).WF) (dp : (H.val p).dims = [n]) (dt : (H.val t).dims = [n])
    (hpt : H.tracked p = true) (hpc : H.dirty p = false) (htc : H.dirty t = false) (c : ℝ) :
    ∃ r H' ph pathA pathB pathClip A B G K,
      lossCompute Loss.bce (some p) (some t) H = .ok (r, H') ∧
      BackPath H' r pathA ph ∧ BackPath H' r pathB ph ∧ BackPath H' ph pathClip p ∧
      pullPath bm H' pathA ⟨[], [c]⟩ = .ok A ∧ pullPath bm H' pathB ⟨[], [c]⟩ = .ok B ∧
      vArith .add A B = .ok G ∧ pullPath bm H' pathClip G = .ok K ∧ K.dims = [n] ∧ K.data.length = n ∧
      ∀ (i : Nat) (hi : i < n) (tv pv : ℝ), (H.val t).data[i]? = some tv → (H.val p).data[i]? = some pv →
        (1 / 10 ^ 12 + 1 / 10 ^ 240 < pv → pv < 1 - 1 / 10 ^ 12 - 1 / 10 ^ 240 →
          K.data[i]? = some (c * (-1 / (n : ℝ)) * (tHat tv / pv - (1 - tHat tv) / (1 - pv)))) ∧
        (pv < 1 / 10 ^ 12 - 1 / 10 ^ 240 ∨ 1 - 1 / 10 ^ 12 + 1 / 10 ^ 240 < pv → K.data[i]? = some 0) := by
  obtain ⟨r, H', N, hrun, _, hNp, hv, pa, pb, pc⟩ := bce_graph H p t n hp ht wp wt dp dt hpt hpc htc
  have hn : 0 < n := wp.2 n (by rw [dp]; simp)
  have lp : (H.val p).data.length = n := by rw [wp.1, dp]; simp [prod]
  have lt' : (H.val t).data.length = n := by rw [wt.1, dt]; simp [prod]
  obtain ⟨A, B, G, K, h1, h2, h3, h4, h5, h6, h7⟩ :=
    bce_local_vjp_partial bm H' N n hn (H.val t).data (H.val p).data lt' lp hv c
  exact ⟨r, H', N.ph, N.pathA, N.pathB, N.pathClip, A, B, G, K, hrun, pa, pb, pc, h1, h2, h3, h4, h5, h6, h7⟩

/-- **CE**: the same for `lossCompute .ce` on `m × n` inputs: element `(i, j)` of the prediction receives
    `c · (−1/m) · t̂ᵢⱼ / pᵢⱼ` (the derivative of the CE formula, `ce_formula_deriv`) strictly inside the band, 0 strictly
    outside — for both modes of the Broadcast rule. -/
theorem ce_gradient (bm : BMode) (H : Heap ℝ) (p t m n : Nat) (hp : p < H.size) (ht : t < H.size)
    (wp : (H.val p).WF) (wt : (H.val t).WF) (dp : (H.val p).dims = [m, n]) (dt : (H.val t).dims = [m, n])
    (hpt : H.tracked p = true) (hpc : H.dirty p = false) (htc : H.dirty t = false) (c : ℝ) :
    ∃ r H' ph pathA pathClip G K,
      lossCompute Loss.ce (some p) (some t) H = .ok (r, H') ∧
      BackPath H' r pathA ph ∧ BackPath H' ph pathClip p ∧
      pullPath bm H' pathA ⟨[], [c]⟩ = .ok G ∧ pullPath bm H' pathClip G = .ok K ∧ K.dims = [m, n] ∧
      ∀ (i j : Nat) (hi : i < m) (hj : j < n) (tv pv : ℝ),
        (H.val t).at? [i, j] = some tv → (H.val p).at? [i, j] = some pv →
        (1 / 10 ^ 12 + 1 / 10 ^ 240 < pv → pv < 1 - 1 / 10 ^ 12 - 1 / 10 ^ 240 →
          K.at? [i, j] = some (c * (-1 / (m : ℝ)) * (tHat tv / pv))) ∧
        (pv < 1 / 10 ^ 12 - 1 / 10 ^ 240 ∨ 1 - 1 / 10 ^ 12 + 1 / 10 ^ 240 < pv → K.at? [i, j] = some 0) := by
  obtain ⟨r, H', N, hrun, _, hNp, hv, pa, pc⟩ := ce_graph H p t m n hp ht wp wt dp dt hpt hpc htc
  have hm : 0 < m := wp.2 m (by rw [dp]; simp)
  have hn : 0 < n := wp.2 n (by rw [dp]; simp)
  have lp : (H.val p).data.length = m * n := by rw [wp.1, dp]; simp [prod]
  have lt' : (H.val t).data.length = m * n := by rw [wt.1, dt]; simp [prod]
  obtain ⟨G, K, h1, h2, h3, h4⟩ := ce_local_vjp_partial bm H' N m n hm hn (H.val t).data (H.val p).data lt' lp hv c
  refine ⟨r, H', N.ph, N.pathA, N.pathClip, G, K, hrun, pa, pc, h1, h2, h3, ?_⟩
  intro i j hi hj tv pv htv hpv
  have et : H.val t = ⟨[m, n], (H.val t).data⟩ := by rw [← dt]
  have ep : H.val p = ⟨[m, n], (H.val p).data⟩ := by rw [← dp]
  rw [et] at htv
  rw [ep] at hpv
  exact h4 i j hi hj tv pv htv hpv

end C13x
end Qeep
