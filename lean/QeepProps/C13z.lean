import QeepProps.C13x
import QeepProps.C15z
import QeepProps.C15w
import QeepProps.C02x
import QeepProofs.BlockRules
/-!
# C13 — what `BackPropagate` stores on the prediction of a loss (end to end)

`mse_backprop`: any reachable heap, a tracked unspent prediction `p` (leaf or not) and an untracked unspent target `t` of
length `n`; run `MSE.Compute(p, t)` and `tensor.BackPropagate(loss)`. If the back-propagation returns without error,
`p.Gradient()` is exactly `2(pᵢ − tᵢ)/n` at every position. The walk is the real one over the five tensors `lossCompute .mse`
allocates; whatever `p` was computed from is walked as well and does not matter.

The four tensors under the loss form a block whose back edges act position by position (`Block.Diag`); the loss on top is
`MeanAlong(0)`. What holds of every such block under that head is `mean_head`; `mse_backprop_full` is its instance, in the form
for composition (footprint, progress, stored gradient). `leaf_of_full` discharges the progress statement of any loss on a leaf
prediction.
-/

namespace Qeep
namespace C13z
open RealScalar C13x C15x C15z C15w C01 C01x C01z C01w C01p C20 Block
open C12x (wf_map)

/-- target `t` and prediction `p` of a loss, of one shape `d`, as tensors over the list of pairs (target, prediction) -/
theorem zip_inputs {H : Heap ℝ} {p t : Nat} {d : List Nat} (hp : p < H.size) (ht : t < H.size) (wp : (H.val p).WF)
    (wt : (H.val t).WF) (dp : (H.val p).dims = d) (dt : (H.val t).dims = d) (hpt : H.tracked p = true)
    (hpc : H.dirty p = false) (htt : H.tracked t = false) (htc : H.dirty t = false) :
    ((H.val t).data.zip (H.val p).data).length = prod d ∧ (∀ y ∈ d, 0 < y) ∧
      St H t ⟨d, ((H.val t).data.zip (H.val p).data).map (fun z => z.1)⟩ false (H.ctx t).edges ∧
      St H p ⟨d, ((H.val t).data.zip (H.val p).data).map (fun z => z.2)⟩ true (H.ctx p).edges := by
  have lp : (H.val p).data.length = prod d := by rw [wp.1, dp]
  have lt' : (H.val t).data.length = prod d := by rw [wt.1, dt]
  exact ⟨by simp [lp, lt'], fun y hy => wp.2 y (dp ▸ hy),
    ⟨ht, by rw [List.map_fst_zip (by omega), ← dt], htc, htt, fun h => by cases h⟩,
    ⟨hp, by rw [List.map_snd_zip (by omega), ← dp], hpc, hpt, fun _ => rfl⟩⟩

theorem grad_none_ext {bm : BMode} {H H' : Heap ℝ} {p : Nat} (hR : Reach bm H) (e : Extends H H') (hp : p < H.size)
    (hpc : H.dirty p = false) : H'.grad p = none :=
  (e.grad hp).trans (reach_clean_nograd hR p hpc)

/-- **a loss on a leaf prediction**: when every tracked tensor of the loss graph points into the graph or at the prediction
    `p`, and `p` has no back edges, the walk from the loss visits the graph and `p` only; so the progress statement of the loss
    (`hokc`: the walk succeeds as soon as its part below `p` accepts gradients of shape `ds`) holds outright -/
theorem leaf_of_full {bm : BMode} {H H' : Heap ℝ} {p root : Nat} {ds : List Nat} (hR : Reach bm H) (hext : Extends H H')
    (hp : p < H.size) (hpc : H.dirty p = false) (hleaf : (H.ctx p).edges = []) (hroot : H.size ≤ root)
    (troot : H'.tracked root = true)
    (hfoot : ∀ v, H.size ≤ v → H'.tracked v = true → ∀ e ∈ (H'.ctx v).edges, H.size ≤ e.target ∨ e.target = p)
    (hokc : ∀ (P : Nat → Tensor ℝ → Prop),
      (∀ k a b, P k a → P k b → ∃ s, vArith .add a b = .ok s ∧ P k s) →
      (∀ g, Shaped ds g → P p g) →
      (∀ k ∈ backwardOrder H' root, k < H.size → ∀ g, H'.grad k = some g → P k g) →
      (∀ u ∈ backwardOrder H' root, u < H.size → ∀ e ∈ (H'.ctx u).edges, H'.tracked e.target = true →
        ∀ gy, P u gy → ∃ g, evalRule bm (markDirty H' (backwardOrder H' root)) gy e.rule = .ok g ∧ P e.target g) →
      (backprop bm H' root).status = .ok ()) :
    (backprop bm H' root).status = .ok () := by
  have ep : (H'.ctx p).edges = [] := by rw [hext.ctx hp]; exact hleaf
  have gp : H'.grad p = none := grad_none_ext hR hext hp hpc
  have hvis : ∀ v ∈ backwardOrder H' root, H'.tracked v = true ∧ (H.size ≤ v ∨ v = p) := by
    apply order_subset H' root (fun v => H'.tracked v = true ∧ (H.size ≤ v ∨ v = p)) ⟨troot, Or.inl hroot⟩
    intro u ⟨hut, hu⟩ v hv
    have hvt : H'.tracked v = true := by
      unfold succs at hv; exact (List.mem_filter.mp hv).2
    obtain ⟨-, e, he, rfl⟩ := C01.mem_succs.mp hv
    rcases hu with hu | rfl
    · exact ⟨hvt, hfoot u hu hut e he⟩
    · rw [ep] at he; simp at he
  refine hokc (fun _ g => Shaped ds g) (fun _ a b ha hb => shaped_add_ok _ a b ha hb) (fun g hg => hg) ?_ ?_
  · intro k hk hlt g hgk
    obtain ⟨_, h | rfl⟩ := hvis k hk
    · omega
    · rw [gp] at hgk; cases hgk
  · intro u hu hlt e he
    obtain ⟨_, h | rfl⟩ := hvis u hu
    · omega
    · rw [ep] at he; simp at he

/-- **a block of rank-1 tensors under `MeanAlong(0)`**: the tensors `k, …, top` act position by position on gradients of shape
    `[n]`, their one input is `p`, and `top` is averaged into the scalar loss `root = top + 1`, the last tensor of the heap. Then
    the tracked tensors from `k` on point at tensors from `k` on or at `p`; the walk from the loss succeeds as soon as its part
    below `k` accepts gradients of shape `[n]` at `p`; every tensor of the block but `top`, and `p`, can be delivered to; and
    the walk leaves `1/n` at every position of `top` -/
theorem mean_head {ι : Type} {bm : BMode} {H : Heap ℝ} {k p n root top : Nat} {Z : List ι} {ns : DTable ι}
    (D : Diag bm H root k [p] [n] Z ns) (hroot : root = k + ns.length) (htop : top + 1 = root) (hkt : k ≤ top) (hdag : HeapDag H)
    (hn : 0 < n) (hZn : Z.length = n) (hsize : H.size = root + 1) {c : ℝ}
    (loss : St H root ⟨[], [c]⟩ true [⟨top, .avgAlongX top 0⟩]) (ttop : H.tracked top = true)
    (stop : Shaped [n] (H.val top)) (hfresh : ∀ i, k ≤ i → H.grad i = none) (tp : H.tracked p = true)
    (gp : H.grad p = none) :
    (∀ v, k ≤ v → H.tracked v = true → ∀ e ∈ (H.ctx v).edges, k ≤ e.target ∨ e.target = p) ∧
    (∀ (P : Nat → Tensor ℝ → Prop), (∀ i a b, P i a → P i b → ∃ s, vArith .add a b = .ok s ∧ P i s) →
      (∀ g, Shaped [n] g → P p g) →
      (∀ i ∈ backwardOrder H root, i < k → ∀ g, H.grad i = some g → P i g) →
      (∀ u ∈ backwardOrder H root, u < k → ∀ e ∈ (H.ctx u).edges, H.tracked e.target = true →
        ∀ gy, P u gy → ∃ g, evalRule bm (markDirty H (backwardOrder H root)) gy e.rule = .ok g ∧ P e.target g) →
      (backprop bm H root).status = .ok ()) ∧
    (∀ j, j + 1 < ns.length → H.tracked (k + j) = true → Diag.Open H root k [p] ns.length (.loc j)) ∧
    Diag.Open H root k [p] ns.length (.inp 0) ∧
    ((backprop bm H root).status = .ok () →
      Diag.Got bm H root ⟨[n], Z.map (fun _ => 1 / (n : ℝ) * 1)⟩ Z top (fun _ => 1)) := by
  subst hroot
  have hpk : p < k := D.shape.ins_lt p (by simp)
  have hlt : top < k + ns.length := by omega
  have e_loss := loss.edges rfl
  have t_loss := loss.tracked
  have only_edge : ∀ e ∈ (H.ctx (k + ns.length)).edges, e = ⟨top, .avgAlongX top 0⟩ := fun e he => by
    rw [e_loss] at he; simpa using he
  have wlv : (H.val (k + ns.length)).WF := by rw [loss.val]; exact ⟨by simp [prod], by simp⟩
  have hv : ∀ i, (markDirty H (backwardOrder H (k + ns.length))).val i = H.val i := fun i => markDirty_val _ _ i
  have only : ∀ v ∈ backwardOrder H (k + ns.length), k + ns.length ≤ v → v = k + ns.length := fun v hv h => by
    have := order_le_root H _ hdag v hv; omega
  have hlen := shape_length ns
  have hfoot : ∀ v, k ≤ v → H.tracked v = true → ∀ e ∈ (H.ctx v).edges, k ≤ e.target ∨ e.target = p := by
    intro v hv hvt e he
    by_cases h : v = k + ns.length
    · subst h; obtain rfl := only_edge e he; exact Or.inl hkt
    · have := tracked_lt_size H v hvt
      rcases D.shape.foot v hv (by rw [hlen]; omega) hvt e he with h | h
      · exact Or.inl h.1
      · right; simpa using h
  have hvis : ∀ v ∈ backwardOrder H (k + ns.length), k ≤ v ∨ v ≤ p := fun v hv => by
    rcases D.shape.visited hdag _ t_loss (Nat.le_add_right _ _) (fun u h1 h2 e he => by
        obtain rfl : u = k + ns.length := by rw [hlen] at h1; omega
        obtain rfl := only_edge e he; exact Or.inl hkt) v hv with h | ⟨x, hx, _, h⟩
    · exact Or.inl h
    · simp at hx; subst hx; exact Or.inr h
  have hG : Shaped [n] (⟨[n], Z.map (fun _ => 1 / (n : ℝ) * 1)⟩ : Tensor ℝ) :=
    ⟨wf_map D.len (by simpa using hn) _, rfl⟩
  refine ⟨hfoot, ?_, ?_, ?_, ?_⟩
  · intro P hPadd hPp hPold hPedge
    refine D.backprop_ok hdag t_loss (Nat.le_refl _) (fun _ => []) ?_ hfresh ?_ P hPadd
      (fun x hx g hg => by simp at hx; subst hx; exact hPp g hg) hPold hPedge
    · have := ones_shaped _ wlv; rw [loss.val] at this ⊢; exact this
    · intro u hu hge e he _
      obtain rfl := only u hu hge
      obtain rfl := only_edge e he
      refine ⟨hkt, fun gy hgy => ?_⟩
      obtain ⟨r, e, hdm, wr, _⟩ := C02x.rule_avgAlong bm _ gy top 0 (by rw [hv]; exact stop.1) (by rw [hv, stop.2]; simp)
        hgy.1 (by rw [hv, stop.2, hgy.2]; rfl)
      exact ⟨r, e, by simp only [hlt, ↓reduceIte]; exact ⟨wr, by rw [hdm, hv, stop.2]⟩⟩
  · intro j hj ht
    refine ⟨by simp [Tgt.below]; omega, ht, hfresh _ (Nat.le_add_right _ _), (by show k + j ≠ k + ns.length; omega), ?_⟩
    intro v hv hb e he
    show e.target ≠ k + j
    rcases hb with hb | hb
    · have := hdag v e he; omega
    · obtain rfl := only v hv hb
      obtain rfl := only_edge e he; show top ≠ k + j; omega
  · refine ⟨rfl, tp, gp, (by show p ≠ k + ns.length; omega), fun v hv hb e he => ?_⟩
    show e.target ≠ p
    rcases hb with hb | hb
    · have := hdag v e he
      rcases hvis v hv with h | h <;> omega
    · obtain rfl := only v hv hb
      obtain rfl := only_edge e he; show top ≠ p; omega
  · intro hok
    have hmem := (backwardOrder_spec H _ hdag t_loss).1
    have f_loss : (backprop bm H (k + ns.length)).heap.grad (k + ns.length) = some ⟨[], [1]⟩ := by
      have := grad_root bm H _ hdag t_loss hok (hfresh _ (Nat.le_add_right _ _)) wlv
      rw [loss.val] at this
      simpa [vPow, Tensor.map] using this
    refine ⟨C01.order_closed hdag hmem (e := ⟨top, .avgAlongX top 0⟩) (by rw [e_loss]; simp) ttop, ?_⟩
    rw [dz_one hG D.len]
    refine grad_single' bm H _ hdag t_loss hok top (k + ns.length) hmem (by omega) (hfresh _ hkt) ttop _
      (by rw [e_loss]; simp) ?_ _ _ f_loss (r_avg1 bm _ top n 1 hn (by rw [hv, stop.2]) hZn)
    intro v hv hne e he
    have hle := order_le_root H _ hdag v hv
    by_cases hb : v < k
    · have := hdag v e he; omega
    · rcases D.shape.foot v (by omega) (by rw [hlen]; omega) (C01.mem_order_tracked hv) e he with h | h
      · omega
      · simp at h; omega

def mseShape : Table := [none, some [.inp 0], some [.loc 0, .loc 1], some [.loc 2]]

/-- the edge table of the four tensors under the MSE loss (input 0 is the prediction): the operand copies of `t` (untracked)
    and `p`, `t − p`, its square; with the rule of every back edge and its factor at the position with target `z.1` and
    prediction `z.2` -/
noncomputable def mseTable (k p : Nat) : DTable (ℝ × ℝ) :=
  [none,
   some [(.inp 0, .bcastX p (k + 1), fun _ => 1)],
   some [(.loc 0, .idG, fun _ => 1), (.loc 1, .negG, fun _ => -1)],
   some [(.loc 2, .powX (k + 2) Scalar.two, fun z => Scalar.two * Arith.sub.fn z.1 z.2 ^ ((Scalar.two : ℝ) - 1))]]

@[simp] theorem mseTable_length (k p : Nat) : (mseTable k p).length = 4 := rfl

theorem mseTable_shape (k p : Nat) : (mseTable k p).shape = mseShape := rfl

/-- **MSE, end to end, with the footprint of the loss graph and the progress statement**: the run allocates five tensors, the
    loss is the last one and is tracked, every tracked new tensor has back edges only into new tensors or into the prediction;
    `BackPropagate(loss)` succeeds as soon as the part of the walk below the prediction accepts gradients of the prediction's
    shape; and after a successful `BackPropagate(loss)` the prediction is visited and holds `2(p − t)/n` -/
theorem mse_backprop_full (bm : BMode) (H : Heap ℝ) (p t n : Nat) (hR : Reach bm H) (hp : p < H.size) (ht : t < H.size)
    (wp : (H.val p).WF) (wt : (H.val t).WF) (dp : (H.val p).dims = [n]) (dt : (H.val t).dims = [n])
    (hpt : H.tracked p = true) (hpc : H.dirty p = false) (htt : H.tracked t = false) (htc : H.dirty t = false) :
    ∃ H', lossCompute Loss.mse (some p) (some t) H = .ok (H.size + 4, H') ∧ Extends H H' ∧ H'.size = H.size + 5 ∧
      Reach bm H' ∧ H'.tracked (H.size + 4) = true ∧
      (∀ v, H.size ≤ v → H'.tracked v = true → ∀ e ∈ (H'.ctx v).edges, H.size ≤ e.target ∨ e.target = p) ∧
      (∀ (P : Nat → Tensor ℝ → Prop),
        (∀ k a b, P k a → P k b → ∃ s, vArith .add a b = .ok s ∧ P k s) →
        (∀ g, Shaped [n] g → P p g) →
        (∀ k ∈ backwardOrder H' (H.size + 4), k < H.size → ∀ g, H'.grad k = some g → P k g) →
        (∀ u ∈ backwardOrder H' (H.size + 4), u < H.size → ∀ e ∈ (H'.ctx u).edges, H'.tracked e.target = true →
          ∀ gy, P u gy → ∃ g, evalRule bm (markDirty H' (backwardOrder H' (H.size + 4))) gy e.rule = .ok g ∧ P e.target g) →
        (backprop bm H' (H.size + 4)).status = .ok ()) ∧
      ((backprop bm H' (H.size + 4)).status = .ok () →
        p ∈ backwardOrder H' (H.size + 4) ∧
        (backprop bm H' (H.size + 4)).heap.grad p
          = some ⟨[n], List.zipWith (fun tv pv => 2 * (pv - tv) / (n : ℝ)) (H.val t).data (H.val p).data⟩) := by
  obtain ⟨hZ, hd, t0, p0⟩ := zip_inputs hp ht wp wt dp dt hpt hpc htt htc
  have hn : 0 < n := hd n (by simp)
  obtain ⟨H1, r1, e1, s1, ta1, pb1, d1⟩ := g_arith hZ hd .sub t0 p0
  rw [Bool.false_or] at d1
  obtain ⟨H2, r2, e2, s2, d2⟩ := g_pow d1 (Scalar.two : ℝ)
  obtain ⟨H3, r3, e3, s3, l3⟩ := g_along d2 .mean 0 _ (C12.vAlong_rank1 .mean _ n rfl (map_wf _ _ (wf_map hZ hd _)))
  have R3 : Reach bm H3 := Reach.along (Reach.pow (Reach.arith hR ht hp r1) d1.lt r2) d2.lt r3
  have hrule : alongRule (α := ℝ) .mean H1.size H2.size (0 : Int).toNat = .avgAlongX H1.size 0 := rfl
  rw [hrule] at l3
  have hrun : lossCompute Loss.mse (some p) (some t) H = .ok (H2.size, H3) := by
    unfold lossCompute
    rw [bind_run (show (getHeap : HM ℝ (Heap ℝ)) H = .ok (H, H) from rfl)]
    have hv : lossValid H Loss.mse (some p) (some t) = .ok (p, t) := by simp [lossValid, dp, dt]
    rw [bind_run (show (liftOut (lossValid H Loss.mse (some p) (some t)) : HM ℝ (Nat × Nat)) H = .ok ((p, t), H) by rw [hv]; rfl)]
    simp only []
    rw [bind_run r1, bind_run r2]
    exact r3
  have i1 : H1.size = H.size + 3 := s1
  have i2 : H2.size = H.size + 4 := by rw [s2, i1]
  simp only [i1, i2] at hrun d2 l3 s3
  have f03 : Extends H H3 := (e1.trans e2).trans e3
  have Pb := pb1.mono (e2.trans e3)
  have Pd := d1.mono (e2.trans e3)
  have Pd2 := d2.mono e3
  have hdag := reach_dag R3
  have hfresh := (fresh_lossCompute (α := ℝ) Loss.mse (some p) (some t) H _ _ hrun).2
  have gp : H3.grad p = none := grad_none_ext hR f03 hp hpc
  have hv : ∀ {i v}, H3.val i = v → (markDirty H3 (backwardOrder H3 (H.size + 4))).val i = v :=
    fun h => (markDirty_val _ _ _).trans h
  have two_ne : (Scalar.two : ℝ) ≠ 0 := by rw [two_eq]; norm_num
  have D : Diag bm H3 (H.size + 4) H.size [p] [n] ((H.val t).data.zip (H.val p).data) (mseTable H.size p) :=
    Diag.of (mseTable_shape _ _) (by have := Pd2.lt; simp only [mseTable, List.length_cons, List.length_nil]; omega)
      (by simpa using hp) (by simp) rfl hZ
      ⟨(ta1.mono (e2.trans e3)).tracked,
       ⟨Pb.tracked, Pb.edges rfl, dz_bcast bm _ hZ (by rw [hv (p0.mono f03).val, hv Pb.val]), trivial⟩,
       ⟨Pd.tracked, Pd.edges rfl, dz_id bm _ hZ, dz_neg bm _ hZ, trivial⟩,
       ⟨Pd2.tracked, Pd2.edges rfl, dz_pow_ne bm _ hZ hd (hv Pd.val) _ two_ne, trivial⟩, trivial⟩
  obtain ⟨hfoot, hprog, op, opp, hgot⟩ := mean_head D rfl rfl (Nat.le_add_right _ _) hdag hn (by rw [hZ]; simp [prod]) s3 l3 Pd2.tracked
    (by rw [Pd2.val]; exact ⟨map_wf _ _ (wf_map hZ hd _), rfl⟩) hfresh (p0.mono f03).tracked gp
  refine ⟨H3, hrun, f03, s3, R3, l3.tracked, hfoot, hprog, fun hok => ?_⟩
  have hG : Shaped [n] (⟨[n], ((H.val t).data.zip (H.val p).data).map (fun _ => 1 / (n : ℝ) * 1)⟩ : Tensor ℝ) :=
    ⟨wf_map hZ hd _, rfl⟩
  have g2 := D.pull1 hdag l3.tracked hok hG (op 2 (by simp) Pd.tracked) (mseTable_shape _ _) (i := 3) rfl rfl rfl (hgot hok)
  have g1 := D.pull1 hdag l3.tracked hok hG (op 1 (by simp) Pb.tracked) (mseTable_shape _ _) (i := 2) rfl rfl rfl g2
  have g0 := D.pull1 hdag l3.tracked hok hG opp (mseTable_shape _ _) (i := 1) rfl rfl rfl g1
  refine ⟨g0.1, ?_⟩
  rw [show Tgt.abs H.size [p] (.inp 0) = p from rfl] at g0
  rw [g0.2, dz_map, C12x.zipWith_as_map]
  congr 2
  apply List.map_congr_left
  intro z _
  simp only [Arith.fn, sub_eq, two_eq, show (2 : ℝ) - 1 = 1 by norm_num, Real.rpow_one]
  ring

theorem mse_backprop (bm : BMode) (H : Heap ℝ) (p t n : Nat) (hR : Reach bm H) (hp : p < H.size) (ht : t < H.size)
    (wp : (H.val p).WF) (wt : (H.val t).WF) (dp : (H.val p).dims = [n]) (dt : (H.val t).dims = [n])
    (hpt : H.tracked p = true) (hpc : H.dirty p = false) (htt : H.tracked t = false) (htc : H.dirty t = false) :
    ∃ r H', lossCompute Loss.mse (some p) (some t) H = .ok (r, H') ∧
      ((backprop bm H' r).status = .ok () →
        (backprop bm H' r).heap.grad p
          = some ⟨[n], List.zipWith (fun tv pv => 2 * (pv - tv) / (n : ℝ)) (H.val t).data (H.val p).data⟩) := by
  obtain ⟨H', hrun, _, _, _, _, _, _, hg⟩ := mse_backprop_full bm H p t n hR hp ht wp wt dp dt hpt hpc htt htc
  exact ⟨_, H', hrun, fun hok => (hg hok).2⟩

theorem two_leaves (bm : BMode) (vp vt : Tensor ℝ) :
    ∃ H : Heap ℝ, Reach bm H ∧ 0 < H.size ∧ 1 < H.size ∧ H.val 0 = vp ∧ H.val 1 = vt ∧ H.tracked 0 = true ∧
      H.dirty 0 = false ∧ H.tracked 1 = false ∧ H.dirty 1 = false :=
  ⟨#[⟨vp, freshCtx true⟩, ⟨vt, freshCtx false⟩],
    Reach.leaf (v := vt) (b := false) (r := 1) (Reach.leaf (v := vp) (b := true) (r := 0) Reach.empty rfl) rfl,
    by simp, by simp, rfl, rfl, by simp [Heap.tracked, Heap.ctx, freshCtx], by simp [Heap.dirty, Heap.ctx, freshCtx],
    by simp [Heap.tracked, Heap.ctx, freshCtx], by simp [Heap.dirty, Heap.ctx, freshCtx]⟩

/-- the hypotheses of `mse_backprop` are satisfiable -/
example : ∃ (H : Heap ℝ) (p t n : Nat), Reach BMode.mean H ∧ p < H.size ∧ t < H.size ∧ (H.val p).WF ∧ (H.val t).WF ∧
    (H.val p).dims = [n] ∧ (H.val t).dims = [n] ∧ H.tracked p = true ∧ H.dirty p = false ∧ H.tracked t = false ∧
    H.dirty t = false := by
  obtain ⟨H, hR, h0, h1, v0, v1, t0, d0, t1, d1⟩ := two_leaves BMode.mean ⟨[2], [1, 2]⟩ ⟨[2], [0, 1]⟩
  exact ⟨H, 0, 1, 2, hR, h0, h1, by rw [v0]; exact ⟨by simp [prod], by simp⟩, by rw [v1]; exact ⟨by simp [prod], by simp⟩,
    by rw [v0], by rw [v1], t0, d0, t1, d1⟩

end C13z
end Qeep
