import QeepProps.C12g
/-!
# C14 — activations compute their defining function

Over `ℝ` (Mathlib), for every input shape (any rank, any dimension sizes): the activation's forward pass, run on
the heap model, succeeds, leaves every existing tensor untouched and returns a tensor of the input's shape whose
elements are the defining function of the input's elements.

Softmax (normalisation along `Dim`) needs the semantics of `SumAlong` + broadcasting `Div`: `C12x.softmax_value`
(rank 1), `C12x.softmax_value_rank2`, `C14y.softmax_value_any` (any rank, any valid dim).
-/

namespace Qeep
namespace C14
open RealScalar

theorem oneInput_run {α : Type} (x : Nat) (H : Heap α) : (liftOut (oneInput [some x]) : HM α Nat) H = .ok (x, H) := rfl

section programs
variable {α : Type} [Scalar α]

theorem actForward_relu (x : Nat) (H : Heap α) :
    actForward .relu [some x] H = (hScale x Scalar.zero >>= fun z => hCmp .elmax z x) H := by
  unfold actForward
  exact bind_run (oneInput_run x H)

theorem actForward_tanh (x : Nat) (H : Heap α) : actForward .tanh [some x] H = hUnary .tanh x H := by
  unfold actForward
  exact bind_run (oneInput_run x H)

theorem actForward_leaky (m : α) (x : Nat) (H : Heap α) :
    actForward (.leaky m) [some x] H = (do
      let z ← hScale x Scalar.zero
      let s1 ← hCmp .elmax z x
      let s2 ← hCmp .elmin z x
      let s2 ← hScale s2 m
      hArith .add s1 s2) H := by
  unfold actForward
  exact bind_run (oneInput_run x H)

theorem actForward_sigmoid (x : Nat) (H : Heap α) :
    actForward .sigmoid [some x] H = (do
      let o ← hPow x Scalar.zero
      let x1 ← hScale x (Scalar.neg Scalar.one)
      let x2 ← hUnary .exp x1
      let y ← hArith .add o x2
      hPow y (Scalar.neg Scalar.one)) H := by
  unfold actForward
  exact bind_run (oneInput_run x H)

theorem actForward_softmax (dim x : Nat) (H : Heap α) :
    actForward (.softmax dim) [some x] H = (if (H.val x).dims.length ≤ dim then liftOut .err else do
      let e ← hUnary .exp x
      let s ← hAlong .sum e dim
      let s ← hUnSqueeze s dim
      hArith .div e s) H := by
  unfold actForward
  rw [bind_run (oneInput_run x H)]
  exact bind_run (show (getHeap : HM α (Heap α)) H = .ok (H, H) from rfl)

end programs

theorem zipWith_map_left {β γ δ : Type} (f : γ → β → δ) (g : β → γ) (l : List β) :
    List.zipWith f (l.map g) l = l.map (fun a => f (g a) a) := by
  have := C12.zipWith_maps f g (fun a => a) l
  rwa [List.map_id'] at this

theorem zipWith_maps {β γ δ ε : Type} (f : γ → δ → ε) (g : β → γ) (h : β → δ) (l : List β) :
    List.zipWith f (l.map g) (l.map h) = l.map (fun a => f (g a) (h a)) :=
  C12.zipWith_maps f g h l

/-- an input as the element-wise image of its own data -/
theorem input_st {H : Heap ℝ} {x : Nat} (hx : x < H.size) :
    C13x.StIf False H x ⟨(H.val x).dims, (H.val x).data.map (fun a => a)⟩ false [] :=
  ⟨hx, by rw [List.map_id'], False.elim⟩

/-- **Relu = max(0, x)** element-wise, input's shape, for every well-formed input. -/
theorem relu_value (H : Heap ℝ) (x : Nat) (hx : x < H.size) (hwf : (H.val x).WF) :
    ∃ r H', actForward Activation.relu [some x] H = .ok (r, H') ∧ Extends H H' ∧
      H'.val r = ⟨(H.val x).dims, (H.val x).data.map (fun a => max 0 a)⟩ := by
  have x0 := input_st hx
  obtain ⟨H1, r1, e1, -, z⟩ := C13x.run_scale rfl x0 (Scalar.zero : ℝ)
  rw [C13x.vScale_map] at z
  obtain ⟨H2, r2, e2, -, y⟩ := C13x.run_ext rfl .elmax (.inl rfl) z (x0.mono e1) _
    (vCmp_same .elmax _ _ (C12x.wf_map hwf.1 hwf.2 _) (C12x.wf_map hwf.1 hwf.2 _) rfl)
  refine ⟨H1.size, H2, ?_, e1.trans e2, ?_⟩
  · rw [actForward_relu, bind_run r1]
    exact r2
  · rw [y.val]
    simp only [C12.zipWith_maps, Cmp.fn, max_eq, zero_eq, zero_mul]

/-- **Tanh** element-wise. -/
theorem tanh_value (H : Heap ℝ) (x : Nat) :
    ∃ r H', actForward Activation.tanh [some x] H = .ok (r, H') ∧ Extends H H' ∧
      H'.val r = ⟨(H.val x).dims, (H.val x).data.map Real.tanh⟩ := by
  obtain ⟨r, H1, hr⟩ := ran_hUnary .tanh x H
  refine ⟨r, H1, ?_, hr.ext, by rw [hr.val]; rfl⟩
  rw [actForward_tanh]
  exact hr.run

/-- **LeakyRelu = max(0,x) + m·min(0,x)** element-wise, for every slope `m`. -/
theorem leaky_value (m : ℝ) (H : Heap ℝ) (x : Nat) (hx : x < H.size) (hwf : (H.val x).WF) :
    ∃ r H', actForward (Activation.leaky m) [some x] H = .ok (r, H') ∧ Extends H H' ∧
      H'.val r = ⟨(H.val x).dims, (H.val x).data.map (fun a => max 0 a + m * min 0 a)⟩ := by
  have x0 := input_st hx
  have wf := fun f : ℝ → ℝ => C12x.wf_map hwf.1 hwf.2 f
  obtain ⟨H1, r1, e1, -, z⟩ := C13x.run_scale rfl x0 (Scalar.zero : ℝ)
  rw [C13x.vScale_map] at z
  obtain ⟨H2, r2, e2, -, s1⟩ := C13x.run_ext rfl .elmax (.inl rfl) z (x0.mono e1) _ (vCmp_same .elmax _ _ (wf _) (wf _) rfl)
  obtain ⟨H3, r3, e3, -, s2⟩ := C13x.run_ext rfl .elmin (.inr rfl) (z.mono e2) (x0.mono (e1.trans e2)) _
    (vCmp_same .elmin _ _ (wf _) (wf _) rfl)
  simp only [C12.zipWith_maps] at s1 s2
  obtain ⟨H4, r4, e4, -, s3⟩ := C13x.run_scale rfl s2 m
  rw [C13x.vScale_map] at s3
  obtain ⟨H5, r5, e5, -, a⟩ := C13x.run_arith rfl hwf.1 hwf.2 .add ((s1.mono e3).mono e4) s3
  refine ⟨H4.size + 2, H5, ?_, (((e1.trans e2).trans e3).trans e4).trans e5, ?_⟩
  · rw [actForward_leaky, bind_run r1, bind_run r2, bind_run r3, bind_run r4]
    exact r5
  · rw [a.res.val]
    simp only [Arith.fn, Cmp.fn, add_eq, max_eq, min_eq, zero_eq, zero_mul]

/-- **Sigmoid = 1 / (1 + e^{-x})** element-wise. -/
theorem sigmoid_value (H : Heap ℝ) (x : Nat) (hx : x < H.size) (hwf : (H.val x).WF) :
    ∃ r H', actForward Activation.sigmoid [some x] H = .ok (r, H') ∧ Extends H H' ∧
      H'.val r = ⟨(H.val x).dims, (H.val x).data.map (fun a => (1 + Real.exp (-a))⁻¹)⟩ := by
  have x0 := input_st hx
  obtain ⟨H1, r1, e1, -, o⟩ := C13x.run_pow rfl x0 (Scalar.zero : ℝ)
  rw [C13x.vPow_zero_map] at o
  obtain ⟨H2, r2, e2, -, x1⟩ := C13x.run_scale rfl (x0.mono e1) (Scalar.neg Scalar.one : ℝ)
  rw [C13x.vScale_map] at x1
  obtain ⟨H3, r3, e3, -, x2⟩ := C13x.run_unary rfl .exp x1
  rw [C13x.vUnary_map] at x2
  obtain ⟨H4, r4, e4, -, y⟩ := C13x.run_arith rfl hwf.1 hwf.2 .add ((o.mono e2).mono e3) x2
  obtain ⟨H5, r5, e5, -, r⟩ := C13x.run_pow rfl y.res (Scalar.neg Scalar.one : ℝ)
  refine ⟨H4.size, H5, ?_, (((e1.trans e2).trans e3).trans e4).trans e5, ?_⟩
  · rw [actForward_sigmoid, bind_run r1, bind_run r2, bind_run r3, bind_run r4]
    exact r5
  · rw [r.val]
    simp only [vPow, Tensor.map, List.map_map, Function.comp_def, Arith.fn, Unary.fn, add_eq, exp_eq, pow_eq, neg_eq,
      one_eq, Real.rpow_neg_one, neg_one_mul]

/-- non-vacuity: a well-formed input exists -/
example : ∃ H : Heap ℝ, 0 < H.size ∧ (H.val 0).WF :=
  ⟨#[⟨⟨[2], [1, -1]⟩, {}⟩], Nat.one_pos, rfl, by decide⟩

end C14
end Qeep
