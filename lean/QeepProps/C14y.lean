import QeepProps.C12x
import QeepProps.C03x
import QeepProofs.BcastCopies
/-!
# C14 (extension) — Softmax along the configured dim, for every rank and every valid dim (over `ℝ`)

`softmax.go`: `e = x.Exp(); s = e.SumAlong(dim).UnSqueeze(dim); y = e.Div(s)` (no max-shift). Proved about its
model `actForward (Activation.softmax dim)`, for every rank `r ≥ 1`, every `dim < r`, every well-formed input: the run
succeeds, only allocates, and `y[idx] = exp(x[idx]) / Σ_{i < n} exp(x[idx with position dim := i])`, `n = dims[dim]`
(`softmax_value_any`; `softmax_value_any_scalar` for every scalar domain, in the operations and summation order the
code executes); the outputs on a fibre along `dim` sum to 1 and lie in `(0, 1]` (`softmax_simplex_any`);
`dim ≥ rank` is the layer's error, not a panic (`softmax_err_of_dim_ge`).

Second part: index-level statements for every `…Along` reducer at any rank and dim (`along_el` and its instances).
-/

set_option linter.unusedSectionVars false
set_option linter.unusedVariables false
namespace Qeep
namespace C14y
open RealScalar

section Generic
variable {α : Type} [Scalar α]

theorem map_el (f : α → α) (t : Tensor α) (hwf : t.WF) {u : List Nat} (hu : Valid t.dims u) :
    (t.map f).el u = f (t.el u) := by
  apply el_of_at?
  rw [at?_map, at?_some_el t hwf hu]; rfl

theorem valid_split3 {P R : List Nat} {n : Nat} {idx : List Nat} (h : Valid (P ++ n :: R) idx) :
    ∃ p i q, idx = p ++ i :: q ∧ Valid P p ∧ i < n ∧ Valid R q := by
  have hl : idx.length = P.length + (R.length + 1) := by simpa using h.length_eq
  have hs : idx = idx.take P.length ++ idx.drop P.length := (List.take_append_drop _ _).symm
  rw [hs] at h
  obtain ⟨v1, v2⟩ := valid_split (by rw [List.length_take]; omega) h
  cases hq : idx.drop P.length with
  | nil => rw [hq] at v2; cases v2
  | cons i q =>
    rw [hq] at v2
    cases v2 with
    | cons hi hv => exact ⟨_, i, q, by rw [← hq]; exact hs, v1, hi, hv⟩

theorem set_split (p q : List Nat) (i j : Nat) : (p ++ i :: q).set p.length j = p ++ j :: q := by
  induction p with
  | nil => rfl
  | cons a p ih => simp only [List.cons_append, List.length_cons, List.set_cons_succ, ih]

theorem insAt_split (p q : List Nat) (j : Nat) : insAt p.length j (p ++ q) = p ++ j :: q := by
  unfold insAt
  rw [List.take_left' rfl, List.drop_left' rfl]

theorem dims_split (ds : List Nat) (dim : Nat) (h : dim < ds.length) :
    ds = ds.take dim ++ ds.getD dim 0 :: ds.drop (dim + 1) ∧ (ds.take dim).length = dim := by
  refine ⟨?_, by rw [List.length_take]; omega⟩
  have : ds.getD dim 0 = ds[dim] := by simp [List.getD, List.getElem?_eq_getElem h]
  rw [this, ← List.drop_eq_getElem_cons h, List.take_append_drop]

theorem squeeze_split (P R : List Nat) (n : Nat) : squeezeDims P.length (P ++ n :: R) = P ++ R := by
  unfold squeezeDims
  rw [List.take_left' rfl]
  have : (P ++ n :: R).drop (P.length + 1) = R := by
    rw [← List.drop_drop, List.drop_left' rfl]; rfl
  rw [this]

theorem getD_split (P R : List Nat) (n : Nat) : (P ++ n :: R).getD P.length 0 = n := by
  simp [List.getD]

theorem projLE_app : ∀ (A A' a B B' b : List Nat), A.length = A'.length → A.length = a.length →
    projLE (A ++ B) (A' ++ B') (a ++ b) = projLE A A' a ++ projLE B B' b
  | [], [], [], _, _, _, _, _ => rfl
  | x :: A, y :: A', z :: a, B, B', b, h1, h2 => by
    simp only [List.cons_append, projLE]
    rw [projLE_app A A' a B B' b (by simpa using h1) (by simpa using h2)]
  | [], _ :: _, _, _, _, _, h, _ => by simp at h
  | _ :: _, [], _, _, _, _, h, _ => by simp at h
  | [], [], _ :: _, _, _, _, _, h => by simp at h
  | _ :: _, _ :: _, [], _, _, _, _, h => by simp at h

/-- the operand of dims `A ++ 1 :: B` is read at `0` in the expanded position, wherever the target index is -/
theorem projLE_split (A B a b : List Nat) (n i : Nat) (ha : a.length = A.length) (hb : b.length = B.length) (hi : i < n) :
    projLE (A ++ 1 :: B) (A ++ n :: B) (a ++ i :: b) = a ++ 0 :: b := by
  rw [projLE_app A A a _ _ _ rfl ha.symm, projLE_self A a ha]
  simp only [projLE]
  rw [projLE_self B b hb]
  have : (if 1 = n then i else 0) = 0 := by split <;> omega
  rw [this]

theorem compatLE_split : ∀ (A B : List Nat) (n : Nat), C03x.compatLE (A ++ n :: B) (A ++ 1 :: B) = true
  | [], B, n => by simp [C03x.compatLE, C03x.compatLE_self B]
  | a :: A, B, n => by simp [C03x.compatLE, compatLE_split A B n]

theorem targetLE_split : ∀ (A B : List Nat) (n : Nat), 0 < n →
    targetBroadcastLE (A ++ n :: B) (A ++ 1 :: B) = A ++ n :: B
  | [], B, n, hn => by
    simp only [List.nil_append, targetBroadcastLE, targetBroadcastLE_self]
    have : (if n > 1 then n else 1) = n := by split <;> omega
    rw [this]
  | a :: A, B, n, hn => by
    simp only [List.cons_append, targetBroadcastLE, targetLE_split A B n hn]
    have : (if a > a then a else a) = a := by split <;> rfl
    rw [this]

theorem target_split (P R : List Nat) (n : Nat) (hn : 0 < n) :
    targetBroadcastDims (P ++ n :: R) (P ++ 1 :: R) = P ++ n :: R := by
  unfold targetBroadcastDims
  have e1 : (P ++ n :: R).reverse = R.reverse ++ n :: P.reverse := by simp
  have e2 : (P ++ 1 :: R).reverse = R.reverse ++ 1 :: P.reverse := by simp
  rw [e1, e2, targetLE_split _ _ n hn, ← e1, List.reverse_reverse]

theorem compat_split (P R : List Nat) (n : Nat) : C03x.compat (P ++ n :: R) (P ++ 1 :: R) = true := by
  unfold C03x.compat
  have e1 : (P ++ n :: R).reverse = R.reverse ++ n :: P.reverse := by simp
  have e2 : (P ++ 1 :: R).reverse = R.reverse ++ 1 :: P.reverse := by simp
  rw [e1, e2, compatLE_split]

/-- **broadcasting arithmetic of `[P, n, R]` with `[P, 1, R]`** at index level: the element at `p ++ i :: q` combines
    the first operand's element there with the second operand's element at `p ++ 0 :: q`. -/
theorem arith_split_el (o : Arith) (a b : Tensor α) (ha : a.WF) (hb : b.WF) (P R : List Nat) (n : Nat)
    (hda : a.dims = P ++ n :: R) (hdb : b.dims = P ++ 1 :: R) :
    ∃ r, vArith o a b = .ok r ∧ r.WF ∧ r.dims = P ++ n :: R ∧
      ∀ p i q, Valid P p → i < n → Valid R q → r.el (p ++ i :: q) = o.fn (a.el (p ++ i :: q)) (b.el (p ++ 0 :: q)) := by
  have hn : 0 < n := ha.2 n (by rw [hda]; simp)
  obtain ⟨r, hr⟩ := (C03x.arith_total o a b ha hb).1 (by rw [hda, hdb]; exact compat_split P R n)
  obtain ⟨hrd, hrw⟩ := C03x.arith_result_dims o a b r ha hb hr
  rw [hda, hdb, target_split P R n hn] at hrd
  refine ⟨r, hr, hrw, hrd, ?_⟩
  intro p i q hp hi hq
  have hv : Valid (P ++ n :: R) (p ++ i :: q) := valid_app hp (.cons hi hq)
  have hu : Valid r.dims.reverse (p ++ i :: q).reverse := by rw [hrd]; exact valid_reverse hv
  obtain ⟨xv, yv, e1, e2, e3⟩ := C03x.arith_get o a b r ha hb hr _ hu
  rw [List.reverse_reverse] at e3
  have hlen : (p ++ i :: q).reverse.length = (P ++ n :: R).reverse.length := by
    simp [hp.length_eq, hq.length_eq]
  rw [hda, hrd, projLE_self _ _ hlen, List.reverse_reverse] at e1
  have er : (P ++ n :: R).reverse = R.reverse ++ n :: P.reverse := by simp
  have eb : (P ++ 1 :: R).reverse = R.reverse ++ 1 :: P.reverse := by simp
  have eu : (p ++ i :: q).reverse = q.reverse ++ i :: p.reverse := by simp
  rw [hdb, hrd, er, eb, eu, projLE_split _ _ _ _ n i (by simp [hq.length_eq]) (by simp [hp.length_eq]) hi] at e2
  have eb' : (q.reverse ++ 0 :: p.reverse).reverse = p ++ 0 :: q := by simp
  rw [eb'] at e2
  rw [el_of_at? e1, el_of_at? e2, el_of_at? e3]

theorem ran_hArith_of_val (o : Arith) (a b : Nat) (H : Heap α) (ha : a < H.size) (hb : b < H.size)
    (wa : (H.val a).WF) (wb : (H.val b).WF) (v : Tensor α) (h : vArith o (H.val a) (H.val b) = .ok v) :
    ∃ r H', Ran (hArith o a b) H v r H' := by
  cases hp : vBroadcastPair (H.val a) (H.val b) with
  | err => rw [C03x.arith_err_of_pair_err o _ _ hp] at h; cases h
  | panic =>
    unfold vArith at h
    simp only [bind, Out.bind] at h
    rw [hp] at h; cases h
  | ok pr =>
    obtain ⟨a', b'⟩ := pr
    obtain ⟨ea, eb, da, db, wa', wb'⟩ := C03x.pair_ok wa wb hp
    have hd : a'.dims = b'.dims := by rw [da, db]
    have hl : a'.data.length = b'.data.length := by rw [wa'.1, wb'.1, hd]
    rw [C03x.arith_implicit_eq_explicit o _ _ a' b' wa wb hp, vArith_same o a' b' wa' wb' hd] at h
    injection h with h
    exact ran_hArith o a b H ha hb a' b' v ea eb (by rw [← h]; simp [Tensor.zipRaw, hd, hl])

end Generic

/-! ## Softmax on values: Exp, SumAlong(dim), UnSqueeze(dim), broadcasting Div

Stated for every scalar domain first (the operations and the summation order are the code's: `sumOver` is the left
fold from zero that `SumAlong` performs), then specialised to `ℝ`. -/

section Scalar
variable {α : Type} [Scalar α]

/-- **the value-level chain of `softmax.go`** on a well-formed tensor of dims `P ++ n :: R` (`dim = P.length`):
    every step succeeds, and the quotient at `p ++ i :: q` is `exp(x[p,i,q]) / Σ_j exp(x[p,j,q])`. -/
theorem softmax_val_split (x : Tensor α) (hwf : x.WF) (P R : List Nat) (n : Nat) (hd : x.dims = P ++ n :: R) :
    ∃ s s' y, vAlong .sum (vUnary .exp x) (P.length : Int) = .ok s ∧ vUnSqueeze s (P.length : Int) = .ok s' ∧
      vArith .div (vUnary .exp x) s' = .ok y ∧ s'.WF ∧ y.WF ∧ y.dims = P ++ n :: R ∧
      ∀ p i q, Valid P p → i < n → Valid R q →
        y.el (p ++ i :: q)
          = Scalar.div (Scalar.exp (x.el (p ++ i :: q))) (sumOver n (fun j => Scalar.exp (x.el (p ++ j :: q)))) := by
  have we : (vUnary .exp x).WF := map_wf _ _ hwf
  have hde : (vUnary .exp x).dims = P ++ n :: R := hd
  have hel : ∀ u, Valid (P ++ n :: R) u → (vUnary .exp x).el u = Scalar.exp (x.el u) := by
    intro u hu
    exact map_el _ x hwf (by rw [hd]; exact hu)
  obtain ⟨s, h1, ws, ds, es⟩ := sumAlong_el (vUnary .exp x) we P.length (by rw [hde]; simp)
  rw [hde, squeeze_split] at ds es
  rw [getD_split] at es
  obtain ⟨s', h2, ws', ds', es'⟩ := unsqueeze_el s ws P R ds
  obtain ⟨y, h3, wy, dy, ey⟩ := arith_split_el .div (vUnary .exp x) s' we ws' P R n hde ds'
  refine ⟨s, s', y, h1, h2, h3, ws', wy, dy, ?_⟩
  intro p i q hp hi hq
  rw [ey p i q hp hi hq, es' p q hp hq, es (p ++ q) (valid_app hp hq), hel _ (valid_app hp (.cons hi hq))]
  show Scalar.div (Scalar.exp (x.el (p ++ i :: q))) _ = _
  congr 1
  apply sumOver_congr
  intro j hj
  rw [← hp.length_eq, insAt_split, hel _ (valid_app hp (.cons hj hq))]

/-- **Softmax along `dim`, any rank, any scalar domain (split form)**: input dims `P ++ n :: R`, `dim = P.length`. -/
theorem softmax_value_split_scalar (H : Heap α) (x : Nat) (hx : x < H.size) (hwf : (H.val x).WF) (P R : List Nat) (n : Nat)
    (hd : (H.val x).dims = P ++ n :: R) :
    ∃ r H', actForward (Activation.softmax P.length) [some x] H = .ok (r, H') ∧ Extends H H' ∧
      (H'.val r).dims = P ++ n :: R ∧ (H'.val r).WF ∧
      ∀ p i q, Valid P p → i < n → Valid R q →
        (H'.val r).el (p ++ i :: q)
          = Scalar.div (Scalar.exp ((H.val x).el (p ++ i :: q)))
              (sumOver n (fun j => Scalar.exp ((H.val x).el (p ++ j :: q)))) := by
  obtain ⟨sv, sv', yv, v1, v2, v3, wsv', wy, dy, ey⟩ := softmax_val_split (H.val x) hwf P R n hd
  -- e = x.Exp()
  obtain ⟨e, H1, h1⟩ := ran_hUnary .exp x H
  -- s = e.SumAlong(dim)
  obtain ⟨s, H2, h2⟩ := ran_hAlong .sum e (P.length : Int) H1 sv (by rw [h1.val]; exact v1)
  -- s = s.UnSqueeze(dim)
  obtain ⟨s', H3, h3⟩ := ran_hUnSqueeze s (P.length : Int) H2 sv' (by rw [h2.val]; exact v2)
  have he3 : H3.val e = vUnary .exp (H.val x) := by
    rw [h3.ext.val (Nat.lt_of_lt_of_le h1.lt h2.ext.1), h2.ext.val h1.lt, h1.val]
  -- e.Div(s)
  obtain ⟨r, H4, h4⟩ := ran_hArith_of_val .div e s' H3 (Nat.lt_of_lt_of_le (Nat.lt_of_lt_of_le h1.lt h2.ext.1) h3.ext.1) h3.lt
    (by rw [he3]; exact map_wf _ _ hwf) (by rw [h3.val]; exact wsv') yv (by rw [he3, h3.val]; exact v3)
  refine ⟨r, H4, ?_, ((h1.ext.trans h2.ext).trans h3.ext).trans h4.ext, by rw [h4.val]; exact dy,
    by rw [h4.val]; exact wy, by rw [h4.val]; exact ey⟩
  rw [C14.actForward_softmax, if_neg (by rw [hd]; simp), bind_run h1.run, bind_run h2.run, bind_run h3.run]
  exact h4.run

/-- **Softmax along the configured dim, every rank `≥ 1`, every valid `dim`, every scalar domain**: total
    correctness with the element formula in the scalar operations and summation order the code executes (so it is
    also the statement for a floating-point instance of `Scalar`). -/
theorem softmax_value_any_scalar (H : Heap α) (x dim : Nat) (hx : x < H.size) (hwf : (H.val x).WF)
    (hdim : dim < (H.val x).dims.length) :
    ∃ r H', actForward (Activation.softmax dim) [some x] H = .ok (r, H') ∧ Extends H H' ∧
      (H'.val r).dims = (H.val x).dims ∧ (H'.val r).WF ∧
      ∀ idx, Valid (H.val x).dims idx →
        (H'.val r).el idx = Scalar.div (Scalar.exp ((H.val x).el idx))
          (sumOver ((H.val x).dims.getD dim 0) (fun i => Scalar.exp ((H.val x).el (idx.set dim i)))) := by
  obtain ⟨hsp, hl⟩ := dims_split (H.val x).dims dim hdim
  obtain ⟨r, H', h1, h2, h3, h4, h5⟩ := softmax_value_split_scalar H x hx hwf _ _ _ hsp
  rw [hl] at h1
  refine ⟨r, H', h1, h2, by rw [h3, ← hsp], h4, ?_⟩
  intro idx hidx
  rw [hsp] at hidx
  obtain ⟨p, i, q, hi, hp, hin, hq⟩ := valid_split3 hidx
  have hpl : p.length = dim := by rw [hp.length_eq, hl]
  rw [hi, h5 p i q hp hin hq]
  congr 1
  apply sumOver_congr
  intro j _
  rw [← hpl, set_split]

end Scalar

/-- **Softmax along `dim`, any rank (split form, over `ℝ`)**: input dims `P ++ n :: R`, `dim = P.length`. -/
theorem softmax_value_split (H : Heap ℝ) (x : Nat) (hx : x < H.size) (hwf : (H.val x).WF) (P R : List Nat) (n : Nat)
    (hd : (H.val x).dims = P ++ n :: R) :
    ∃ r H', actForward (Activation.softmax P.length) [some x] H = .ok (r, H') ∧ Extends H H' ∧
      (H'.val r).dims = P ++ n :: R ∧ (H'.val r).WF ∧
      ∀ p i q, Valid P p → i < n → Valid R q →
        (H'.val r).el (p ++ i :: q)
          = Real.exp ((H.val x).el (p ++ i :: q)) / sumOver n (fun j => Real.exp ((H.val x).el (p ++ j :: q))) :=
  softmax_value_split_scalar H x hx hwf P R n hd

/-- **C14, Softmax along the configured dim — for every rank `≥ 1` and every valid `dim`**: the run succeeds, only
    allocates, the result has the input's dims and is well-formed, and at every valid (big-endian) multi-index
    `y[idx] = exp(x[idx]) / Σ_{i<n} exp(x[idx with position dim := i])`, `n = dims[dim]` (`sumOver` is the left fold
    the code performs; `softmax_value_any_sum` is the same with a `List.sum`). No max-shift in the code. -/
theorem softmax_value_any (H : Heap ℝ) (x dim : Nat) (hx : x < H.size) (hwf : (H.val x).WF)
    (hdim : dim < (H.val x).dims.length) :
    ∃ r H', actForward (Activation.softmax dim) [some x] H = .ok (r, H') ∧ Extends H H' ∧
      (H'.val r).dims = (H.val x).dims ∧ (H'.val r).WF ∧
      ∀ idx, Valid (H.val x).dims idx →
        (H'.val r).el idx = Real.exp ((H.val x).el idx) /
          sumOver ((H.val x).dims.getD dim 0) (fun i => Real.exp ((H.val x).el (idx.set dim i))) :=
  softmax_value_any_scalar H x dim hx hwf hdim

/-- the same with the denominator as an (unordered) real sum -/
theorem softmax_value_any_sum (H : Heap ℝ) (x dim : Nat) (hx : x < H.size) (hwf : (H.val x).WF)
    (hdim : dim < (H.val x).dims.length) :
    ∃ r H', actForward (Activation.softmax dim) [some x] H = .ok (r, H') ∧ Extends H H' ∧
      (H'.val r).dims = (H.val x).dims ∧ (H'.val r).WF ∧
      ∀ idx, Valid (H.val x).dims idx →
        (H'.val r).el idx = Real.exp ((H.val x).el idx) /
          ((List.range ((H.val x).dims.getD dim 0)).map (fun i => Real.exp ((H.val x).el (idx.set dim i)))).sum := by
  obtain ⟨r, H', h1, h2, h3, h4, h5⟩ := softmax_value_any H x dim hx hwf hdim
  refine ⟨r, H', h1, h2, h3, h4, ?_⟩
  intro idx hidx
  rw [h5 idx hidx, sumOver_real]

/-- `dim ≥ rank` is the layer's own error (checked before any tensor call) -/
theorem softmax_err_of_dim_ge (H : Heap ℝ) (x dim : Nat) (hdim : (H.val x).dims.length ≤ dim) :
    actForward (Activation.softmax dim) [some x] H = .err := by
  rw [C14.actForward_softmax, if_pos hdim]
  rfl

theorem valid_set : ∀ {ds idx : List Nat} (dim i : Nat), Valid ds idx → i < ds.getD dim 0 → Valid ds (idx.set dim i)
  | _, _, _, _, .nil, h => by simp [List.getD] at h
  | _, _, 0, i, .cons h0 hv, h => by
    simp only [List.set_cons_zero]
    exact .cons (by simpa [List.getD] using h) hv
  | _, _, dim + 1, i, .cons h0 hv, h => by
    simp only [List.set_cons_succ]
    exact .cons h0 (valid_set dim i hv (by simpa [List.getD] using h))

theorem valid_getD : ∀ {ds idx : List Nat} (dim : Nat), Valid ds idx → dim < ds.length → idx.getD dim 0 < ds.getD dim 0
  | _, _, _, .nil, h => by simp at h
  | _, _, 0, .cons h0 hv, _ => by simpa [List.getD] using h0
  | _, _, dim + 1, .cons h0 hv, h => by
    have := valid_getD dim hv (by simpa using h)
    simpa [List.getD] using this

theorem set_getD_self : ∀ (idx : List Nat) (dim : Nat), idx.set dim (idx.getD dim 0) = idx
  | [], _ => by simp
  | a :: idx, 0 => by simp [List.getD]
  | a :: idx, dim + 1 => by
    have := set_getD_self idx dim
    simp only [List.getD, List.getElem?_cons_succ, List.set_cons_succ] at this ⊢
    rw [this]

/-- **Softmax returns a point of the open-below simplex on every fibre along `dim`** (any rank, any valid dim): on
    the fibre through any valid index the `n = dims[dim]` outputs sum to 1, and every output lies in `(0, 1]`. -/
theorem softmax_simplex_any (H : Heap ℝ) (x dim : Nat) (hx : x < H.size) (hwf : (H.val x).WF)
    (hdim : dim < (H.val x).dims.length) :
    ∃ r H', actForward (Activation.softmax dim) [some x] H = .ok (r, H') ∧ Extends H H' ∧
      (H'.val r).dims = (H.val x).dims ∧ (H'.val r).WF ∧
      ∀ idx, Valid (H.val x).dims idx →
        ((List.range ((H.val x).dims.getD dim 0)).map (fun i => (H'.val r).el (idx.set dim i))).sum = 1 ∧
        (∀ i, i < (H.val x).dims.getD dim 0 → 0 < (H'.val r).el (idx.set dim i) ∧ (H'.val r).el (idx.set dim i) ≤ 1) ∧
        0 < (H'.val r).el idx ∧ (H'.val r).el idx ≤ 1 := by
  obtain ⟨r, H', h1, h2, h3, h4, h5⟩ := softmax_value_any_sum H x dim hx hwf hdim
  refine ⟨r, H', h1, h2, h3, h4, ?_⟩
  intro idx hidx
  have hn : 0 < (H.val x).dims.getD dim 0 := by
    have : (H.val x).dims.getD dim 0 = (H.val x).dims[dim] := by simp [List.getD, List.getElem?_eq_getElem hdim]
    rw [this]; exact hwf.2 _ (List.getElem_mem hdim)
  have hne : (List.range ((H.val x).dims.getD dim 0)).map (fun i => (H.val x).el (idx.set dim i)) ≠ [] := by
    intro h
    have := congrArg List.length h
    rw [List.length_map, List.length_range, List.length_nil] at this
    omega
  have hfib : ∀ i, i < (H.val x).dims.getD dim 0 → (H'.val r).el (idx.set dim i)
      = Real.exp ((H.val x).el (idx.set dim i)) /
        (((List.range ((H.val x).dims.getD dim 0)).map (fun i => (H.val x).el (idx.set dim i))).map Real.exp).sum := by
    intro i hi
    rw [h5 _ (valid_set dim i hidx hi), List.map_map]
    congr 2
    apply List.map_congr_left
    intro j _
    simp only [Function.comp, List.set_set]
  have hIoc : ∀ i, i < (H.val x).dims.getD dim 0 →
      0 < (H'.val r).el (idx.set dim i) ∧ (H'.val r).el (idx.set dim i) ≤ 1 := by
    intro i hi
    rw [hfib i hi]
    exact C12x.softmax_mem_Ioc _ _ (List.mem_map.mpr ⟨i, List.mem_range.mpr hi, rfl⟩)
  refine ⟨?_, hIoc, ?_⟩
  · have := C12x.softmax_sum_one _ hne
    rw [List.map_map] at this
    rw [← this]
    congr 1
    apply List.map_congr_left
    intro i hi
    exact hfib i (List.mem_range.mp hi)
  · have := hIoc (idx.getD dim 0) (valid_getD dim hidx hdim)
    rw [set_getD_self] at this
    exact this

/-- "whenever the run returns `ok`" form (the model is a function) -/
theorem softmax_value_any_of_ok (H H' : Heap ℝ) (x dim r : Nat) (hx : x < H.size) (hwf : (H.val x).WF)
    (hdim : dim < (H.val x).dims.length) (hrun : actForward (Activation.softmax dim) [some x] H = .ok (r, H')) :
    (H'.val r).dims = (H.val x).dims ∧
      ∀ idx, Valid (H.val x).dims idx →
        (H'.val r).el idx = Real.exp ((H.val x).el idx) /
          ((List.range ((H.val x).dims.getD dim 0)).map (fun i => Real.exp ((H.val x).el (idx.set dim i)))).sum := by
  obtain ⟨r0, H0, h1, _, h3, _, h5⟩ := softmax_value_any_sum H x dim hx hwf hdim
  obtain ⟨rfl, rfl⟩ := C12x.run_unique h1 hrun
  exact ⟨h3, h5⟩

section Along
variable {α : Type} [Scalar α]

theorem sliceDims_unitWin (st : List Nat) : sliceDims (unitWin st) = List.replicate st.length 1 := by
  induction st with
  | nil => rfl
  | cons s st ih =>
    simp only [unitWin, sliceDims, List.map_cons, List.length_cons, List.replicate_succ] at ih ⊢
    rw [ih]
    congr 1
    omega

/-- the window handed to the reducer has size `dims[dim]` at `dim` and 1 elsewhere -/
theorem sliceDims_window : ∀ (dim : Nat) (dims st : List Nat), st.length = dims.length → dim < dims.length →
    sliceDims (windowOf dim dims st) = List.replicate dim 1 ++ dims.getD dim 0 :: List.replicate (dims.length - 1 - dim) 1
  | _, [], _, _, h => by simp at h
  | _, _ :: _, [], h, _ => by simp at h
  | 0, d :: ds, s :: st, hl, _ => by
    have hl' : st.length = ds.length := Nat.succ.inj hl
    show d :: sliceDims (unitWin st) = _
    rw [sliceDims_unitWin, hl']
    rfl
  | dim + 1, d :: ds, s :: st, hl, hd => by
    have e : sliceDims (windowOf (dim + 1) (d :: ds) (s :: st)) = 1 :: sliceDims (windowOf dim ds st) := by
      simp only [windowOf, sliceDims, List.map_cons, Nat.add_sub_cancel_left]
    rw [e, sliceDims_window dim ds st (Nat.succ.inj hl) (Nat.lt_of_succ_lt_succ hd)]
    have e2 : (d :: ds).length - 1 - (dim + 1) = ds.length - 1 - dim := by simp only [List.length_cons]; omega
    rw [e2]
    rfl

theorem prod_replicate_one (k : Nat) : prod (List.replicate k 1) = 1 := by
  induction k with
  | zero => rfl
  | succ k ih => simp [List.replicate_succ, prod, ih]

theorem prod_window (k m n : Nat) : prod (List.replicate k 1 ++ n :: List.replicate m 1) = n := by
  rw [prod_append, prod_replicate_one]
  simp [prod, prod_replicate_one]

/-- every whole-tensor reducer depends on the dims only through the element count -/
theorem fn_dims_irrel (rd : Reducer) (d d' : List Nat) (data : List α) (h : prod d = prod d') :
    rd.fn (⟨d, data⟩ : Tensor α) = rd.fn ⟨d', data⟩ := by
  cases rd <;>
    simp only [Reducer.fn, Tensor.sum, Tensor.max, Tensor.min, Tensor.avg, Tensor.mean, Tensor.var, Tensor.std,
      Tensor.fold, Tensor.numElems, h] <;> rfl

theorem insLE_length (k v : Nat) (l : List Nat) (h : k ≤ l.length) : (insLE k v l).length = l.length + 1 := by
  rw [insLE_eq k v l h]
  simp only [List.length_append, List.length_cons, List.length_take, List.length_drop]
  omega

theorem reduceDim_at_wd (t : Tensor α) (hwf : t.WF) (dim : Nat) (hdim : dim < t.dims.length) (trf : Tensor α → α) :
    ∃ r, t.reduceDimRaw dim trf = some r ∧ r.dims = squeezeDims dim t.dims ∧ r.data.length = prod (squeezeDims dim t.dims) ∧
      ∀ u, Valid (squeezeDims dim t.dims) u →
        ∃ (fib : List α), fib.length = t.dims.getD dim 0 ∧
          (∀ i, i < t.dims.getD dim 0 → fib[i]? = t.at? (insAt dim i u) ∧ (fib[i]?).isSome) ∧
          r.at? u = some (trf ⟨List.replicate dim 1 ++ t.dims.getD dim 0 :: List.replicate (t.dims.length - 1 - dim) 1, fib⟩) := by
  obtain ⟨data', h1, h2, h3⟩ := reduceDim_spec t hwf dim hdim trf
  refine ⟨⟨squeezeDims dim t.dims, data'⟩, h1, rfl, h2, ?_⟩
  intro u hu
  have hposR : ∀ d ∈ t.dims.reverse, 0 < d := fun d hd => hwf.2 d (by simpa using hd)
  have hD : (squeezeDims dim t.dims).reverse = delLE (t.dims.length - 1 - dim) t.dims.reverse := squeeze_rev dim t.dims hdim
  have hposD : ∀ d ∈ delLE (t.dims.length - 1 - dim) t.dims.reverse, 0 < d := by
    rw [← hD]
    intro d hd
    have : d ∈ squeezeDims dim t.dims := by simpa using hd
    unfold squeezeDims at this
    rcases List.mem_append.mp this with h | h
    · exact hwf.2 d (List.mem_of_mem_take h)
    · exact hwf.2 d (List.mem_of_mem_drop h)
  have hvD : Valid (delLE (t.dims.length - 1 - dim) t.dims.reverse) u.reverse := by
    rw [← hD]; exact valid_reverse hu
  have hj : val (delLE (t.dims.length - 1 - dim) t.dims.reverse) u.reverse < prod (squeezeDims dim t.dims) := by
    have := val_lt hvD
    have e : prod (delLE (t.dims.length - 1 - dim) t.dims.reverse) = prod (squeezeDims dim t.dims) := by
      rw [← hD, prod_reverse]
    rw [e] at this
    exact this
  obtain ⟨fib, f1, f2, f3⟩ := h3 _ hj
  dsimp only at f2 f3
  rw [iter_val hposD hvD] at f2 f3
  have hul : u.length = t.dims.length - 1 := by
    have := hu.length_eq
    rw [this]; unfold squeezeDims; simp; omega
  have hset : ∀ i, ((insLE (t.dims.length - 1 - dim) 0 u.reverse).reverse).set dim i = insAt dim i u :=
    fun i => insLE_rev_set u dim _ i (by omega)
  have hstl : ((insLE (t.dims.length - 1 - dim) 0 u.reverse).reverse).length = t.dims.length := by
    rw [List.length_reverse, insLE_length _ _ _ (by rw [List.length_reverse]; omega), List.length_reverse]
    omega
  rw [sliceDims_window dim t.dims _ hstl hdim] at f3
  refine ⟨fib, f1, ?_, ?_⟩
  · intro i hi
    have := f2 i hi
    rw [hset i] at this
    exact this
  · have hv' : Valid (Tensor.dims ⟨squeezeDims dim t.dims, data'⟩).reverse u.reverse := by
      simp only []; rw [hD]; exact hvD
    have := Tensor.at?_reverse (⟨squeezeDims dim t.dims, data'⟩ : Tensor α) hv'
    rw [List.reverse_reverse] at this
    rw [this]
    simp only []
    rw [hD]
    exact f3

/-- **`…Along(dim)` for every reducer, any rank, any valid dim**: the call succeeds, drops `dim`, and the element at
    `u` is the whole-tensor reducer applied to the fibre `t[u with i inserted at dim]`, `i < n`, as a vector `[n]`
    (the code hands the reducer the `[1,…,n,…,1]` window; reducers see dims only through the element count). -/
theorem along_el (rd : Reducer) (t : Tensor α) (hwf : t.WF) (dim : Nat) (hdim : dim < t.dims.length) :
    ∃ r, vAlong rd t (dim : Int) = .ok r ∧ r.WF ∧ r.dims = squeezeDims dim t.dims ∧
      ∀ u, Valid (squeezeDims dim t.dims) u →
        r.el u = rd.fn ⟨[t.dims.getD dim 0], (List.range (t.dims.getD dim 0)).map (fun i => t.el (insAt dim i u))⟩ := by
  obtain ⟨r, h1, h2, h3, h4⟩ := reduceDim_at_wd t hwf dim hdim rd.fn
  have hvd : validDimLt (dim : Int) t.dims = true := by
    simp only [validDimLt, Bool.and_eq_true, decide_eq_true_eq]; omega
  refine ⟨r, ?_, ⟨by rw [h2]; exact h3, ?_⟩, h2, ?_⟩
  · simp [vAlong, vReduceDim, hvd, h1, Out.ofOpt]
  · rw [h2]
    intro d hd
    unfold squeezeDims at hd
    rcases List.mem_append.mp hd with h | h
    · exact hwf.2 d (List.mem_of_mem_take h)
    · exact hwf.2 d (List.mem_of_mem_drop h)
  · intro u hu
    obtain ⟨fib, f1, f2, f3⟩ := h4 u hu
    have hfib : fib = (List.range (t.dims.getD dim 0)).map (fun i => t.el (insAt dim i u)) := by
      apply List.ext_getElem?
      intro i
      by_cases hi : i < t.dims.getD dim 0
      · obtain ⟨e1, e2⟩ := f2 i hi
        rw [List.getElem?_map, List.getElem?_range hi]
        simp only [Option.map_some]
        rw [e1] at e2 ⊢
        unfold Tensor.el
        cases h : t.at? (insAt dim i u) with
        | none => rw [h] at e2; simp at e2
        | some v => rfl
      · rw [List.getElem?_eq_none (by omega), List.getElem?_eq_none (by rw [List.length_map, List.length_range]; omega)]
    rw [el_of_at? f3, hfib]
    apply fn_dims_irrel
    rw [prod_window]
    simp [prod]

/-- a reducer whose whole-tensor function is `Tensor.avg`: the fibre sum (left fold, as the code adds) divided by `n` -/
theorem avgLike_el (rd : Reducer) (hrd : ∀ w : Tensor α, rd.fn w = w.avg) (t : Tensor α) (hwf : t.WF) (dim : Nat)
    (hdim : dim < t.dims.length) :
    ∃ r, vAlong rd t (dim : Int) = .ok r ∧ r.WF ∧ r.dims = squeezeDims dim t.dims ∧
      ∀ u, Valid (squeezeDims dim t.dims) u →
        r.el u = Scalar.div (sumOver (t.dims.getD dim 0) (fun i => t.el (insAt dim i u))) (Scalar.ofNat (t.dims.getD dim 0)) := by
  obtain ⟨r, h1, h2, h3, h4⟩ := along_el rd t hwf dim hdim
  refine ⟨r, h1, h2, h3, ?_⟩
  intro u hu
  rw [h4 u hu, hrd]
  simp only [Tensor.avg, Tensor.sum, Tensor.fold, Tensor.numElems, prod, Nat.mul_one, sumOver]

/-- `MeanAlong(dim)` / `AvgAlong(dim)` -/
theorem meanAlong_el (t : Tensor α) (hwf : t.WF) (dim : Nat) (hdim : dim < t.dims.length) :
    ∃ r, vAlong .mean t (dim : Int) = .ok r ∧ r.WF ∧ r.dims = squeezeDims dim t.dims ∧
      ∀ u, Valid (squeezeDims dim t.dims) u →
        r.el u = Scalar.div (sumOver (t.dims.getD dim 0) (fun i => t.el (insAt dim i u))) (Scalar.ofNat (t.dims.getD dim 0)) :=
  avgLike_el .mean (fun _ => rfl) t hwf dim hdim

theorem avgAlong_el (t : Tensor α) (hwf : t.WF) (dim : Nat) (hdim : dim < t.dims.length) :
    ∃ r, vAlong .avg t (dim : Int) = .ok r ∧ r.WF ∧ r.dims = squeezeDims dim t.dims ∧
      ∀ u, Valid (squeezeDims dim t.dims) u →
        r.el u = Scalar.div (sumOver (t.dims.getD dim 0) (fun i => t.el (insAt dim i u))) (Scalar.ofNat (t.dims.getD dim 0)) :=
  avgLike_el .avg (fun _ => rfl) t hwf dim hdim

/-- `MaxAlong(dim)`: the running maximum over the fibre, started at the scalar domain's `negInf` (`-math.MaxFloat64`) -/
theorem maxAlong_el (t : Tensor α) (hwf : t.WF) (dim : Nat) (hdim : dim < t.dims.length) :
    ∃ r, vAlong .max t (dim : Int) = .ok r ∧ r.WF ∧ r.dims = squeezeDims dim t.dims ∧
      ∀ u, Valid (squeezeDims dim t.dims) u →
        r.el u = ((List.range (t.dims.getD dim 0)).map (fun i => t.el (insAt dim i u))).foldl
          (fun a b => if Scalar.gt a b then a else b) Scalar.negInf := by
  obtain ⟨r, h1, h2, h3, h4⟩ := along_el .max t hwf dim hdim
  refine ⟨r, h1, h2, h3, ?_⟩
  intro u hu
  rw [h4 u hu]
  rfl

/-- `MinAlong(dim)`: the running minimum over the fibre, started at `posInf` -/
theorem minAlong_el (t : Tensor α) (hwf : t.WF) (dim : Nat) (hdim : dim < t.dims.length) :
    ∃ r, vAlong .min t (dim : Int) = .ok r ∧ r.WF ∧ r.dims = squeezeDims dim t.dims ∧
      ∀ u, Valid (squeezeDims dim t.dims) u →
        r.el u = ((List.range (t.dims.getD dim 0)).map (fun i => t.el (insAt dim i u))).foldl
          (fun a b => if Scalar.lt a b then a else b) Scalar.posInf := by
  obtain ⟨r, h1, h2, h3, h4⟩ := along_el .min t hwf dim hdim
  refine ⟨r, h1, h2, h3, ?_⟩
  intro u hu
  rw [h4 u hu]
  rfl

/-- `VarAlong(dim)` / `StdAlong(dim)`: the (Bessel-corrected) variance / its square root of the fibre as a vector -/
theorem varAlong_el (t : Tensor α) (hwf : t.WF) (dim : Nat) (hdim : dim < t.dims.length) :
    ∃ r, vAlong .var t (dim : Int) = .ok r ∧ r.WF ∧ r.dims = squeezeDims dim t.dims ∧
      ∀ u, Valid (squeezeDims dim t.dims) u →
        r.el u = Tensor.var ⟨[t.dims.getD dim 0], (List.range (t.dims.getD dim 0)).map (fun i => t.el (insAt dim i u))⟩ :=
  along_el .var t hwf dim hdim

theorem stdAlong_el (t : Tensor α) (hwf : t.WF) (dim : Nat) (hdim : dim < t.dims.length) :
    ∃ r, vAlong .std t (dim : Int) = .ok r ∧ r.WF ∧ r.dims = squeezeDims dim t.dims ∧
      ∀ u, Valid (squeezeDims dim t.dims) u →
        r.el u = Scalar.sqrt (Tensor.var ⟨[t.dims.getD dim 0], (List.range (t.dims.getD dim 0)).map (fun i => t.el (insAt dim i u))⟩) :=
  along_el .std t hwf dim hdim

/-- the public `…Along(dim)` call on the heap (with its gradient context): total for `dim < rank`, same element formula -/
theorem hAlong_el (rd : Reducer) (H : Heap α) (x dim : Nat) (hwf : (H.val x).WF) (hdim : dim < (H.val x).dims.length) :
    ∃ r H', hAlong rd x (dim : Int) H = .ok (r, H') ∧ Extends H H' ∧ (H'.val r).WF ∧
      (H'.val r).dims = squeezeDims dim (H.val x).dims ∧
      ∀ u, Valid (squeezeDims dim (H.val x).dims) u →
        (H'.val r).el u = rd.fn ⟨[(H.val x).dims.getD dim 0],
          (List.range ((H.val x).dims.getD dim 0)).map (fun i => (H.val x).el (insAt dim i u))⟩ := by
  obtain ⟨v, h1, h2, h3, h4⟩ := along_el rd (H.val x) hwf dim hdim
  obtain ⟨r, H', hr⟩ := ran_hAlong rd x (dim : Int) H v h1
  exact ⟨r, H', hr.run, hr.ext, by rw [hr.val]; exact h2, by rw [hr.val]; exact h3, by rw [hr.val]; exact h4⟩

/-- `dim ≥ rank` (or negative) is the validator's error, for every reducer -/
theorem vAlong_err_of_dim_ge (rd : Reducer) (t : Tensor α) (dim : Nat) (h : t.dims.length ≤ dim) :
    vAlong rd t (dim : Int) = .err := by
  have hvd : validDimLt (dim : Int) t.dims = false := by
    simp only [validDimLt, Bool.and_eq_false_iff, decide_eq_false_iff_not]; omega
  simp [vAlong, vReduceDim, hvd]

end Along

/-- `MeanAlong(dim)` over `ℝ`: the arithmetic mean of the fibre -/
theorem meanAlong_el_real (t : Tensor ℝ) (hwf : t.WF) (dim : Nat) (hdim : dim < t.dims.length) :
    ∃ r, vAlong .mean t (dim : Int) = .ok r ∧ r.WF ∧ r.dims = squeezeDims dim t.dims ∧
      ∀ u, Valid (squeezeDims dim t.dims) u →
        r.el u = ((List.range (t.dims.getD dim 0)).map (fun i => t.el (insAt dim i u))).sum / (t.dims.getD dim 0 : ℝ) := by
  obtain ⟨r, h1, h2, h3, h4⟩ := meanAlong_el t hwf dim hdim
  refine ⟨r, h1, h2, h3, ?_⟩
  intro u hu
  rw [h4 u hu, sumOver_real]
  rfl

/-- `SumAlong(dim)` over `ℝ`: the (unordered) sum of the fibre -/
theorem sumAlong_el_real (t : Tensor ℝ) (hwf : t.WF) (dim : Nat) (hdim : dim < t.dims.length) :
    ∃ r, vAlong .sum t (dim : Int) = .ok r ∧ r.WF ∧ r.dims = squeezeDims dim t.dims ∧
      ∀ u, Valid (squeezeDims dim t.dims) u →
        r.el u = ((List.range (t.dims.getD dim 0)).map (fun i => t.el (insAt dim i u))).sum := by
  obtain ⟨r, h1, h2, h3, h4⟩ := sumAlong_el t hwf dim hdim
  refine ⟨r, h1, h2, h3, ?_⟩
  intro u hu
  rw [h4 u hu, sumOver_real]

/-- a well-formed rank-3 input in a heap, with valid `dim = 1` and a valid index -/
example : ∃ H : Heap ℝ, 0 < H.size ∧ (H.val 0).WF ∧ (H.val 0).dims = [2, 3, 2] ∧ 1 < (H.val 0).dims.length ∧
    Valid (H.val 0).dims [1, 2, 0] ∧ ([1, 2, 0] : List Nat).set 1 0 = [1, 0, 0] ∧ (H.val 0).dims.getD 1 0 = 3 :=
  ⟨#[⟨⟨[2, 3, 2], [1, 2, 3, 4, 5, 6, 7, 8, 9, 10, 11, 12]⟩, {}⟩], Nat.one_pos, ⟨rfl, by decide⟩, rfl, Nat.one_lt_succ_succ 1,
    .cons Nat.one_lt_two (.cons (Nat.lt_succ_self 2) (.cons Nat.zero_lt_two .nil)), rfl, rfl⟩

end C14y
end Qeep
