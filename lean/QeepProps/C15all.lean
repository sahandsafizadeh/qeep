import QeepProps.C15y
import QeepProps.C15z
import QeepProps.C15w
import QeepProps.C15v
import QeepProps.C15u
import QeepProps.C15t
/-! Every module with a theorem of property C15; the check of C15 builds this module (`lake build QeepProps.C15all`) and
then prints the axioms of each theorem (`work/audit_C15.lean`). -/
