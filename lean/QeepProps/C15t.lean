import QeepProps.C15u
/-!
# C15 — every back edge of the Sigmoid graph accepts a gradient of the input's shape (either mode)

`sg_edge_ok`: the per-edge premise of the progress theorem `C01p.backprop_ok` for the seven-tensor Sigmoid graph, wherever it
sits in a network: each rule, evaluated on ANY well-formed gradient of the input's shape, returns one of that shape.
-/
set_option linter.unusedSectionVars false

namespace Qeep
namespace C15t
open RealScalar C15x C15z C15u C01 C01w Block

theorem sg_edge_ok (bm : BMode) (H2 : Heap ℝ) (x k : Nat) (wX : (H2.val x).WF)
    (v2 : H2.val (k + 2) = (H2.val x).map (fun a => Real.exp (-a)))
    (v3 : H2.val (k + 3) = H2.val k) (v4 : H2.val (k + 4) = H2.val (k + 2))
    (v5 : H2.val (k + 5) = (H2.val x).map (fun a => 1 + Real.exp (-a)))
    (i : Nat) (hi : i ≤ 6) (e : Edge ℝ) (he : e ∈ sgEdges x k i) (gy : Tensor ℝ) (hgy : Shaped (H2.val x).dims gy) :
    ∃ g', evalRule bm H2 gy e.rule = .ok g' ∧ Shaped (H2.val x).dims g' := by
  obtain ⟨r0, r1, r2, r3, r4, r5, r6⟩ := sigRules bm H2 x k wX rfl v2 v3 v4 v5
  interval_cases i
  · exact r0.accepts wX.1 (k := k) (ins := [x]) he gy hgy
  · exact r1.accepts wX.1 (k := k) (ins := [x]) he gy hgy
  · exact r2.accepts wX.1 (k := k) (ins := [x]) he gy hgy
  · exact r3.accepts wX.1 (k := k) (ins := [x]) he gy hgy
  · exact r4.accepts wX.1 (k := k) (ins := [x]) he gy hgy
  · exact r5.accepts wX.1 (k := k) (ins := [x]) he gy hgy
  · exact r6.accepts wX.1 (k := k) (ins := [x]) he gy hgy

end C15t
end Qeep
