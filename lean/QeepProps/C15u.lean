import QeepProps.C15v
/-!
# C15 — Sigmoid inside a walk

`sigmoid_in_walk`: in ANY heap that contains the seven-tensor graph `Sigmoid.Forward(x)` builds at base id `k`, for a successful
walk from any root outside the layer that leaves `G` on the layer's result and reaches `x` through the layer only:
`x.Gradient() = G ⊙ σ(x)(1 − σ(x))` — the vector–Jacobian product with the upstream gradient, whatever produced it (a loss,
further layers). `sigmoid_backprop` (C15z) is the case "root = the result, `G` = ones".
-/
set_option linter.unusedSectionVars false

namespace Qeep
namespace C15u
open RealScalar C15x C15z C01 C01x C01z C01w Block

/-- the back edges of the seven tensors of the Sigmoid graph (tensor `k + i`) -/
def sgEdges (x k : Nat) : Nat → List (Edge ℝ)
  | 0 => [⟨x, .powX x 0⟩]
  | 1 => [⟨x, .scaleX (-1)⟩]
  | 2 => [⟨k + 1, .expX (k + 2)⟩]
  | 3 => [⟨k, .bcastX k (k + 3)⟩]
  | 4 => [⟨k + 2, .bcastX (k + 2) (k + 4)⟩]
  | 5 => [⟨k + 3, .idG⟩, ⟨k + 4, .idG⟩]
  | 6 => [⟨k + 5, .powX (k + 5) (-1)⟩]
  | _ => []

theorem sgEdges_target {x k i : Nat} (hi : i ≤ 6) {e : Edge ℝ} (he : e ∈ sgEdges x k i) :
    e.target = x ∨ (k ≤ e.target ∧ e.target < k + i) := by
  interval_cases i <;> simp [sgEdges] at he <;> rcases he with rfl | rfl <;> simp

theorem sigmoid_in_walk (bm : BMode) (H2 : Heap ℝ) (root x k : Nat)
    (hdag : HeapDag H2) (htr : H2.tracked root = true) (hok : (backprop bm H2 root).status = .ok ())
    (wX : (H2.val x).WF) (hxk : x < k)
    (v2 : H2.val (k + 2) = (H2.val x).map (fun a => Real.exp (-a)))
    (v3 : H2.val (k + 3) = H2.val k) (v4 : H2.val (k + 4) = H2.val (k + 2))
    (v5 : H2.val (k + 5) = (H2.val x).map (fun a => 1 + Real.exp (-a)))
    (hc : ∀ i, i ≤ 6 → H2.ctx (k + i) = liveCtx (sgEdges x k i))
    (tx : H2.tracked x = true) (gx : H2.grad x = none)
    (hroot1 : root ≠ x) (hroot2 : ∀ i, i ≤ 5 → root ≠ k + i)
    (hsole : ∀ v ∈ backwardOrder H2 root, (v < k ∨ k + 6 < v) → ∀ e ∈ (H2.ctx v).edges,
      e.target ≠ x ∧ ¬ (k ≤ e.target ∧ e.target ≤ k + 5))
    (G : Tensor ℝ) (wG : G.WF) (dG : G.dims = (H2.val x).dims)
    (hy : k + 6 ∈ backwardOrder H2 root) (f6' : (backprop bm H2 root).heap.grad (k + 6) = some G) :
    (backprop bm H2 root).heap.grad x = some (gz G (H2.val x) (fun a => sig a * (1 - sig a))) := by
  have D := sigDiag bm H2 root x k wX rfl hxk v2 v3 v4 v5 (hc 0 (by decide)) (hc 1 (by decide)) (hc 2 (by decide))
    (hc 3 (by decide)) (hc 4 (by decide)) (hc 5 (by decide)) (hc 6 (by decide))
  refine (D.grad_inp hdag htr hok (sigTable_shape x k) rfl
    (fun i hi => ⟨(liveCtx_grad H2 _ _ (hc i (by rw [sigTable_length] at hi; omega))).1,
      (hroot2 i (by rw [sigTable_length] at hi; omega)).symm⟩)
    (fun v hv hb e he h => (hsole v hv (by rw [sigTable_length] at hb; omega) e he).2
      (by rw [sigTable_length] at h; omega))
    ⟨wG, dG⟩ hy f6' 0 Nat.zero_lt_one tx gx hroot1.symm
    (fun v hv hb e he => (hsole v hv (by rw [sigTable_length] at hb; omega) e he).1) rfl).2.trans ?_
  rw [sig_adj D]
  rfl

end C15u
end Qeep
