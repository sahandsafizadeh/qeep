import QeepProps.C15z
import QeepProps.C01q
import QeepProps.C16z
import Mathlib.Tactic.IntervalCases
/-!
# C15 — Softmax (rank 1, `Dim = 0`) inside a walk

`softmax_full`: the six tensors `Softmax.Forward` allocates on a heap of size `N` are `N … N+5` (`softmax_graph` with the
identities). `softmax_in_walk`: in ANY heap containing that graph, for a successful walk from any root outside the layer that
leaves `G` on the layer's result, with nothing outside the layer consuming its internal tensors or `x` — `x.Gradient()` is
`s_j·(G_j − bfac·Σ_i G_i s_i)`: the vector–Jacobian product in `sum` mode, the tree's (finding D2) `1/n`-weighted variant
in `mean` mode.
-/
set_option linter.unusedSectionVars false
set_option linter.unusedVariables false

namespace Qeep
namespace C15v
open RealScalar C15x C15z C01 C01x C01z C01w Block

/-- `C15x.softmax_chain` with the shapes of the intermediate gradients (`C15x.softmax_chain_wf`, in terms of `Shaped`) -/
theorem softmax_chain_shapes (bm : BMode) (H : Heap ℝ) (x e s s' e' s'' : Nat) (n : Nat) (G : Tensor ℝ)
    (dX : (H.val x).dims = [n])
    (he : H.val e = (H.val x).map Real.exp) (hs : (H.val s).dims = []) (hs' : (H.val s').dims = [1])
    (he' : H.val e' = H.val e) (hs'' : H.val s'' = ⟨[n], List.replicate n (C15x.expSum (H.val x))⟩)
    (wX : (H.val x).WF) (wG : G.WF) (hd : G.dims = [n]) :
    ∃ ga gb g1 g2 ce1 ce2 ge,
      evalRule bm H G (.divA s'') = .ok ga ∧
      evalRule bm H G (.divB e' s'') = .ok gb ∧
      evalRule bm H gb (.bcastX s' s'') = .ok g1 ∧
      evalRule bm H g1 (.reshapeX s) = .ok g2 ∧
      evalRule bm H g2 (.sumAlongX e 0) = .ok ce1 ∧
      evalRule bm H ga (.bcastX e e') = .ok ce2 ∧
      vArith .add ce1 ce2 = .ok ge ∧
      evalRule bm H ge (.expX e) = .ok ⟨[n], List.zipWith (fun g a => smax (H.val x) a * (g - bfac bm n * sdot G (H.val x)))
        G.data (H.val x).data⟩ ∧
      Shaped [n] ga ∧ Shaped [1] g1 ∧ Shaped [] g2 ∧ Shaped [n] gb ∧ Shaped [n] ce1 ∧ Shaped [n] ce2 ∧ Shaped [n] ge :=
  C15x.softmax_chain_wf bm H x e s s' e' s'' n G dX he hs hs' he' hs'' wX wG hd

theorem liveCtx_inj {a b : List (Edge ℝ)} (h : liveCtx a = liveCtx b) : a = b := by
  unfold liveCtx at h
  injection h

/-- **the Softmax graph with the identities of its tensors** -/
theorem softmax_full (bm : BMode) (H : Heap ℝ) (x n : Nat) (hR : Reach bm H) (hwf : (H.val x).WF)
    (dX : (H.val x).dims = [n]) (l : Live H x) :
    ∃ H', actForward (Activation.softmax 0) [some x] H = .ok (H.size + 5, H') ∧ Extends H H' ∧ Reach bm H' ∧
      H'.size = H.size + 6 ∧ H'.val x = H.val x ∧
      H'.val H.size = (H.val x).map Real.exp ∧ (H'.val (H.size + 1)).dims = [] ∧ (H'.val (H.size + 2)).dims = [1] ∧
      H'.val (H.size + 3) = H'.val H.size ∧ H'.val (H.size + 4) = ⟨[n], List.replicate n (C15x.expSum (H.val x))⟩ ∧
      H'.val (H.size + 5) = (H.val x).map (smax (H.val x)) ∧
      H'.ctx H.size = liveCtx [⟨x, .expX H.size⟩] ∧
      H'.ctx (H.size + 1) = liveCtx [⟨H.size, .sumAlongX H.size 0⟩] ∧
      H'.ctx (H.size + 2) = liveCtx [⟨H.size + 1, .reshapeX (H.size + 1)⟩] ∧
      H'.ctx (H.size + 3) = liveCtx [⟨H.size, .bcastX H.size (H.size + 3)⟩] ∧
      H'.ctx (H.size + 4) = liveCtx [⟨H.size + 2, .bcastX (H.size + 2) (H.size + 4)⟩] ∧
      H'.ctx (H.size + 5) = liveCtx [⟨H.size + 3, .divA (H.size + 4)⟩, ⟨H.size + 4, .divB (H.size + 3) (H.size + 4)⟩] := by
  obtain ⟨e, s, s', e', s'', r, H', hrun, hext, hx, he, hs, hs', he', hs'', hr, ce, cs, cs', ce', cs'', cr⟩ :=
    softmax_graph H x n hwf dX l
  -- the same run, step by step, for the identities and reachability
  have h := hrun
  unfold actForward at h
  rw [bind_run (show (liftOut (oneInput [some x]) : HM ℝ Nat) H = .ok (x, H) from rfl)] at h
  simp only [] at h
  rw [bind_run (show (getHeap : HM ℝ (Heap ℝ)) H = .ok (H, H) from rfl)] at h
  rw [if_neg (by rw [dX]; simp)] at h
  obtain ⟨e0, H1, g1, h⟩ := bind_ok h
  obtain ⟨_, x1, _, le0⟩ := hUnary_live g1 l
  obtain ⟨ie, z1⟩ := hUnary_id g1
  obtain ⟨s0, H2, g2, h⟩ := bind_ok h
  obtain ⟨_, x2, _, ls0⟩ := hAlong_live g2 le0
  obtain ⟨is, z2⟩ := hAlong_id g2
  obtain ⟨s1, H3, g3, g4⟩ := bind_ok h
  obtain ⟨_, x3, _, ls1⟩ := hUnSqueeze_live g3 ls0
  obtain ⟨is1, z3⟩ := hUnSqueeze_id g3
  have le3 : Live H3 e0 := (le0.ext x2).ext x3
  obtain ⟨a', b', ia, ib, ir, z4, x4, _, _, _, ca, cb, crr, la, lb, lr⟩ := hArith_live_id g4 le3 ls1
  have R1 : Reach bm H1 := Reach.unary hR l.1 g1
  have R2 : Reach bm H2 := Reach.along R1 le0.1 g2
  have R3 : Reach bm H3 := Reach.unsqueeze R2 ls0.1 g3
  have R4 : Reach bm H' := Reach.arith R3 le3.1 ls1.1 g4
  -- link the tensors of `softmax_graph` to the identities through the contexts
  have k1 : liveCtx (α := ℝ) [⟨e', Rule.divA s''⟩, ⟨s'', Rule.divB e' s''⟩] = liveCtx (arithEdges .div a' b') := by rw [← cr, crr]
  have k1' := liveCtx_inj k1
  simp only [arithEdges, List.cons.injEq, Edge.mk.injEq, and_true] at k1'
  obtain ⟨⟨q1, _⟩, ⟨q2, _⟩⟩ := k1'
  subst q1 q2
  have k2 := liveCtx_inj (by rw [← cs'', cb] : liveCtx (α := ℝ) [⟨s', Rule.bcastX s' s''⟩] = liveCtx [⟨s1, Rule.bcastX s1 s''⟩])
  simp only [List.cons.injEq, Edge.mk.injEq, and_true] at k2
  obtain ⟨q3, _⟩ := k2
  subst q3
  have k3 := liveCtx_inj (by rw [← ce', ca] : liveCtx (α := ℝ) [⟨e, Rule.bcastX e e'⟩] = liveCtx [⟨e0, Rule.bcastX e0 e'⟩])
  simp only [List.cons.injEq, Edge.mk.injEq, and_true] at k3
  obtain ⟨q4, _⟩ := k3
  subst q4
  obtain ⟨_, _, cs1, _⟩ := hUnSqueeze_live g3 ls0
  have k4 := liveCtx_inj (by rw [← cs', x4.ctx ls1.1, cs1] : liveCtx (α := ℝ) [⟨s, Rule.reshapeX s⟩] = liveCtx [⟨s0, Rule.reshapeX s0⟩])
  simp only [List.cons.injEq, Edge.mk.injEq, and_true] at k4
  obtain ⟨q5, _⟩ := k4
  subst q5
  have i1 : e = H.size := ie
  have i2 : s = H.size + 1 := by rw [is, z1]
  have i3 : s' = H.size + 2 := by rw [is1, z2, z1]
  have i4 : e' = H.size + 3 := by rw [ia, z3, z2, z1]
  have i5 : s'' = H.size + 4 := by rw [ib, z3, z2, z1]
  have i6 : r = H.size + 5 := by rw [ir, z3, z2, z1]
  subst i1 i2 i3 i4 i5 i6
  exact ⟨H', hrun, hext, R4, by rw [z4, z3, z2, z1], hx, he, hs, hs', he', hs'', hr, ce, cs, cs', ce', cs'', cr⟩

/-- the back edges of the six tensors of the Softmax graph (tensor `k + i`) -/
def smEdges (x k : Nat) : Nat → List (Edge ℝ)
  | 0 => [⟨x, .expX k⟩]
  | 1 => [⟨k, .sumAlongX k 0⟩]
  | 2 => [⟨k + 1, .reshapeX (k + 1)⟩]
  | 3 => [⟨k, .bcastX k (k + 3)⟩]
  | 4 => [⟨k + 2, .bcastX (k + 2) (k + 4)⟩]
  | 5 => [⟨k + 3, .divA (k + 4)⟩, ⟨k + 4, .divB (k + 3) (k + 4)⟩]
  | _ => []

/-- who points at whom among the six tensors -/
def smShape : Table := [some [.inp 0], some [.loc 0], some [.loc 1], some [.loc 0], some [.loc 2], some [.loc 3, .loc 4]]

/-- six tensors with the contexts of the Softmax graph form a block over `x` -/
theorem smShape_holds (H2 : Heap ℝ) (x k : Nat) (hxk : x < k)
    (hc : ∀ i, i ≤ 5 → H2.ctx (k + i) = liveCtx (smEdges x k i)) : Shape H2 k [x] smShape :=
  have row : ∀ i (hi : i ≤ 5), H2.tracked (k + i) = true ∧
      (H2.ctx (k + i)).edges.map (·.target) = (smEdges x k i).map (·.target) := fun i hi =>
    ⟨(liveCtx_grad H2 _ _ (hc i hi)).2.1, congrArg _ (liveCtx_grad H2 _ _ (hc i hi)).2.2⟩
  Shape.of (tracked_lt_size H2 _ (row 5 (by decide)).1) (by simpa using hxk) (by simp) rfl
    ⟨row 0 (by decide), row 1 (by decide), row 2 (by decide), row 3 (by decide), row 4 (by decide), row 5 (by decide),
      trivial⟩

/-- **Softmax inside ANY walk** (either mode; see the header), the condition on outside consumers asked of the visited
    tensors only -/
theorem softmax_walk (bm : BMode) (H2 : Heap ℝ) (root x k n : Nat)
    (hdag : HeapDag H2) (htr : H2.tracked root = true) (hok : (backprop bm H2 root).status = .ok ())
    (wX : (H2.val x).WF) (dX : (H2.val x).dims = [n]) (hxk : x < k)
    (he : H2.val k = (H2.val x).map Real.exp) (hs : (H2.val (k + 1)).dims = []) (hs' : (H2.val (k + 2)).dims = [1])
    (he' : H2.val (k + 3) = H2.val k) (hs'' : H2.val (k + 4) = ⟨[n], List.replicate n (C15x.expSum (H2.val x))⟩)
    (hc : ∀ i, i ≤ 5 → H2.ctx (k + i) = liveCtx (smEdges x k i))
    (tx : H2.tracked x = true) (gx : H2.grad x = none)
    (hroot1 : root ≠ x) (hroot2 : ∀ i, i ≤ 4 → root ≠ k + i)
    (hsole : ∀ v ∈ backwardOrder H2 root, (v < k ∨ k + 5 < v) → ∀ e ∈ (H2.ctx v).edges, e.target ≠ x ∧ ¬ (k ≤ e.target ∧ e.target ≤ k + 4))
    (G : Tensor ℝ) (wG : G.WF) (dG : G.dims = [n])
    (hy : k + 5 ∈ backwardOrder H2 root) (f5 : (backprop bm H2 root).heap.grad (k + 5) = some G) :
    (backprop bm H2 root).heap.grad x
      = some ⟨[n], List.zipWith (fun g a => smax (H2.val x) a * (g - bfac bm n * sdot G (H2.val x))) G.data (H2.val x).data⟩ := by
  obtain ⟨g0, t0, e0⟩ := liveCtx_grad H2 _ _ (hc 0 (by decide))
  obtain ⟨g1', t1, e1⟩ := liveCtx_grad H2 _ _ (hc 1 (by decide))
  obtain ⟨g2', t2, e2⟩ := liveCtx_grad H2 _ _ (hc 2 (by decide))
  obtain ⟨g3, t3, e3⟩ := liveCtx_grad H2 _ _ (hc 3 (by decide))
  obtain ⟨g4, t4, e4⟩ := liveCtx_grad H2 _ _ (hc 4 (by decide))
  obtain ⟨_, t5, e5⟩ := liveCtx_grad H2 _ _ (hc 5 (by decide))
  simp only [smEdges, Nat.add_zero] at e0 e1 e2 e3 e4 e5 g0 t0
  have B := smShape_holds H2 x k hxk hc
  have hlen : smShape.length = 6 := rfl
  -- nothing outside the block points at its inner tensors or at `x`
  have hout : ∀ j, j ≤ 4 → ∀ v ∈ backwardOrder H2 root, (v < k ∨ k + smShape.length ≤ v) → ∀ e ∈ (H2.ctx v).edges,
      e.target ≠ k + j := fun j hj v hv hb e hev h => (hsole v hv (by omega) e hev).2 (by omega)
  have houtx : ∀ v ∈ backwardOrder H2 root, (v < k ∨ k + smShape.length ≤ v) → ∀ e ∈ (H2.ctx v).edges, e.target ≠ x :=
    fun v hv hb e hev => (hsole v hv (by omega) e hev).1
  have mem_of {u : Nat} (hu : u ∈ backwardOrder H2 root) (e : Edge ℝ) (hev : e ∈ (H2.ctx u).edges)
      (hv : H2.tracked e.target = true) : e.target ∈ backwardOrder H2 root := C01.order_closed hdag hu hev hv
  have m3 := mem_of hy ⟨k + 3, .divA (k + 4)⟩ (by rw [e5]; simp) t3
  have m4 := mem_of hy ⟨k + 4, .divB (k + 3) (k + 4)⟩ (by rw [e5]; simp) t4
  have m2 := mem_of m4 ⟨k + 2, .bcastX (k + 2) (k + 4)⟩ (by rw [e4]; simp) t2
  have m1 := mem_of m2 ⟨k + 1, .reshapeX (k + 1)⟩ (by rw [e2]; simp) t1
  have m0 := mem_of m1 ⟨k, .sumAlongX k 0⟩ (by rw [e1]; simp) t0
  have hcg : ∀ gy r, evalRule bm (markDirty H2 (backwardOrder H2 root)) gy r = evalRule bm H2 gy r :=
    fun gy r => C16z.evalRule_val_congr bm _ H2 (fun n => markDirty_val _ _ n) gy r
  obtain ⟨ga, gb, g1, g2, ce1, ce2, ge, q1, q2, q3, q4, q5, q6, q7, q8, sa, _, _, _, sc1, sc2, _⟩ :=
    softmax_chain_shapes bm H2 x k (k + 1) (k + 2) (k + 3) (k + 4) n G dX he hs hs' he' hs'' wX wG dG
  have f3 : (backprop bm H2 root).heap.grad (k + 3) = some ga :=
    grad_single' bm H2 root hdag htr hok (k + 3) (k + 5) hy (hroot2 3 (by decide)).symm g3 t3 (.divA (k + 4))
      (by rw [e5]; simp) (B.no_other1 root htr (.loc 3) (i0 := 5) rfl (hout 3 (by decide)) rfl) G ga f5
      (by rw [hcg]; exact q1)
  have f4 : (backprop bm H2 root).heap.grad (k + 4) = some gb :=
    grad_single' bm H2 root hdag htr hok (k + 4) (k + 5) hy (hroot2 4 (by decide)).symm g4 t4 (.divB (k + 3) (k + 4))
      (by rw [e5]; simp) (B.no_other1 root htr (.loc 4) (i0 := 5) rfl (hout 4 (by decide)) rfl) G gb f5
      (by rw [hcg]; exact q2)
  have f2 : (backprop bm H2 root).heap.grad (k + 2) = some g1 :=
    grad_single' bm H2 root hdag htr hok (k + 2) (k + 4) m4 (hroot2 2 (by decide)).symm g2' t2 (.bcastX (k + 2) (k + 4))
      (by rw [e4]; simp) (B.no_other1 root htr (.loc 2) (i0 := 5) rfl (hout 2 (by decide)) rfl) gb g1 f4
      (by rw [hcg]; exact q3)
  have f1 : (backprop bm H2 root).heap.grad (k + 1) = some g2 :=
    grad_single' bm H2 root hdag htr hok (k + 1) (k + 2) m2 (hroot2 1 (by decide)).symm g1' t1 (.reshapeX (k + 1))
      (by rw [e2]; simp) (B.no_other1 root htr (.loc 1) (i0 := 5) rfl (hout 1 (by decide)) rfl) g1 g2 f2
      (by rw [hcg]; exact q4)
  have f0 : (backprop bm H2 root).heap.grad k = some ge :=
    grad_two bm H2 root hdag htr hok k (k + 1) (k + 3) m1 m3 (by omega) (hroot2 0 (by decide)).symm g0 t0
      (.sumAlongX k 0) (.bcastX k (k + 3)) (by rw [e1]; simp) (by rw [e3]; simp)
      (B.no_other2 root htr (.loc 0) (i0 := 5) rfl (hout 0 (by decide)) rfl)
      g2 ce1 ga ce2 ge f1 f3 (by rw [hcg]; exact q5) (by rw [hcg]; exact q6) [n] sc1 sc2 q7
  exact grad_single' bm H2 root hdag htr hok x k m0 hroot1.symm gx tx (.expX k)
    (by rw [e0]; simp) (B.no_other1 root htr (.inp 0) (i0 := 0) rfl houtx (i := 0) rfl) ge _ f0
    (by rw [hcg]; exact q8)

/-- `softmax_walk` with the condition asked of every tensor of the heap -/
theorem softmax_in_walk (bm : BMode) (H2 : Heap ℝ) (root x k n : Nat)
    (hdag : HeapDag H2) (htr : H2.tracked root = true) (hok : (backprop bm H2 root).status = .ok ())
    (wX : (H2.val x).WF) (dX : (H2.val x).dims = [n]) (hxk : x < k)
    (he : H2.val k = (H2.val x).map Real.exp) (hs : (H2.val (k + 1)).dims = []) (hs' : (H2.val (k + 2)).dims = [1])
    (he' : H2.val (k + 3) = H2.val k) (hs'' : H2.val (k + 4) = ⟨[n], List.replicate n (C15x.expSum (H2.val x))⟩)
    (hc : ∀ i, i ≤ 5 → H2.ctx (k + i) = liveCtx (smEdges x k i))
    (tx : H2.tracked x = true) (gx : H2.grad x = none)
    (hroot1 : root ≠ x) (hroot2 : ∀ i, i ≤ 4 → root ≠ k + i)
    (hsole : ∀ v, (v < k ∨ k + 5 < v) → ∀ e ∈ (H2.ctx v).edges, e.target ≠ x ∧ ¬ (k ≤ e.target ∧ e.target ≤ k + 4))
    (G : Tensor ℝ) (wG : G.WF) (dG : G.dims = [n])
    (hy : k + 5 ∈ backwardOrder H2 root) (f5 : (backprop bm H2 root).heap.grad (k + 5) = some G) :
    (backprop bm H2 root).heap.grad x
      = some ⟨[n], List.zipWith (fun g a => smax (H2.val x) a * (g - bfac bm n * sdot G (H2.val x))) G.data (H2.val x).data⟩ :=
  softmax_walk bm H2 root x k n hdag htr hok wX dX hxk he hs hs' he' hs'' hc tx gx hroot1 hroot2 (fun v _ => hsole v) G wG dG hy
    f5

theorem sum_map_div (S : ℝ) : ∀ l : List ℝ, (l.map (fun a => Real.exp a / S)).sum = (l.map Real.exp).sum / S
  | [] => by simp
  | a :: l => by simp [sum_map_div S l, add_div]

/-- with the all-ones upstream gradient `Σ_i G_i s_i = Σ_i s_i = 1` -/
theorem sdot_ones (X : Tensor ℝ) (wX : X.WF) (T : Tensor ℝ) (hT : T.dims = X.dims) (wT : T.WF) :
    sdot (vPow T Scalar.zero) X = 1 := by
  have hl : T.data.length = X.data.length := by rw [wT.1, wX.1, hT]
  unfold sdot vPow Tensor.map
  simp only []
  have : List.zipWith (fun g a => g * smax X a) (List.map (fun a => Scalar.pow a Scalar.zero) T.data) X.data
      = X.data.map (fun a => Real.exp a / C15x.expSum X) := by
    apply List.ext_getElem
    · simp [hl]
    · intro i h1 h2
      simp [smax]
  rw [this, sum_map_div]
  have := expSum_pos X wX
  unfold C15x.expSum at this ⊢
  exact div_self (ne_of_gt this)

/-- **`BackPropagate` on the output of Softmax** (rank 1, `Dim = 0`), whatever else consumes `x`: with the all-ones seed
    `x.Gradient()[j] = s_j·(1 − bfac)`: all zeros in `sum` mode — the softmax outputs sum to the constant 1 — and
    `s_j·(1 − 1/n)` in `mean` mode (the tree, finding D2): nonzero for every `n > 1`. -/
theorem softmax_backprop_any (bm : BMode) (H : Heap ℝ) (x n : Nat) (hR : Reach bm H) (hwf : (H.val x).WF)
    (dX : (H.val x).dims = [n]) (l : Live H x) :
    ∃ r H', actForward (Activation.softmax 0) [some x] H = .ok (r, H') ∧ H'.val r = (H.val x).map (smax (H.val x)) ∧
      ((backprop bm H' r).status = .ok () →
        (backprop bm H' r).heap.grad x
          = some ⟨[n], (H.val x).data.map (fun a => smax (H.val x) a * (1 - bfac bm n))⟩) := by
  obtain ⟨H', hrun, hext, hR', hsz, hx, he, hs, hs', he', hs'', hr, c0, c1, c2, c3, c4, c5⟩ :=
    softmax_full bm H x n hR hwf dX l
  refine ⟨H.size + 5, H', hrun, hr, ?_⟩
  intro hok
  have hdag := reach_dag hR'
  have hxN : x < H.size := l.1
  obtain ⟨g5, t5, e5⟩ := liveCtx_grad H' _ _ c5
  have tx : H'.tracked x = true := by have := l.2.1; simp only [Heap.tracked, hext.ctx hxN] at this ⊢; exact this
  have gx : H'.grad x = none := by
    have := reach_clean_nograd hR x l.2.2; simp only [Heap.grad, hext.ctx hxN] at this ⊢; exact this
  obtain ⟨hroot, _, _, _⟩ := backwardOrder_spec H' (H.size + 5) hdag t5
  have wr : (H'.val (H.size + 5)).WF := by rw [hr]; exact map_wf _ _ hwf
  have f5 := grad_root bm H' (H.size + 5) hdag t5 hok g5 wr
  have sG := ones_shaped (H'.val (H.size + 5)) wr
  have dr : (H'.val (H.size + 5)).dims = [n] := by rw [hr]; exact dX
  have hc : ∀ i, i ≤ 5 → H'.ctx (H.size + i) = liveCtx (smEdges x H.size i) := by
    intro i hi
    interval_cases i
    exacts [c0, c1, c2, c3, c4, c5]
  have hbelow := (smShape_holds H' x H.size hxN hc).below_input hdag (H.size + 5) t5 (Nat.le_add_right _ _)
    (Nat.add_lt_add_left (by decide) _)
  have key := softmax_walk bm H' (H.size + 5) x H.size n hdag t5 hok (by rw [hx]; exact hwf) (by rw [hx]; exact dX) hxN
    (by rw [hx]; exact he) hs hs' he' (by rw [hx]; exact hs'')
    hc
    tx gx (by omega) (by intro i hi; omega)
    (fun v hv hb e hev => by
      have := hbelow v hv (by have : smShape.length = 6 := rfl; omega) e hev
      exact ⟨by omega, by omega⟩)
    _ sG.1 (by rw [sG.2, dr]) hroot f5
  rw [key, hx]
  congr 1
  rw [sdot_ones (H.val x) hwf (H'.val (H.size + 5)) (by rw [dr, dX]) wr]
  congr 1
  unfold vPow Tensor.map
  simp only []
  rw [hr]
  simp only [Tensor.map]
  apply List.ext_getElem
  · simp
  · intro i h1 h2
    simp

/-- `softmax_backprop_any` under the additional hypothesis that nothing else consumes `x` -/
theorem softmax_backprop (bm : BMode) (H : Heap ℝ) (x n : Nat) (hR : Reach bm H) (hwf : (H.val x).WF)
    (dX : (H.val x).dims = [n]) (l : Live H x) (hsole : ∀ v, ∀ e ∈ (H.ctx v).edges, e.target ≠ x) :
    ∃ r H', actForward (Activation.softmax 0) [some x] H = .ok (r, H') ∧ H'.val r = (H.val x).map (smax (H.val x)) ∧
      ((backprop bm H' r).status = .ok () →
        (backprop bm H' r).heap.grad x
          = some ⟨[n], (H.val x).data.map (fun a => smax (H.val x) a * (1 - bfac bm n))⟩) :=
  softmax_backprop_any bm H x n hR hwf dX l

end C15v
end Qeep
