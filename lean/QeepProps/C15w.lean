import QeepProps.C15z
import QeepProps.C01p
/-!
# C15 / C02 — on a leaf input `BackPropagate` of an activation's result SUCCEEDS and stores the derivative

The end-to-end theorems of `C15z` keep "BackPropagate returned no error" as a hypothesis because the walk continues into
whatever the input was computed from. For an input that is a leaf (no back edges: a parameter, a data tensor, a tensor
after `ResetGradContext`) the walk is over the component's own tensors, every rule on it succeeds on a gradient of the
input's shape, and `C01p.backprop_ok` gives success outright (`Block.Diag.top_ok`, once for all blocks over one input).
-/
set_option linter.unusedSectionVars false

namespace Qeep
namespace C15w
open RealScalar C15x C15z C01 C01x C01z C01w C01p C20

theorem shaped_add_ok (ds : List Nat) (a b : Tensor ℝ) (ha : Shaped ds a) (hb : Shaped ds b) :
    ∃ s, vArith .add a b = .ok s ∧ Shaped ds s := by
  have hd : a.dims = b.dims := by rw [ha.2, hb.2]
  have h := vArith_same .add a b ha.1 hb.1 hd
  exact ⟨_, h, (shaped_add ds a b _ ha hb h).1⟩

theorem run_unique {β : Type} {m : HM ℝ β} {H : Heap ℝ} {r1 r2 : β} {H1 H2 : Heap ℝ}
    (h1 : m H = .ok (r1, H1)) (h2 : m H = .ok (r2, H2)) : r1 = r2 ∧ H1 = H2 := by
  rw [h1] at h2
  injection h2 with h2
  injection h2 with a b
  exact ⟨a, b⟩

/-- **Tanh on a leaf**: `BackPropagate` succeeds and `x.Gradient()` is `cosh(x)⁻²` -/
theorem tanh_backprop_leaf (bm : BMode) (H : Heap ℝ) (x : Nat) (hR : Reach bm H) (hwf : (H.val x).WF) (l : Live H x)
    (hleaf : (H.ctx x).edges = []) :
    ∃ r H', actForward Activation.tanh [some x] H = .ok (r, H') ∧ (backprop bm H' r).status = .ok () ∧
      (backprop bm H' r).heap.grad x = some ⟨(H.val x).dims, (H.val x).data.map (fun a => (Real.cosh a) ^ (-2 : ℝ))⟩ := by
  obtain ⟨r, H', hrun, _, hok, hg⟩ := tanh_end bm H x hR hwf l
  exact ⟨r, H', hrun, hok hleaf, hg (hok hleaf)⟩

/-- **Sigmoid on a leaf**: `BackPropagate` succeeds and `x.Gradient()` is `s(x)(1 − s(x))` -/
theorem sigmoid_backprop_leaf (bm : BMode) (H : Heap ℝ) (x : Nat) (hR : Reach bm H) (hwf : (H.val x).WF) (l : Live H x)
    (hleaf : (H.ctx x).edges = []) :
    ∃ r H', actForward Activation.sigmoid [some x] H = .ok (r, H') ∧ (backprop bm H' r).status = .ok () ∧
      (backprop bm H' r).heap.grad x = some ⟨(H.val x).dims, (H.val x).data.map (fun a => sig a * (1 - sig a))⟩ := by
  obtain ⟨r, H', hrun, _, hok, hg⟩ := sigmoid_end bm H x hR hwf l
  exact ⟨r, H', hrun, hok hleaf, hg (hok hleaf)⟩

/-- **Relu on a leaf**: `BackPropagate` succeeds and `x.Gradient()` is the tie-aware derivative -/
theorem relu_backprop_leaf (bm : BMode) (H : Heap ℝ) (x : Nat) (hR : Reach bm H) (hwf : (H.val x).WF) (l : Live H x)
    (hleaf : (H.ctx x).edges = []) :
    ∃ r H', actForward Activation.relu [some x] H = .ok (r, H') ∧ (backprop bm H' r).status = .ok () ∧
      (backprop bm H' r).heap.grad x = some ⟨(H.val x).dims, (H.val x).data.map C15.reluD⟩ := by
  obtain ⟨r, H', hrun, _, hok, hg⟩ := relu_end bm H x hR hwf l
  exact ⟨r, H', hrun, hok hleaf, hg (hok hleaf)⟩

/-- **LeakyRelu on a leaf**: `BackPropagate` succeeds and `x.Gradient()` is `leakyD m x` -/
theorem leaky_backprop_leaf (bm : BMode) (m : ℝ) (H : Heap ℝ) (x : Nat) (hR : Reach bm H) (hwf : (H.val x).WF)
    (l : Live H x) (hleaf : (H.ctx x).edges = []) :
    ∃ r H', actForward (Activation.leaky m) [some x] H = .ok (r, H') ∧ (backprop bm H' r).status = .ok () ∧
      (backprop bm H' r).heap.grad x = some ⟨(H.val x).dims, (H.val x).data.map (leakyD m)⟩ := by
  obtain ⟨r, H', hrun, _, hok, hg⟩ := leaky_end bm m H x hR hwf l
  exact ⟨r, H', hrun, hok hleaf, hg (hok hleaf)⟩

end C15w
end Qeep
