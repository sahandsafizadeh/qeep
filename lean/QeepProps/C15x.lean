import QeepProps.C12x
import QeepProps.C13
import QeepProps.C15
/-!
# C15, continued — Sigmoid, LeakyRelu and rank-1 Softmax: graphs and local backward passes

Same structure as `QeepProps/C15.lean` (Relu, Tanh), over `ℝ`, for every input shape and all values:

* `*_graph`     : the tensors the activation's forward pass allocates on a tracked, unspent input, their values and
                  their back edges (which rule on which edge) — by inversion of the successful run;
* `*_local_vjp` : the *local* backward pass along those edges evaluated with the Model's rules (`evalRule`): if `G` is
                  the gradient arriving at the activation's result, the contributions arriving at the activation's
                  input, added in the order the walk adds them, are `G_i · act'(x_i)`; and `act'` is the Mathlib
                  derivative (`HasDerivAt`);
* `*_vjp_on_graph` : both together, on the heap the forward pass returns.

Sigmoid : `σ' = σ(1−σ)` (`sigmoid_local_vjp`, `d_sig`) — both modes of the `Broadcast` rule (only identity broadcasts).
LeakyRelu : `1` above the tie band `|x| ≤ 1e-240` of the library's `Eq`, `m` below, `(1+m)/2` inside
  (`leaky_local_vjp`, `leakyD_cases`) — both modes.
Softmax (`Dim = 0`, input of shape `[n]`, every `n`): `s_j (G_j − Σ_i G_i s_i)`, i.e. `G` times the Jacobian
  `s_i (δ_ij − s_j)` (`softmax_local_vjp`, `d_softmax`, `softmax_jacobian_vjp`, `softmax_vjp_deriv`) — for the `Broadcast`
  rule in `sum` mode ONLY. The graph contains a genuine expansion `[1] → [n]` of the denominator; in `mean` mode (the
  library, finding D2) the chain delivers `s_j (G_j − (1/n) Σ_i G_i s_i)` (`softmax_local_vjp_mean_partial`), which is
  not the vector-Jacobian product for `n > 1` (`softmax_mean_ne_vjp`).
  `softmax_graph` also gives the forward value `r_j = exp(x_j) / Σ_k exp(x_k)` (rank 1).
-/

namespace Qeep
namespace C15x
open RealScalar

/-- the logistic function, literally the value `C14.sigmoid_value` proves for the forward pass -/
noncomputable def sig (a : ℝ) : ℝ := (1 + Real.exp (-a))⁻¹

theorem sig_mul (a : ℝ) : sig a * (1 - sig a) = Real.exp (-a) / (1 + Real.exp (-a)) ^ 2 := by
  have hpos : (1 : ℝ) + Real.exp (-a) ≠ 0 := (add_pos one_pos (Real.exp_pos _)).ne'
  unfold sig
  field_simp
  ring

theorem d_sig (a : ℝ) : HasDerivAt sig (sig a * (1 - sig a)) a := by
  have h1 : HasDerivAt (fun t : ℝ => Real.exp (-t)) (-Real.exp (-a)) a :=
    (hasDerivAt_neg a).exp.congr_deriv (by ring)
  have hpos : (1 : ℝ) + Real.exp (-a) ≠ 0 := (add_pos one_pos (Real.exp_pos _)).ne'
  exact ((h1.const_add 1).inv hpos).congr_deriv (by rw [sig_mul, neg_neg])

theorem sig_factor (a : ℝ) :
    -1 * (1 * (-1 * (1 + Real.exp (-a)) ^ ((-1 : ℝ) - 1)) * Real.exp (-a)) + 0 = sig a * (1 - sig a) := by
  have hpos : (0 : ℝ) < 1 + Real.exp (-a) := add_pos one_pos (Real.exp_pos _)
  rw [show (-1 : ℝ) - 1 = -((2 : ℕ) : ℝ) by norm_num, Real.rpow_neg hpos.le, Real.rpow_natCast, sig_mul]
  ring

/-- **Sigmoid, local backward pass.** The graph `actForward .sigmoid` builds on `x` (see `sigmoid_graph`):
    `o = Pow(x,0)`, `x1 = Scale(x,−1)`, `x2 = Exp(x1)`, `y = Add(o', x2')` with `o'`, `x2'` the (identity) `Broadcast`s of
    `o`, `x2` that every binary operation inserts, `r = Pow(y,−1)`. With `G` the gradient arriving at `r`: through
    `Pow(−1)`, `Add` (both edges: the gradient itself), the two `Broadcast` rules (equal shapes: identity — for both
    `BMode`s), then `Pow(·,0)` (zeros) on one branch and `Exp`, `Scale(−1)` on the other; the two contributions
    arriving at `x`, added in the order the walk adds them, are `G_i · σ(x_i)(1 − σ(x_i))` at every position, and that
    factor is the derivative of `σ`. Every shape, all values. -/
theorem sigmoid_local_vjp (bm : BMode) (H : Heap ℝ) (x o x2 o' x2' y : Nat) (G : Tensor ℝ)
    (hx2 : H.val x2 = (H.val x).map (fun a => Real.exp (-a)))
    (ho' : H.val o' = H.val o) (hx2' : H.val x2' = H.val x2)
    (hy : H.val y = (H.val x).map (fun a => 1 + Real.exp (-a)))
    (wX : (H.val x).WF) (wG : G.WF) (hd : G.dims = (H.val x).dims) :
    (∃ gy go gx2 gx1 c1 c2,
      evalRule bm H G (.powX y (-1)) = .ok gy ∧
      evalRule bm H gy .idG = .ok gy ∧
      evalRule bm H gy (.bcastX o o') = .ok go ∧
      evalRule bm H gy (.bcastX x2 x2') = .ok gx2 ∧
      evalRule bm H go (.powX x 0) = .ok c1 ∧
      evalRule bm H gx2 (.expX x2) = .ok gx1 ∧
      evalRule bm H gx1 (.scaleX (-1)) = .ok c2 ∧
      vArith .add c2 c1 = .ok ⟨G.dims, List.zipWith (fun g a => g * (sig a * (1 - sig a))) G.data (H.val x).data⟩) ∧
    (∀ a : ℝ, HasDerivAt sig (sig a * (1 - sig a)) a) := by
  refine ⟨?_, d_sig⟩
  have hX : H.val x = (H.val x).map id := tmap_id _
  have e0 : evalRule bm H G (.powX y (-1)) = evalRule bm H (gz G (H.val x) (fun _ => 1)) (.powX y (-1)) := by
    rw [gz_one G (H.val x) wX wG hd]
  have s1 := r_pow bm H G (H.val x) (fun _ => 1) (fun a => 1 + Real.exp (-a)) y wX wG hd (-1) (by norm_num) hy
  have s3 := r_pow0 bm H G (H.val x) (fun a => 1 * (-1 * (1 + Real.exp (-a)) ^ ((-1 : ℝ) - 1))) id x wX wG hd hX
  have s4 := r_exp bm H G (H.val x) (fun a => 1 * (-1 * (1 + Real.exp (-a)) ^ ((-1 : ℝ) - 1))) (fun a => Real.exp (-a)) x2
    wX wG hd hx2
  refine ⟨_, _, _, _, _, _, e0.trans s1, rfl, r_bcast bm H _ o o' (by rw [ho']), r_bcast bm H _ x2 x2' (by rw [hx2']),
    s3, s4, r_scale bm H G (H.val x) _ (-1), ?_⟩
  rw [gz_add G (H.val x) _ _ wX wG hd]
  exact congrArg Out.ok (gz_congr G (H.val x) _ _ sig_factor)

/-- **the graph Sigmoid builds** on a tracked, unspent input `x`: seven new tensors
    `o = Pow(x,0)`, `x1 = Scale(x,−1)`, `x2 = Exp(x1)`, `o' = Broadcast(o)`, `x2' = Broadcast(x2)`, `y = Add(o',x2')`,
    `r = Pow(y,−1)`, their values, and their back edges (all tracked, unspent, no gradient yet) -/
theorem sigmoid_graph (H : Heap ℝ) (x : Nat) (hwf : (H.val x).WF) (l : Live H x) :
    ∃ o x1 x2 o' x2' y r H', actForward Activation.sigmoid [some x] H = .ok (r, H') ∧ Extends H H' ∧
      H'.val x = H.val x ∧
      H'.val x2 = (H.val x).map (fun a => Real.exp (-a)) ∧
      H'.val o' = H'.val o ∧ H'.val x2' = H'.val x2 ∧
      H'.val y = (H.val x).map (fun a => 1 + Real.exp (-a)) ∧
      H'.val r = (H.val x).map sig ∧
      H'.ctx o = liveCtx [⟨x, .powX x 0⟩] ∧
      H'.ctx x1 = liveCtx [⟨x, .scaleX (-1)⟩] ∧
      H'.ctx x2 = liveCtx [⟨x1, .expX x2⟩] ∧
      H'.ctx o' = liveCtx [⟨o, .bcastX o o'⟩] ∧
      H'.ctx x2' = liveCtx [⟨x2, .bcastX x2 x2'⟩] ∧
      H'.ctx y = liveCtx [⟨o', .idG⟩, ⟨x2', .idG⟩] ∧
      H'.ctx r = liveCtx [⟨y, .powX y (-1)⟩] := by
  obtain ⟨r, H', hrun, hext, hval⟩ := C14.sigmoid_value H x l.1 hwf
  obtain ⟨o, H1, g1, h⟩ := bind_ok ((C14.actForward_sigmoid x H).symm.trans hrun)
  obtain ⟨vo, e1, co, lo⟩ := hPow_live g1 l
  obtain ⟨x1, H2, g2, h⟩ := bind_ok h
  obtain ⟨vx1, e2, cx1, lx1⟩ := hScale_live g2 (l.ext e1)
  obtain ⟨x2, H3, g3, h⟩ := bind_ok h
  obtain ⟨vx2, e3, cx2, lx2⟩ := hUnary_live g3 lx1
  obtain ⟨y, H4, g4, g5⟩ := bind_ok h
  have lo3 : Live H3 o := (lo.ext e2).ext e3
  have ho3 : H3.val o = (H.val x).map (fun a => a ^ (Scalar.zero : ℝ)) := by rw [(e2.trans e3).val lo.1, vo]; rfl
  have hx23 : H3.val x2 = (H.val x).map (fun a => Real.exp (-a)) := by
    rw [vx2, vx1, e1.val l.1, vScale_map, vUnary_map, tmap_map]
    exact tmap_congr _ fun a => by simp [Unary.fn]
  obtain ⟨o', x2', e4, vo', vx2', vy, co', cx2', cy, lo', lx2', ly⟩ := hArith_live_same g4 lo3 lx2
    (by rw [ho3]; exact map_wf _ _ hwf) (by rw [hx23]; exact map_wf _ _ hwf) (by rw [ho3, hx23]; rfl)
  obtain ⟨vr, e5, cr, lr⟩ := hPow_live g5 ly
  have e35 : Extends H3 H' := e4.trans e5
  refine ⟨o, x1, x2, o', x2', y, r, H', hrun, hext, hext.val l.1, ?_, ?_, ?_, ?_, ?_, ?_, ?_, ?_, ?_, ?_, ?_, ?_⟩
  · rw [e35.val lx2.1, hx23]
  · rw [e5.val lo'.1, e35.val lo3.1, vo']
  · rw [e5.val lx2'.1, e35.val lx2.1, vx2']
  · rw [e5.val ly.1, vy, ho3, hx23, zip_tmap]
    exact tmap_congr _ fun a => by simp [Arith.fn]
  · rw [hval]; rfl
  · rw [(((e2.trans e3).trans e4).trans e5).ctx lo.1, co, zero_eq]
  · rw [((e3.trans e4).trans e5).ctx lx1.1, cx1, neg_eq, one_eq]
  · rw [e35.ctx lx2.1, cx2]; rfl
  · rw [e5.ctx lo'.1, co']
  · rw [e5.ctx lx2'.1, cx2']
  · rw [e5.ctx ly.1, cy]; rfl
  · rw [cr, neg_eq, one_eq]

/-- the derivative the `ElMin(0·x, x)` node delivers towards `x`: 1 below the tie band, 0 above, ½ inside -/
noncomputable def minD (a : ℝ) : ℝ :=
  (if Scalar.near (min 0 a) a then 1 else 0) - (1 / 2) * (if Scalar.near a 0 then 1 else 0)

/-- the derivative LeakyRelu's graph delivers -/
noncomputable def leakyD (m a : ℝ) : ℝ := C15.reluD a + m * minD a

theorem minD_eq (a : ℝ) : minD a = C15.reluD (-a) := by
  have h1 : |min 0 a - a| = |max 0 (-a) - -a| := by
    rw [← abs_neg, ← neg_zero, max_neg_neg, neg_zero]; congr 1; ring
  unfold minD C15.reluD
  rw [C15.near_eq, C15.near_eq, C15.near_eq, C15.near_eq, h1, sub_zero, sub_zero, abs_neg]

theorem minD_cases (a : ℝ) (thr : ℝ) (hthr : thr = (Scalar.eqThr : ℝ)) (hpos : 0 < thr) :
    (thr < a → minD a = 0) ∧ (a < -thr → minD a = 1) ∧ (|a| ≤ thr → minD a = 1 / 2) := by
  obtain ⟨r1, r2, r3⟩ := C15.reluD_cases (-a) thr hthr hpos
  rw [minD_eq]
  exact ⟨fun h => r2 (neg_lt_neg h), fun h => r1 (lt_neg.mp h), fun h => r3 (by rwa [abs_neg])⟩

/-- **LeakyRelu's delivered derivative**: `1` above the tie band of the library's `Eq` (`|x| ≤ 1e-240`), the slope `m`
    below it, and `(1 + m)/2` inside the band (in particular at `x = 0`) — exactly what the rules compute -/
theorem leakyD_cases (m a : ℝ) (thr : ℝ) (hthr : thr = (Scalar.eqThr : ℝ)) (hpos : 0 < thr) :
    (thr < a → leakyD m a = 1) ∧ (a < -thr → leakyD m a = m) ∧ (|a| ≤ thr → leakyD m a = (1 + m) / 2) := by
  obtain ⟨r1, r2, r3⟩ := C15.reluD_cases a thr hthr hpos
  obtain ⟨m1, m2, m3⟩ := minD_cases a thr hthr hpos
  unfold leakyD
  refine ⟨fun h => ?_, fun h => ?_, fun h => ?_⟩
  · rw [r1 h, m1 h]; ring
  · rw [r2 h, m2 h]; ring
  · rw [r3 h, m3 h]; ring

theorem eqThr_pos : (0 : ℝ) < (Scalar.eqThr : ℝ) := by
  simp only [Scalar.eqThr, Scalar.ofSci]
  positivity

/-- **the graph LeakyRelu builds** on a tracked, unspent input `x`: seven new tensors `z = Scale(x,0)`,
    `s1 = ElMax(z,x)`, `s2 = ElMin(z,x)`, `s3 = Scale(s2,m)`, `s1' = Broadcast(s1)`, `s3' = Broadcast(s3)`,
    `r = Add(s1',s3')`, their values and their back edges (all tracked, unspent, no gradient yet) -/
theorem leaky_graph (m : ℝ) (H : Heap ℝ) (x : Nat) (hwf : (H.val x).WF) (l : Live H x) :
    ∃ z s1 s2 s3 s1' s3' r H', actForward (Activation.leaky m) [some x] H = .ok (r, H') ∧ Extends H H' ∧
      H'.val x = H.val x ∧
      H'.val z = vScale (H.val x) 0 ∧
      H'.val s1 = (H.val x).map (fun a => max 0 a) ∧ H'.val s2 = (H.val x).map (fun a => min 0 a) ∧
      H'.val s1' = H'.val s1 ∧ H'.val s3' = H'.val s3 ∧
      H'.val r = (H.val x).map (fun a => max 0 a + m * min 0 a) ∧
      H'.ctx z = liveCtx [⟨x, .scaleX 0⟩] ∧
      H'.ctx s1 = liveCtx [⟨z, .elext s1 z x⟩, ⟨x, .elext s1 x z⟩] ∧
      H'.ctx s2 = liveCtx [⟨z, .elext s2 z x⟩, ⟨x, .elext s2 x z⟩] ∧
      H'.ctx s3 = liveCtx [⟨s2, .scaleX m⟩] ∧
      H'.ctx s1' = liveCtx [⟨s1, .bcastX s1 s1'⟩] ∧ H'.ctx s3' = liveCtx [⟨s3, .bcastX s3 s3'⟩] ∧
      H'.ctx r = liveCtx [⟨s1', .idG⟩, ⟨s3', .idG⟩] := by
  obtain ⟨r, H', hrun, hext, hval⟩ := C14.leaky_value m H x l.1 hwf
  obtain ⟨z, H1, g1, h⟩ := bind_ok ((C14.actForward_leaky m x H).symm.trans hrun)
  obtain ⟨vz, e1, cz, lz⟩ := hScale_live g1 l
  have lx1 : Live H1 x := l.ext e1
  obtain ⟨s1, H2, g2, h⟩ := bind_ok h
  obtain ⟨vs1, e2, cs1, ls1⟩ := hCmp_ext_live (Or.inl rfl) g2 lz lx1
  obtain ⟨s2, H3, g3, h⟩ := bind_ok h
  obtain ⟨vs2, e3, cs2, ls2⟩ := hCmp_ext_live (Or.inr rfl) g3 (lz.ext e2) (lx1.ext e2)
  obtain ⟨s3, H4, g4, g5⟩ := bind_ok h
  obtain ⟨vs3, e4, cs3, ls3⟩ := hScale_live g4 ls2
  have hx1 : H1.val x = (H.val x).map id := (e1.val l.1).trans (tmap_id _)
  have hz1 : H1.val z = (H.val x).map (fun a => Scalar.zero * a) := vz
  have wz := map_wf (fun a => (Scalar.zero : ℝ) * a) _ hwf
  have wx := map_wf id _ hwf
  rw [hz1, hx1, vCmp_same .elmax _ _ wz wx rfl, zip_tmap] at vs1
  rw [e2.val lz.1, e2.val lx1.1, hz1, hx1, vCmp_same .elmin _ _ wz wx rfl, zip_tmap] at vs2
  have h0 : ∀ a : ℝ, Scalar.zero * a = 0 := fun a => by rw [zero_eq, zero_mul]
  have hs1 : H2.val s1 = (H.val x).map (fun a => max 0 a) :=
    (Out.ok.inj vs1).symm.trans (tmap_congr _ fun a => congrArg (max · a) (h0 a))
  have hs2 : H3.val s2 = (H.val x).map (fun a => min 0 a) :=
    (Out.ok.inj vs2).symm.trans (tmap_congr _ fun a => congrArg (min · a) (h0 a))
  have ls14 : Live H4 s1 := (ls1.ext e3).ext e4
  have hs14 : H4.val s1 = (H.val x).map (fun a => max 0 a) := by rw [(e3.trans e4).val ls1.1, hs1]
  have hs34 : H4.val s3 = (H.val x).map (fun a => m * min 0 a) := by rw [vs3, hs2]; exact tmap_map ..
  obtain ⟨s1', s3', e5, vs1', vs3', vr, cs1', cs3', cr, ls1', ls3', lr⟩ := hArith_live_same g5 ls14 ls3
    (by rw [hs14]; exact map_wf _ _ hwf) (by rw [hs34]; exact map_wf _ _ hwf) (by rw [hs14, hs34]; rfl)
  refine ⟨z, s1, s2, s3, s1', s3', r, H', hrun, hext, hext.val l.1, ?_, ?_, ?_, ?_, ?_, ?_, ?_, ?_, ?_, ?_, cs1', cs3', cr⟩
  · rw [(((e2.trans e3).trans e4).trans e5).val lz.1, vz, zero_eq]
  · rw [e5.val ls14.1, hs14]
  · rw [(e4.trans e5).val ls2.1, hs2]
  · rw [e5.val ls14.1, vs1']
  · rw [e5.val ls3.1, vs3']
  · rw [hval]; rfl
  · rw [(((e2.trans e3).trans e4).trans e5).ctx lz.1, cz, zero_eq]
  · rw [((e3.trans e4).trans e5).ctx ls1.1, cs1]
  · rw [(e4.trans e5).ctx ls2.1, cs2]
  · rw [e5.ctx ls3.1, cs3]

theorem leaky_chain (bm : BMode) (H : Heap ℝ) (x z s1 s2 s3 s1' s3' : Nat) (m : ℝ) (G : Tensor ℝ) (φ : ℝ → ℝ)
    (hz : H.val z = vScale (H.val x) 0)
    (hs1 : H.val s1 = (H.val x).map (fun a => max 0 a)) (hs2 : H.val s2 = (H.val x).map (fun a => min 0 a))
    (hs1' : H.val s1' = H.val s1) (hs3' : H.val s3' = H.val s3)
    (wX : (H.val x).WF) (wG : G.WF) (hd : G.dims = (H.val x).dims) :
    ∃ g2 gz2 c2 gz1 c1 gzt cz c21,
      evalRule bm H (gz G (H.val x) φ) .idG = .ok (gz G (H.val x) φ) ∧
      evalRule bm H (gz G (H.val x) φ) (.bcastX s1 s1') = .ok (gz G (H.val x) φ) ∧
      evalRule bm H (gz G (H.val x) φ) (.bcastX s3 s3') = .ok (gz G (H.val x) φ) ∧
      evalRule bm H (gz G (H.val x) φ) (.scaleX m) = .ok g2 ∧
      evalRule bm H g2 (.elext s2 z x) = .ok gz2 ∧ evalRule bm H g2 (.elext s2 x z) = .ok c2 ∧
      evalRule bm H (gz G (H.val x) φ) (.elext s1 z x) = .ok gz1 ∧
      evalRule bm H (gz G (H.val x) φ) (.elext s1 x z) = .ok c1 ∧
      vArith .add gz2 gz1 = .ok gzt ∧ evalRule bm H gzt (.scaleX 0) = .ok cz ∧
      vArith .add c2 c1 = .ok c21 ∧
      vArith .add c21 cz = .ok (gz G (H.val x) (fun a => φ a * leakyD m a)) := by
  have hX : H.val x = (H.val x).map id := tmap_id _
  have hZ : H.val z = (H.val x).map (fun a => 0 * a) := hz
  have a1 := r_elext bm H G (H.val x) (fun a => m * φ a) wX wG hd s2 z x _ _ _ hs2 hZ hX
  have a2 := r_elext bm H G (H.val x) (fun a => m * φ a) wX wG hd s2 x z _ _ _ hs2 hX hZ
  have a3 := r_elext bm H G (H.val x) φ wX wG hd s1 z x _ _ _ hs1 hZ hX
  have a4 := r_elext bm H G (H.val x) φ wX wG hd s1 x z _ _ _ hs1 hX hZ
  refine ⟨_, _, _, _, _, _, _, _, rfl, r_bcast bm H _ s1 s1' (by rw [hs1']), r_bcast bm H _ s3 s3' (by rw [hs3']),
    r_scale bm H G (H.val x) φ m, a1, a2, a3, a4, gz_add G (H.val x) _ _ wX wG hd, r_scale bm H G (H.val x) _ 0,
    gz_add G (H.val x) _ _ wX wG hd, ?_⟩
  rw [gz_add G (H.val x) _ _ wX wG hd]
  refine congrArg Out.ok (gz_congr G (H.val x) _ _ ?_)
  intro a
  simp only [id, zero_mul, leakyD, C15.reluD, minD]
  ring

/-- **LeakyRelu, local backward pass.** The graph `actForward (.leaky m)` builds on `x` (see `leaky_graph`):
    `z = 0·x`, `s1 = ElMax(z,x)`, `s2 = ElMin(z,x)`, `s3 = m·s2`, `r = Add(s1', s3')` with `s1'`, `s3'` the (identity)
    `Broadcast`s of `s1`, `s3`. With `G` the gradient arriving at `r`, in the order the walk processes the edges:
    `Add` (the gradient itself, both edges), the two `Broadcast` rules (equal shapes: identity, for both `BMode`s),
    `Scale(m)`, the tie-aware rules of `ElMin` and `ElMax` towards `z` and towards `x`, the sum at `z` sent through
    `Scale(0)`; the three contributions arriving at `x` add up to `G_i · leakyD m x_i` at every position:
    `G_i` for `x_i` above the tie band, `m·G_i` below, `(1+m)/2 · G_i` inside (`leakyD_cases`). -/
theorem leaky_local_vjp (bm : BMode) (H : Heap ℝ) (x z s1 s2 s3 s1' s3' : Nat) (m : ℝ) (G : Tensor ℝ)
    (hz : H.val z = vScale (H.val x) 0)
    (hs1 : H.val s1 = (H.val x).map (fun a => max 0 a)) (hs2 : H.val s2 = (H.val x).map (fun a => min 0 a))
    (hs1' : H.val s1' = H.val s1) (hs3' : H.val s3' = H.val s3)
    (wX : (H.val x).WF) (wG : G.WF) (hd : G.dims = (H.val x).dims) :
    (∃ g2 gz2 c2 gz1 c1 gzt cz c21,
      evalRule bm H G .idG = .ok G ∧
      evalRule bm H G (.bcastX s1 s1') = .ok G ∧ evalRule bm H G (.bcastX s3 s3') = .ok G ∧
      evalRule bm H G (.scaleX m) = .ok g2 ∧
      evalRule bm H g2 (.elext s2 z x) = .ok gz2 ∧ evalRule bm H g2 (.elext s2 x z) = .ok c2 ∧
      evalRule bm H G (.elext s1 z x) = .ok gz1 ∧ evalRule bm H G (.elext s1 x z) = .ok c1 ∧
      vArith .add gz2 gz1 = .ok gzt ∧ evalRule bm H gzt (.scaleX 0) = .ok cz ∧
      vArith .add c2 c1 = .ok c21 ∧
      vArith .add c21 cz = .ok ⟨G.dims, List.zipWith (fun g a => g * leakyD m a) G.data (H.val x).data⟩) ∧
    (∀ a : ℝ, ((Scalar.eqThr : ℝ) < a → leakyD m a = 1) ∧ (a < -(Scalar.eqThr : ℝ) → leakyD m a = m) ∧
      (|a| ≤ (Scalar.eqThr : ℝ) → leakyD m a = (1 + m) / 2)) := by
  refine ⟨?_, fun a => leakyD_cases m a _ rfl eqThr_pos⟩
  have key := leaky_chain bm H x z s1 s2 s3 s1' s3' m G (fun _ => 1) hz hs1 hs2 hs1' hs3' wX wG hd
  rw [gz_one G (H.val x) wX wG hd] at key
  obtain ⟨g2, gz2, c2, gz1, c1, gzt, cz, c21, k1, k2, k3, k4, k5, k6, k7, k8, k9, k10, k11, k12⟩ := key
  refine ⟨g2, gz2, c2, gz1, c1, gzt, cz, c21, k1, k2, k3, k4, k5, k6, k7, k8, k9, k10, k11, ?_⟩
  rw [k12]
  exact congrArg Out.ok (gz_congr G (H.val x) _ _ (fun a => one_mul _))

theorem reshape_to_scalar (c : ℝ) : vReshape (⟨[1], [c]⟩ : Tensor ℝ) (([] : List Nat).map Int.ofNat) = .ok ⟨[], [c]⟩ := by
  have hwf : (⟨[1], [c]⟩ : Tensor ℝ).WF := ⟨by simp [prod], by simp⟩
  have := (C06.vReshape_total (⟨[1], [c]⟩ : Tensor ℝ) hwf []).1 ⟨by simp [validInputDims], by simp [natDims, prod]⟩
  simpa [natDims] using this

/-- the factor the `Broadcast` rule `[n] → [1]` puts on the sum of the upstream gradient: `1` in `sum` mode, `1/n` in
    `mean` mode (the library: `AvgAlong`, finding D2) -/
noncomputable def bfac (bm : BMode) (n : Nat) : ℝ :=
  match bm with
  | .sum => 1
  | .mean => 1 / (n : ℝ)

/-- the `Broadcast` rule `[1] → [n]`: the sum (`sum` mode) or the average (`mean` mode) of the upstream gradient, as a
    `[1]` tensor -/
theorem bcast_1n (bm : BMode) (n : Nat) (g : Tensor ℝ) (wg : g.WF) (dg : g.dims = [n]) :
    bcastRule bm [1] [n] g = .ok ⟨[1], [bfac bm n * g.data.sum]⟩ := by
  by_cases h1 : n = 1
  · subst h1
    have hl : g.data.length = 1 := by rw [wg.1, dg]; simp [prod]
    have hg : g = ⟨[1], [bfac bm 1 * g.data.sum]⟩ := by
      cases g with
      | mk dims data =>
        simp only at dg hl ⊢
        match data, hl with
        | [v], _ => cases bm <;> simp [dg, bfac]
    rw [C13.bcastRule_same]
    exact congrArg Out.ok hg
  · have hne : (1 : Nat) ≠ n := fun h => h1 h.symm
    have h0 : (((0 : Nat) : Int)) = (0 : Int) := rfl
    have hu : ∀ c : ℝ, vUnSqueeze (⟨[], [c]⟩ : Tensor ℝ) ((0 : Nat) : Int) = .ok ⟨[1], [c]⟩ :=
      C12x.vUnSqueeze_scalar
    cases bm with
    | sum =>
      have hr : vAlong .sum g ((0 : Nat) : Int) = .ok ⟨[], [bfac .sum n * g.data.sum]⟩ := by
        rw [h0, C12.vAlong_rank1 .sum g n dg wg]
        simp only [Reducer.fn, C12x.tensor_sum, bfac, one_mul]
      simp only [bcastRule, List.length_cons, List.length_nil, Nat.sub_self, bcastLead, bind, Out.bind, List.drop_zero,
        bcastExpand, hne, ne_eq, not_false_eq_true, if_true, hr, hu]
    | mean =>
      have hr : vAlong .avg g ((0 : Nat) : Int) = .ok ⟨[], [bfac .mean n * g.data.sum]⟩ := by
        rw [h0, C12.vAlong_rank1 .avg g n dg wg]
        simp only [Reducer.fn, Tensor.avg, C12x.tensor_sum, bfac, Tensor.numElems, dg, prod, div_eq, ofNat_eq, Nat.mul_one]
        congr 2
        rw [div_eq_mul_inv, one_div, mul_comm]
      simp only [bcastRule, List.length_cons, List.length_nil, Nat.sub_self, bcastLead, bind, Out.bind, List.drop_zero,
        bcastExpand, hne, ne_eq, not_false_eq_true, if_true, hr, hu]

noncomputable def expSum (X : Tensor ℝ) : ℝ := (X.data.map Real.exp).sum

/-- `softmax(x)` at the position holding the value `a` -/
noncomputable def smax (X : Tensor ℝ) (a : ℝ) : ℝ := Real.exp a / expSum X

theorem sum_zipWith_mul_left (k : ℝ) (f : ℝ → ℝ → ℝ) :
    ∀ (l m : List ℝ), (List.zipWith (fun g a => k * f g a) l m).sum = k * (List.zipWith f l m).sum
  | [], _ => by simp
  | _ :: _, [] => by simp
  | x :: l, y :: m => by simp [sum_zipWith_mul_left k f l m, mul_add]

theorem expSum_pos (X : Tensor ℝ) (wX : X.WF) : 0 < expSum X :=
  List.sum_pos _ (fun y hy => by obtain ⟨a, _, rfl⟩ := List.mem_map.mp hy; exact Real.exp_pos a)
    (by
      have : 0 < X.data.length := by rw [wX.1]; exact prod_pos wX.2
      exact fun h => absurd (List.map_eq_nil_iff.mp h) (List.ne_nil_of_length_pos this))

/-- `Σ_i g_i · softmax(x)_i` -/
noncomputable def sdot (G X : Tensor ℝ) : ℝ := (List.zipWith (fun g a => g * smax X a) G.data X.data).sum

/-- the Softmax chain for either mode of the `Broadcast` rule: `s_j · (G_j − bfac · Σ_i G_i s_i)` arrives at `x`; every
    intermediate gradient is well formed and has the shape of the tensor it belongs to -/
theorem softmax_chain_wf (bm : BMode) (H : Heap ℝ) (x e s s' e' s'' : Nat) (n : Nat) (G : Tensor ℝ)
    (dX : (H.val x).dims = [n])
    (he : H.val e = (H.val x).map Real.exp) (hs : (H.val s).dims = []) (hs' : (H.val s').dims = [1])
    (he' : H.val e' = H.val e) (hs'' : H.val s'' = ⟨[n], List.replicate n (expSum (H.val x))⟩)
    (wX : (H.val x).WF) (wG : G.WF) (hd : G.dims = [n]) :
    ∃ ga gb g1 g2 ce1 ce2 ge,
      evalRule bm H G (.divA s'') = .ok ga ∧
      evalRule bm H G (.divB e' s'') = .ok gb ∧
      evalRule bm H gb (.bcastX s' s'') = .ok g1 ∧
      evalRule bm H g1 (.reshapeX s) = .ok g2 ∧
      evalRule bm H g2 (.sumAlongX e 0) = .ok ce1 ∧
      evalRule bm H ga (.bcastX e e') = .ok ce2 ∧
      vArith .add ce1 ce2 = .ok ge ∧
      evalRule bm H ge (.expX e) = .ok ⟨[n], List.zipWith (fun g a => smax (H.val x) a * (g - bfac bm n * sdot G (H.val x)))
        G.data (H.val x).data⟩ ∧
      (ga.WF ∧ ga.dims = [n]) ∧ (g1.WF ∧ g1.dims = [1]) ∧ (g2.WF ∧ g2.dims = []) ∧ (gb.WF ∧ gb.dims = [n]) ∧
      (ce1.WF ∧ ce1.dims = [n]) ∧ (ce2.WF ∧ ce2.dims = [n]) ∧ (ge.WF ∧ ge.dims = [n]) := by
  have hn : 0 < n := wX.2 n (by rw [dX]; simp)
  have hlX : (H.val x).data.length = n := by rw [wX.1, dX]; simp [prod]
  have hlG : G.data.length = n := by rw [wG.1, hd]; simp [prod]
  have wE : (H.val e).WF := by rw [he]; exact map_wf _ _ wX
  have dE : (H.val e).dims = [n] := by rw [he]; exact dX
  have wS : (H.val s'').WF := by rw [hs'']; exact ⟨by simp [prod], by simpa using hn⟩
  have dS : (H.val s'').dims = [n] := by rw [hs'']
  obtain ⟨_, r2, r3⟩ := C02.rule_mul_div bm H G e' s'' wG (by rw [he']; exact wE) wS (by rw [he', dE, hd]) (by rw [dS, hd])
  have hgb : List.zipWith (fun g p => g * p) G.data
        (List.zipWith (fun u v => (-1 * u) / v ^ (2 : ℝ)) (H.val e').data (H.val s'').data)
      = List.zipWith (fun g a => (-1 / expSum (H.val x)) * (g * smax (H.val x) a)) G.data (H.val x).data := by
    rw [he', he, hs'']
    apply List.ext_getElem
    · simp [Tensor.map, hlX, hlG]
    · intro i h1 h2
      simp only [Tensor.map, List.getElem_zipWith, List.getElem_map, List.getElem_replicate, smax, Real.rpow_two]
      ring
  rw [hgb] at r3
  have wgb := zip_wf (fun g a => (-1 / expSum (H.val x)) * (g * smax (H.val x) a)) G (H.val x) wG wX (hd.trans dX.symm)
  -- Broadcast rule [n] → [1], Reshape to [], re-expansion by the SumAlong rule: one number `c`
  obtain ⟨c, hc⟩ : ∃ c, c = bfac bm n * ((-1 / expSum (H.val x)) * sdot G (H.val x)) := ⟨_, rfl⟩
  have b1 : evalRule bm H ⟨G.dims, List.zipWith (fun g a => (-1 / expSum (H.val x)) * (g * smax (H.val x) a)) G.data
      (H.val x).data⟩ (.bcastX s' s'') = .ok ⟨[1], [c]⟩ := by
    simp only [evalRule, hs', dS]
    rw [bcast_1n bm n _ wgb hd, hc]
    exact congrArg (fun v => Out.ok (Tensor.mk [1] [bfac bm n * v])) (sum_zipWith_mul_left _ _ _ _)
  have b2 : evalRule bm H (⟨[1], [c]⟩ : Tensor ℝ) (.reshapeX s) = .ok ⟨[], [c]⟩ := by
    simp only [evalRule, hs]
    exact reshape_to_scalar _
  have b3 : evalRule bm H (⟨[], [c]⟩ : Tensor ℝ) (.sumAlongX e 0) = .ok ⟨[n], List.replicate n c⟩ := by
    simp only [evalRule, dE]
    exact C13.reducerBroadcasted_scalar _ n hn
  have wga : (⟨G.dims, List.zipWith (fun g v => g / v) G.data (H.val s'').data⟩ : Tensor ℝ).WF :=
    zip_wf _ G (H.val s'') wG wS (by rw [dS, hd])
  have wce1 : (⟨[n], List.replicate n c⟩ : Tensor ℝ).WF := ⟨by simp [prod], by simpa using hn⟩
  have b5 := vArith_same .add _ _ wce1 wga (by rw [hd])
  have wge := zip_wf Arith.add.fn _ _ wce1 wga (by rw [hd])
  refine ⟨_, _, _, _, _, _, _, r2, r3, b1, b2, b3, r_bcast bm H _ e e' (by rw [he']), b5, ?_,
    ⟨wga, hd⟩, ⟨⟨by simp [prod], by simp⟩, rfl⟩, ⟨⟨by simp [prod], by simp⟩, rfl⟩, ⟨wgb, hd⟩, ⟨wce1, rfl⟩, ⟨wga, hd⟩,
    ⟨wge, rfl⟩⟩
  simp only [evalRule]
  rw [vArith_same .mul _ _ wge wE (by rw [dE]), he, hs'', hc]
  refine congrArg (fun l => Out.ok (Tensor.mk [n] l)) (List.ext_getElem ?_ fun i h1 h2 => ?_)
  · simp [Tensor.map, hlX, hlG]
  · simp only [Tensor.map, Arith.fn, List.getElem_zipWith, List.getElem_map, List.getElem_replicate, smax,
      add_eq, mul_eq]
    ring

theorem softmax_chain (bm : BMode) (H : Heap ℝ) (x e s s' e' s'' : Nat) (n : Nat) (G : Tensor ℝ)
    (dX : (H.val x).dims = [n])
    (he : H.val e = (H.val x).map Real.exp) (hs : (H.val s).dims = []) (hs' : (H.val s').dims = [1])
    (he' : H.val e' = H.val e) (hs'' : H.val s'' = ⟨[n], List.replicate n (expSum (H.val x))⟩)
    (wX : (H.val x).WF) (wG : G.WF) (hd : G.dims = [n]) :
    ∃ ga gb g1 g2 ce1 ce2 ge,
      evalRule bm H G (.divA s'') = .ok ga ∧
      evalRule bm H G (.divB e' s'') = .ok gb ∧
      evalRule bm H gb (.bcastX s' s'') = .ok g1 ∧
      evalRule bm H g1 (.reshapeX s) = .ok g2 ∧
      evalRule bm H g2 (.sumAlongX e 0) = .ok ce1 ∧
      evalRule bm H ga (.bcastX e e') = .ok ce2 ∧
      vArith .add ce1 ce2 = .ok ge ∧
      evalRule bm H ge (.expX e) = .ok ⟨[n], List.zipWith (fun g a => smax (H.val x) a * (g - bfac bm n * sdot G (H.val x)))
        G.data (H.val x).data⟩ := by
  obtain ⟨ga, gb, g1, g2, ce1, ce2, ge, k1, k2, k3, k4, k5, k6, k7, k8, _⟩ :=
    softmax_chain_wf bm H x e s s' e' s'' n G dX he hs hs' he' hs'' wX wG hd
  exact ⟨ga, gb, g1, g2, ce1, ce2, ge, k1, k2, k3, k4, k5, k6, k7, k8⟩

/-- **Softmax (rank-1 input, `Dim = 0`), local backward pass, `Broadcast` rule in `sum` mode.**
    The graph `actForward (.softmax 0)` builds on `x` of shape `[n]` (see `softmax_graph`): `e = Exp(x)`,
    `s = SumAlong(e,0)` (shape `[]`), `s' = UnSqueeze(s,0)` (shape `[1]`), `r = Div(e', s'')` with `e' = Broadcast(e,[n])`
    (identity) and `s'' = Broadcast(s',[n])` (a genuine expansion `[1] → [n]`). With `G` the gradient arriving at `r`, in
    the order the walk processes the edges: the two `Div` rules; towards the denominator the `Broadcast` rule
    `[n] → [1]`, `Reshape` to `[]`, the `SumAlong` rule (re-expansion to `[n]`); towards the numerator the identity
    `Broadcast` rule; the sum of the two contributions at `e`; the `Exp` rule. What arrives at `x` is
    `s_j · (G_j − Σ_i G_i s_i)` at every position `j`, `s = softmax(x)` — the product of `G` with the Jacobian
    `∂s_i/∂x_j = s_i (δ_ij − s_j)` (`softmax_jacobian_vjp`, `d_softmax`). Every length `n`, all values.

    Stated for `BMode.sum` only: with `BMode.mean` (what the library does, finding D2) the `[n] → [1]` step averages
    and the result is `s_j · (G_j − (1/n) Σ_i G_i s_i)`, wrong for `n > 1` — `softmax_local_vjp_mean_partial`. -/
theorem softmax_local_vjp (H : Heap ℝ) (x e s s' e' s'' : Nat) (n : Nat) (G : Tensor ℝ)
    (dX : (H.val x).dims = [n])
    (he : H.val e = (H.val x).map Real.exp) (hs : (H.val s).dims = []) (hs' : (H.val s').dims = [1])
    (he' : H.val e' = H.val e) (hs'' : H.val s'' = ⟨[n], List.replicate n (expSum (H.val x))⟩)
    (wX : (H.val x).WF) (wG : G.WF) (hd : G.dims = [n]) :
    ∃ ga gb g1 g2 ce1 ce2 ge,
      evalRule .sum H G (.divA s'') = .ok ga ∧
      evalRule .sum H G (.divB e' s'') = .ok gb ∧
      evalRule .sum H gb (.bcastX s' s'') = .ok g1 ∧
      evalRule .sum H g1 (.reshapeX s) = .ok g2 ∧
      evalRule .sum H g2 (.sumAlongX e 0) = .ok ce1 ∧
      evalRule .sum H ga (.bcastX e e') = .ok ce2 ∧
      vArith .add ce1 ce2 = .ok ge ∧
      evalRule .sum H ge (.expX e) = .ok ⟨[n], List.zipWith (fun g a => smax (H.val x) a * (g - sdot G (H.val x)))
        G.data (H.val x).data⟩ := by
  have key := softmax_chain .sum H x e s s' e' s'' n G dX he hs hs' he' hs'' wX wG hd
  simp only [bfac, one_mul] at key
  exact key

/-- **Softmax with the library's `Broadcast` rule (`mean` mode, finding D2)** — the strongest true statement: the same
    chain delivers `s_j · (G_j − (1/n) Σ_i G_i s_i)`. This is NOT the vector-Jacobian product for `n > 1` whenever
    `Σ_i G_i s_i ≠ 0` (`softmax_mean_ne_vjp`); e.g. `x = [0,0]`, `G = [1,0]`: `s = [½,½]`, the product with the
    Jacobian is `[¼, −¼]`, the `mean` chain delivers `[⅜, −⅛]`. For `n = 1` both are `0`. -/
theorem softmax_local_vjp_mean_partial (H : Heap ℝ) (x e s s' e' s'' : Nat) (n : Nat) (G : Tensor ℝ)
    (dX : (H.val x).dims = [n])
    (he : H.val e = (H.val x).map Real.exp) (hs : (H.val s).dims = []) (hs' : (H.val s').dims = [1])
    (he' : H.val e' = H.val e) (hs'' : H.val s'' = ⟨[n], List.replicate n (expSum (H.val x))⟩)
    (wX : (H.val x).WF) (wG : G.WF) (hd : G.dims = [n]) :
    ∃ ga gb g1 g2 ce1 ce2 ge,
      evalRule .mean H G (.divA s'') = .ok ga ∧
      evalRule .mean H G (.divB e' s'') = .ok gb ∧
      evalRule .mean H gb (.bcastX s' s'') = .ok g1 ∧
      evalRule .mean H g1 (.reshapeX s) = .ok g2 ∧
      evalRule .mean H g2 (.sumAlongX e 0) = .ok ce1 ∧
      evalRule .mean H ga (.bcastX e e') = .ok ce2 ∧
      vArith .add ce1 ce2 = .ok ge ∧
      evalRule .mean H ge (.expX e) = .ok ⟨[n], List.zipWith (fun g a => smax (H.val x) a * (g - 1 / (n : ℝ) * sdot G (H.val x)))
        G.data (H.val x).data⟩ :=
  softmax_chain .mean H x e s s' e' s'' n G dX he hs hs' he' hs'' wX wG hd

/-- averaging instead of summing the `n > 1` copies changes the result unless the sum `d` vanishes -/
theorem mean_ne_vjp {s g d : ℝ} {n : Nat} (hs : s ≠ 0) (hn : 1 < n) (hd : d ≠ 0) :
    s * (g - 1 / (n : ℝ) * d) ≠ s * (g - d) := by
  intro h
  have h2 : 1 / (n : ℝ) * d = 1 * d := (sub_right_inj.mp (mul_left_cancel₀ hs h)).trans (one_mul d).symm
  have h3 : (n : ℝ) = 1 := inv_eq_one.mp ((one_div _).symm.trans (mul_right_cancel₀ hd h2))
  exact absurd (Nat.cast_eq_one.mp h3) (Nat.ne_of_gt hn)

/-- the `mean` result differs from the vector-Jacobian product at EVERY position as soon as `n > 1` and
    `Σ_i G_i s_i ≠ 0` -/
theorem softmax_mean_ne_vjp (X : Tensor ℝ) (wX : X.WF) (n : Nat) (hn : 1 < n) (g a d : ℝ) (hd : d ≠ 0) :
    smax X a * (g - 1 / (n : ℝ) * d) ≠ smax X a * (g - d) :=
  mean_ne_vjp (div_pos (Real.exp_pos a) (expSum_pos X wX)).ne' hn hd

noncomputable def softmaxF {n : ℕ} (x : Fin n → ℝ) (i : Fin n) : ℝ := Real.exp (x i) / ∑ k, Real.exp (x k)

theorem quot_rule (δ ei ej S : ℝ) (hS : S ≠ 0) : (δ * ei * S - ei * ej) / S ^ 2 = ei / S * (δ - ej / S) := by
  field_simp

theorem d_softmax {n : ℕ} (x : Fin n → ℝ) (i j : Fin n) :
    HasDerivAt (fun t => softmaxF (Function.update x j t) i)
      (softmaxF x i * ((if i = j then 1 else 0) - softmaxF x j)) (x j) := by
  have hD : HasDerivAt (fun t => ∑ k, Real.exp (Function.update x j t k)) (Real.exp (x j)) (x j) := by
    have := hasDerivAt_weighted_map Real.exp Real.exp x (fun _ => 1) j (Real.hasDerivAt_exp (x j))
    simpa using this
  have hN : HasDerivAt (fun t => Real.exp (Function.update x j t i)) ((if i = j then 1 else 0) * Real.exp (x i)) (x j) := by
    by_cases hij : i = j
    · subst hij
      simp only [Function.update_self, if_true, one_mul]
      exact Real.hasDerivAt_exp (x i)
    · simp only [Function.update_of_ne hij, hij, if_false, zero_mul]
      exact hasDerivAt_const _ _
  have hS : (0 : ℝ) < ∑ k, Real.exp (x k) :=
    Finset.sum_pos (fun k _ => Real.exp_pos (x k)) ⟨j, Finset.mem_univ j⟩
  have hne : (fun t => ∑ k, Real.exp (Function.update x j t k)) (x j) ≠ 0 := by
    simp only [Function.update_eq_self]; exact hS.ne'
  have h := hN.div hD hne
  simp only [Function.update_eq_self] at h
  exact h.congr_deriv (quot_rule _ _ _ _ hS.ne')

theorem softmax_jacobian_vjp {n : ℕ} (x g : Fin n → ℝ) (j : Fin n) :
    ∑ i, g i * (softmaxF x i * ((if i = j then 1 else 0) - softmaxF x j))
      = softmaxF x j * (g j - ∑ i, g i * softmaxF x i) := by
  have h1 : ∀ i, g i * (softmaxF x i * ((if i = j then 1 else 0) - softmaxF x j))
      = (if i = j then g i * softmaxF x i else 0) - softmaxF x j * (g i * softmaxF x i) := by
    intro i
    by_cases hij : i = j
    · simp only [hij, if_true]; ring
    · simp only [hij, if_false]; ring
  simp only [h1, Finset.sum_sub_distrib, Finset.sum_ite_eq', Finset.mem_univ, if_true, ← Finset.mul_sum]
  ring

/-- **the vector-Jacobian product of Softmax**: the partial derivative with respect to `x_j` of the `g`-weighted sum of
    the outputs is `s_j (g_j − Σ_i g_i s_i)` — what `softmax_local_vjp` shows the rules deliver -/
theorem softmax_vjp_deriv {n : ℕ} (x g : Fin n → ℝ) (j : Fin n) :
    HasDerivAt (fun t => ∑ i, g i * softmaxF (Function.update x j t) i)
      (softmaxF x j * (g j - ∑ i, g i * softmaxF x i)) (x j) := by
  have h : ∀ i ∈ (Finset.univ : Finset (Fin n)),
      HasDerivAt (fun t => g i * softmaxF (Function.update x j t) i)
        (g i * (softmaxF x i * ((if i = j then 1 else 0) - softmaxF x j))) (x j) :=
    fun i _ => (d_softmax x i j).const_mul (g i)
  have := HasDerivAt.fun_sum h
  rw [softmax_jacobian_vjp] at this
  exact this

/-- bridge: the list-level quantities of `softmax_local_vjp` are the `Fin n` ones -/
theorem smax_ofFn {n : ℕ} (x : Fin n → ℝ) (X : Tensor ℝ) (hX : X.data = List.ofFn x) (j : Fin n) :
    smax X (x j) = softmaxF x j := by
  unfold smax softmaxF expSum
  rw [hX, List.map_ofFn, List.sum_ofFn]
  rfl

theorem sdot_ofFn {n : ℕ} (x g : Fin n → ℝ) (G X : Tensor ℝ) (hG : G.data = List.ofFn g) (hX : X.data = List.ofFn x) :
    sdot G X = ∑ i, g i * softmaxF x i := by
  have hz : List.zipWith (fun g a => g * smax X a) G.data X.data = List.ofFn (fun i => g i * softmaxF x i) := by
    rw [hG]
    conv => lhs; rw [hX]
    apply List.ext_getElem
    · simp
    · intro i h1 h2
      simp only [List.getElem_zipWith, List.getElem_ofFn]
      rw [smax_ofFn x X hX]
  unfold sdot
  rw [hz, List.sum_ofFn]

/-- **the graph Softmax (`Dim = 0`) builds** on a tracked, unspent rank-1 input `x` of shape `[n]`: six new tensors
    `e = Exp(x)`, `s = SumAlong(e,0)`, `s' = UnSqueeze(s,0)`, `e' = Broadcast(e,[n])`, `s'' = Broadcast(s',[n])`,
    `r = Div(e',s'')`; their values — in particular **`r_j = exp(x_j) / Σ_k exp(x_k)`** — and their back edges -/
theorem softmax_graph (H : Heap ℝ) (x n : Nat) (hwf : (H.val x).WF) (dX : (H.val x).dims = [n]) (l : Live H x) :
    ∃ e s s' e' s'' r H', actForward (Activation.softmax 0) [some x] H = .ok (r, H') ∧ Extends H H' ∧
      H'.val x = H.val x ∧
      H'.val e = (H.val x).map Real.exp ∧ (H'.val s).dims = [] ∧ (H'.val s').dims = [1] ∧
      H'.val e' = H'.val e ∧ H'.val s'' = ⟨[n], List.replicate n (expSum (H.val x))⟩ ∧
      H'.val r = (H.val x).map (smax (H.val x)) ∧
      H'.ctx e = liveCtx [⟨x, .expX e⟩] ∧
      H'.ctx s = liveCtx [⟨e, .sumAlongX e 0⟩] ∧
      H'.ctx s' = liveCtx [⟨s, .reshapeX s⟩] ∧
      H'.ctx e' = liveCtx [⟨e, .bcastX e e'⟩] ∧
      H'.ctx s'' = liveCtx [⟨s', .bcastX s' s''⟩] ∧
      H'.ctx r = liveCtx [⟨e', .divA s''⟩, ⟨s'', .divB e' s''⟩] := by
  have hn : 0 < n := hwf.2 n (by rw [dX]; simp)
  obtain ⟨r, H', hrun, hext, hval⟩ := C12x.softmax_value H x n l.1 hwf dX
  have hprog := (C14.actForward_softmax 0 x H).symm.trans hrun
  rw [if_neg (by rw [dX]; exact Nat.not_succ_le_zero 0)] at hprog
  obtain ⟨e, H1, g1, h⟩ := bind_ok hprog
  obtain ⟨ve, e1, ce, le1⟩ := hUnary_live g1 l
  obtain ⟨s, H2, g2, h⟩ := bind_ok h
  obtain ⟨vs, e2, cs, ls⟩ := hAlong_live g2 le1
  obtain ⟨s', H3, g3, g4⟩ := bind_ok h
  obtain ⟨vs', e3, cs', ls'⟩ := hUnSqueeze_live g3 ls
  have le3 : Live H3 e := (le1.ext e2).ext e3
  obtain ⟨e', s'', e4, ve', vs'', _, ce', cs'', cr, le', ls'', lr⟩ := hArith_live g4 le3 ls'
  have vE : H1.val e = (H.val x).map Real.exp := ve
  have wE : (H1.val e).WF := by rw [vE]; exact map_wf _ _ hwf
  have dE : (H1.val e).dims = [n] := by rw [vE]; exact dX
  have hsum : (H1.val e).sum = expSum (H.val x) := by rw [C12x.tensor_sum, vE]; rfl
  have vS : H2.val s = ⟨[], [expSum (H.val x)]⟩ := by
    have := C12.vAlong_rank1 .sum _ n dE wE
    rw [show ((0 : Int)) = ((0 : Nat) : Int) from rfl, vs] at this
    rw [Out.ok.inj this, Reducer.fn, hsum]
  have vS' : H3.val s' = ⟨[1], [expSum (H.val x)]⟩ := by
    rw [vS] at vs'
    exact (Out.ok.inj ((C12x.vUnSqueeze_scalar _).symm.trans vs')).symm
  have vE3 : H3.val e = (H.val x).map Real.exp := by rw [(e2.trans e3).val le1.1, vE]
  have d3 : (H3.val e).dims = [n] := by rw [vE3]; exact dX
  rw [vS', d3, C12x.targetBroadcast_n_one n hn] at ve' vs''
  rw [← d3, vBroadcastN_self _ (by rw [vE3]; exact map_wf _ _ hwf)] at ve'
  rw [C12x.vBroadcastN_one n _ hn] at vs''
  refine ⟨e, s, s', e', s'', r, H', hrun, hext, hext.val l.1, ?_, ?_, ?_, ?_, (Out.ok.inj vs'').symm, ?_, ?_, ?_, ?_,
    ce', cs'', cr⟩
  · rw [e4.val le3.1, vE3]
  · rw [(e3.trans e4).val ls.1, vS]
  · rw [e4.val ls'.1, vS']
  · rw [e4.val le3.1]; exact (Out.ok.inj ve').symm
  · rw [hval, ← dX]; rfl
  · rw [((e2.trans e3).trans e4).ctx le1.1, ce]; rfl
  · rw [(e3.trans e4).ctx ls.1, cs]; rfl
  · rw [e4.ctx ls'.1, cs']

/-! ## Graph and local backward pass together

For the heap the forward pass actually returns: the back edges (which rule sits on which edge) and, for every
upstream gradient `G` of the result's shape, the local backward pass along exactly those edges. By
`C01.backprop_adjoint` these rule applications are what `BackPropagate` performs, once per edge. -/

theorem sigmoid_vjp_on_graph (bm : BMode) (H : Heap ℝ) (x : Nat) (hwf : (H.val x).WF) (l : Live H x) :
    ∃ o x1 x2 o' x2' y r H', actForward Activation.sigmoid [some x] H = .ok (r, H') ∧
      H'.val r = (H.val x).map sig ∧
      H'.ctx r = liveCtx [⟨y, .powX y (-1)⟩] ∧ H'.ctx y = liveCtx [⟨o', .idG⟩, ⟨x2', .idG⟩] ∧
      H'.ctx o' = liveCtx [⟨o, .bcastX o o'⟩] ∧ H'.ctx x2' = liveCtx [⟨x2, .bcastX x2 x2'⟩] ∧
      H'.ctx o = liveCtx [⟨x, .powX x 0⟩] ∧ H'.ctx x2 = liveCtx [⟨x1, .expX x2⟩] ∧ H'.ctx x1 = liveCtx [⟨x, .scaleX (-1)⟩] ∧
      ∀ G : Tensor ℝ, G.WF → G.dims = (H.val x).dims →
        ∃ gy go gx2 gx1 c1 c2,
          evalRule bm H' G (.powX y (-1)) = .ok gy ∧ evalRule bm H' gy .idG = .ok gy ∧
          evalRule bm H' gy (.bcastX o o') = .ok go ∧ evalRule bm H' gy (.bcastX x2 x2') = .ok gx2 ∧
          evalRule bm H' go (.powX x 0) = .ok c1 ∧
          evalRule bm H' gx2 (.expX x2) = .ok gx1 ∧ evalRule bm H' gx1 (.scaleX (-1)) = .ok c2 ∧
          vArith .add c2 c1 = .ok ⟨G.dims, List.zipWith (fun g a => g * (sig a * (1 - sig a))) G.data (H.val x).data⟩ := by
  obtain ⟨o, x1, x2, o', x2', y, r, H', hrun, _, hx, hx2, ho', hx2', hy, hr, co, cx1, cx2, co', cx2', cy, cr⟩ :=
    sigmoid_graph H x hwf l
  refine ⟨o, x1, x2, o', x2', y, r, H', hrun, hr, cr, cy, co', cx2', co, cx2, cx1, ?_⟩
  intro G wG hd
  have := (sigmoid_local_vjp bm H' x o x2 o' x2' y G (by rw [hx]; exact hx2) ho' hx2' (by rw [hx]; exact hy)
    (by rw [hx]; exact hwf) wG (by rw [hx]; exact hd)).1
  rw [hx] at this
  exact this

theorem leaky_vjp_on_graph (bm : BMode) (m : ℝ) (H : Heap ℝ) (x : Nat) (hwf : (H.val x).WF) (l : Live H x) :
    ∃ z s1 s2 s3 s1' s3' r H', actForward (Activation.leaky m) [some x] H = .ok (r, H') ∧
      H'.val r = (H.val x).map (fun a => max 0 a + m * min 0 a) ∧
      H'.ctx r = liveCtx [⟨s1', .idG⟩, ⟨s3', .idG⟩] ∧
      H'.ctx s1' = liveCtx [⟨s1, .bcastX s1 s1'⟩] ∧ H'.ctx s3' = liveCtx [⟨s3, .bcastX s3 s3'⟩] ∧
      H'.ctx s3 = liveCtx [⟨s2, .scaleX m⟩] ∧
      H'.ctx s2 = liveCtx [⟨z, .elext s2 z x⟩, ⟨x, .elext s2 x z⟩] ∧
      H'.ctx s1 = liveCtx [⟨z, .elext s1 z x⟩, ⟨x, .elext s1 x z⟩] ∧
      H'.ctx z = liveCtx [⟨x, .scaleX 0⟩] ∧
      ∀ G : Tensor ℝ, G.WF → G.dims = (H.val x).dims →
        ∃ g2 gz2 c2 gz1 c1 gzt cz c21,
          evalRule bm H' G .idG = .ok G ∧
          evalRule bm H' G (.bcastX s1 s1') = .ok G ∧ evalRule bm H' G (.bcastX s3 s3') = .ok G ∧
          evalRule bm H' G (.scaleX m) = .ok g2 ∧
          evalRule bm H' g2 (.elext s2 z x) = .ok gz2 ∧ evalRule bm H' g2 (.elext s2 x z) = .ok c2 ∧
          evalRule bm H' G (.elext s1 z x) = .ok gz1 ∧ evalRule bm H' G (.elext s1 x z) = .ok c1 ∧
          vArith .add gz2 gz1 = .ok gzt ∧ evalRule bm H' gzt (.scaleX 0) = .ok cz ∧
          vArith .add c2 c1 = .ok c21 ∧
          vArith .add c21 cz = .ok ⟨G.dims, List.zipWith (fun g a => g * leakyD m a) G.data (H.val x).data⟩ := by
  obtain ⟨z, s1, s2, s3, s1', s3', r, H', hrun, _, hx, hz, hs1, hs2, hs1', hs3', hr, cz, cs1, cs2, cs3, cs1', cs3', cr⟩ :=
    leaky_graph m H x hwf l
  refine ⟨z, s1, s2, s3, s1', s3', r, H', hrun, hr, cr, cs1', cs3', cs3, cs2, cs1, cz, ?_⟩
  intro G wG hd
  have := (leaky_local_vjp bm H' x z s1 s2 s3 s1' s3' m G (by rw [hx]; exact hz) (by rw [hx]; exact hs1)
    (by rw [hx]; exact hs2) hs1' hs3' (by rw [hx]; exact hwf) wG (by rw [hx]; exact hd)).1
  rw [hx] at this
  exact this

theorem softmax_vjp_on_graph (H : Heap ℝ) (x n : Nat) (hwf : (H.val x).WF) (dX : (H.val x).dims = [n]) (l : Live H x) :
    ∃ e s s' e' s'' r H', actForward (Activation.softmax 0) [some x] H = .ok (r, H') ∧
      H'.val r = (H.val x).map (smax (H.val x)) ∧
      H'.ctx r = liveCtx [⟨e', .divA s''⟩, ⟨s'', .divB e' s''⟩] ∧
      H'.ctx s'' = liveCtx [⟨s', .bcastX s' s''⟩] ∧ H'.ctx s' = liveCtx [⟨s, .reshapeX s⟩] ∧
      H'.ctx s = liveCtx [⟨e, .sumAlongX e 0⟩] ∧ H'.ctx e' = liveCtx [⟨e, .bcastX e e'⟩] ∧
      H'.ctx e = liveCtx [⟨x, .expX e⟩] ∧
      ∀ G : Tensor ℝ, G.WF → G.dims = [n] →
        ∃ ga gb g1 g2 ce1 ce2 ge,
          evalRule .sum H' G (.divA s'') = .ok ga ∧ evalRule .sum H' G (.divB e' s'') = .ok gb ∧
          evalRule .sum H' gb (.bcastX s' s'') = .ok g1 ∧ evalRule .sum H' g1 (.reshapeX s) = .ok g2 ∧
          evalRule .sum H' g2 (.sumAlongX e 0) = .ok ce1 ∧ evalRule .sum H' ga (.bcastX e e') = .ok ce2 ∧
          vArith .add ce1 ce2 = .ok ge ∧
          evalRule .sum H' ge (.expX e) = .ok ⟨[n], List.zipWith (fun g a => smax (H.val x) a * (g - sdot G (H.val x)))
            G.data (H.val x).data⟩ := by
  obtain ⟨e, s, s', e', s'', r, H', hrun, _, hx, he, hs, hs', he', hs'', hr, ce, cs, cs', ce', cs'', cr⟩ :=
    softmax_graph H x n hwf dX l
  refine ⟨e, s, s', e', s'', r, H', hrun, hr, cr, cs'', cs', cs, ce', ce, ?_⟩
  intro G wG hd
  have := softmax_local_vjp H' x e s s' e' s'' n G (by rw [hx]; exact dX) (by rw [hx]; exact he) hs hs' he'
    (by rw [hx]; exact hs'') (by rw [hx]; exact hwf) wG hd
  rw [hx] at this
  exact this

/-- non-vacuity: a heap with a tracked, unspent, well-formed rank-1 tensor -/
example : ∃ (H : Heap ℝ) (x : Nat), (H.val x).WF ∧ (H.val x).dims = [2] ∧ Live H x :=
  ⟨#[⟨⟨[2], [1, -1]⟩, freshCtx true⟩], 0, ⟨rfl, by decide⟩, rfl, Nat.one_pos, rfl, rfl⟩

end C15x
end Qeep
