import QeepProps.C15x
import QeepProps.C14y
import QeepProps.C02x
/-!
# C15, continued — Softmax along the configured dim, every rank: graph and local backward pass

`QeepProps/C15x.lean` treats Softmax on a rank-1 input. Here: input dims `P ++ n :: R`, `Dim = P.length` (every rank
`≥ 1`, every valid dim), over `ℝ`, at index level (`Tensor.el`, index `p ++ i :: q`).

`softmax_graph_split`: the six tensors `actForward (.softmax dim)` allocates on a tracked, unspent input, their values
and back edges. `softmax_local_vjp_split` (`BMode.sum`): the rules along those edges map an upstream gradient `G` to
`s[p,i,q] · (G[p,i,q] − Σ_k G[p,k,q] · s[p,k,q])`, the vector-Jacobian product of softmax on the fibre through
`(p, ·, q)` (`softmax_split_is_vjp`, from `C15x.d_softmax` and Mathlib `HasDerivAt`). `softmax_vjp_on_graph_any` has
both on the heap the forward pass returns. With the library's `Broadcast` rule (`BMode.mean`, finding D2) the same
chain delivers `s · (G − (1/n) Σ_k G_k s_k)`, which differs from the vector-Jacobian product at every position when
`n > 1` and `Σ_k G_k s_k ≠ 0` (`softmax_mean_ne_vjp_split`).
-/

set_option linter.unusedSectionVars false
namespace Qeep
namespace C15y
open RealScalar

section Generic
variable {α : Type} [Scalar α]

theorem zip_el (f : α → α → α) (a b : Tensor α) (ha : a.WF) (hb : b.WF) (hd : a.dims = b.dims) {u : List Nat}
    (hu : Valid a.dims u) :
    (⟨a.dims, List.zipWith f a.data b.data⟩ : Tensor α).el u = f (a.el u) (b.el u) := by
  have h1 := at?_some_el a ha hu
  have h2 := at?_some_el b hb (by rw [← hd]; exact hu)
  rw [C02x.at?_valid a hu] at h1
  rw [C02x.at?_valid b (by rw [← hd]; exact hu), ← hd] at h2
  apply el_of_at?
  rw [C02x.at?_valid (⟨a.dims, List.zipWith f a.data b.data⟩ : Tensor α) hu]
  simp only [List.getElem?_zipWith, h1, h2]

theorem arith_same_el (o : Arith) (a b : Tensor α) (ha : a.WF) (hb : b.WF) (hd : a.dims = b.dims) :
    ∃ r, vArith o a b = .ok r ∧ r.WF ∧ r.dims = a.dims ∧
      ∀ u, Valid a.dims u → r.el u = o.fn (a.el u) (b.el u) :=
  ⟨_, vArith_same o a b ha hb hd, zip_wf _ a b ha hb hd, rfl, fun _ hu => zip_el _ a b ha hb hd hu⟩

theorem eraseIdx_split (p q : List Nat) (k : Nat) : (p ++ k :: q).eraseIdx p.length = p ++ q := by
  induction p with
  | nil => rfl
  | cons a p ih => simp only [List.cons_append, List.length_cons, List.eraseIdx_cons_succ, ih]

theorem bcastExpand_prefix (red : Tensor α → Int → Out (Tensor α)) (g : Tensor α) (S D : List Nat) :
    ∀ (P : List Nat) (j : Nat), bcastExpand red j (P ++ S) (P ++ D) g = bcastExpand red (j + P.length) S D g
  | [], j => rfl
  | a :: P, j => by
    simp only [List.cons_append, bcastExpand, ne_eq, not_true_eq_false, if_false, List.length_cons]
    rw [bcastExpand_prefix red g S D P (j + 1)]
    congr 1
    omega

theorem bcastExpand_split (red : Tensor α → Int → Out (Tensor α)) (P R : List Nat) (n : Nat) (hn : 1 ≠ n) (g : Tensor α) :
    bcastExpand red 0 (P ++ 1 :: R) (P ++ n :: R) g
      = (red g (P.length : Int)).bind (fun g1 => vUnSqueeze g1 (P.length : Int)) := by
  rw [bcastExpand_prefix]
  simp only [Nat.zero_add, bcastExpand, hn, ne_eq, not_false_eq_true, if_true, bind, Out.bind]
  cases h1 : red g (P.length : Int) with
  | err => rfl
  | panic => rfl
  | ok g1 =>
    simp only []
    cases h2 : vUnSqueeze g1 (P.length : Int) with
    | err => rfl
    | panic => rfl
    | ok g2 =>
      simp only []
      exact C13.bcastExpand_same _ g2 _ R

theorem bcastRule_split (bm : BMode) (P R : List Nat) (n : Nat) (hn : 1 ≠ n) (g : Tensor α) :
    bcastRule bm (P ++ 1 :: R) (P ++ n :: R) g
      = (vAlong (C13.bmRed bm) g (P.length : Int)).bind (fun g1 => vUnSqueeze g1 (P.length : Int)) := by
  have hl : (P ++ n :: R).length - (P ++ 1 :: R).length = 0 := by simp
  unfold bcastRule
  simp only [hl, bcastLead, bind, Out.bind, List.drop_zero]
  rw [bcastExpand_split _ P R n hn]
  cases bm <;> rfl

end Generic


section Generic2
variable {α : Type} [Scalar α]

/-- the rule of `UnSqueeze(P.length)` -/
theorem reshape_rule_el (bm : BMode) (H : Heap α) (s : Nat) (P R : List Nat) (g1 : Tensor α) (w1 : g1.WF)
    (d1 : g1.dims = P ++ 1 :: R) (hs : (H.val s).dims = P ++ R) :
    ∃ g2, evalRule bm H g1 (.reshapeX s) = .ok g2 ∧ g2.WF ∧ g2.dims = P ++ R ∧
      ∀ p q, Valid P p → Valid R q → g2.el (p ++ q) = g1.el (p ++ 0 :: q) := by
  have hpos : ∀ d ∈ P ++ R, 0 < d := by
    intro d hdm
    apply w1.2 d
    rw [d1]
    rcases List.mem_append.mp hdm with h | h
    · exact List.mem_append_left _ h
    · exact List.mem_append_right _ (List.mem_cons_of_mem _ h)
  have hprod : prod (P ++ R) = prod g1.dims := by
    rw [d1, prod_append, prod_append]; simp [prod]
  have h := (C06.vReshape_total g1 w1 ((P ++ R).map Int.ofNat)).1
    ⟨validInputDims_ofNat _ hpos, by rw [natDims_ofNat]; exact hprod⟩
  rw [natDims_ofNat] at h
  have w2 : (⟨P ++ R, g1.data⟩ : Tensor α).WF := ⟨by show g1.data.length = prod (P ++ R); rw [hprod]; exact w1.1, hpos⟩
  refine ⟨⟨P ++ R, g1.data⟩, by simp only [evalRule, hs]; exact h, w2, rfl, ?_⟩
  intro p q hp hq
  obtain ⟨r, e, _, dr, fr⟩ := unsqueeze_el (⟨P ++ R, g1.data⟩ : Tensor α) w2 P R rfl
  obtain ⟨hdata, _⟩ := C02x.reshape_fwd (.unsqueeze (P.length : Int)) _ r w2 e
  have hr : r = g1 := by
    cases r; cases g1
    simp only [Tensor.mk.injEq] at *
    exact ⟨dr.trans d1.symm, hdata⟩
  rw [← fr p q hp hq, hr]

end Generic2

theorem bred_fn (bm : BMode) (n : Nat) (l : List ℝ) :
    (C13.bmRed bm).fn (⟨[n], l⟩ : Tensor ℝ) = C15x.bfac bm n * l.sum := by
  cases bm with
  | sum => simp only [C13.bmRed, Reducer.fn, C12x.tensor_sum, C15x.bfac, one_mul]
  | mean =>
    simp only [C13.bmRed, Reducer.fn, Tensor.avg, C12x.tensor_sum, C15x.bfac, Tensor.numElems, prod, div_eq, ofNat_eq,
      Nat.mul_one]
    rw [div_eq_mul_inv, one_div, mul_comm]

/-- the `Broadcast` rule `[P, 1, R] → [P, n, R]` at index level: element `(p, 0, q)` of the result is the sum (`sum`
    mode) or the average (`mean` mode, the library, finding D2) of the upstream gradient over the `n` positions
    `(p, k, q)` the element was copied to. -/
theorem bcast_split_el (bm : BMode) (P R : List Nat) (n : Nat) (g : Tensor ℝ) (wg : g.WF) (dg : g.dims = P ++ n :: R) :
    ∃ r, bcastRule bm (P ++ 1 :: R) (P ++ n :: R) g = .ok r ∧ r.WF ∧ r.dims = P ++ 1 :: R ∧
      ∀ p q, Valid P p → Valid R q →
        r.el (p ++ 0 :: q) = C15x.bfac bm n * ((List.range n).map (fun k => g.el (p ++ k :: q))).sum := by
  by_cases h1 : n = 1
  · subst h1
    refine ⟨g, C13.bcastRule_same bm _ g, wg, dg, ?_⟩
    intro p q _ _
    cases bm <;> simp [C15x.bfac]
  · have hne : (1 : Nat) ≠ n := fun h => h1 h.symm
    have hdim : P.length < g.dims.length := by rw [dg]; simp
    obtain ⟨r1, e1, w1, d1, f1⟩ := C14y.along_el (C13.bmRed bm) g wg P.length hdim
    rw [dg, C14y.squeeze_split] at d1 f1
    rw [C14y.getD_split] at f1
    obtain ⟨r, e2, w2, d2, f2⟩ := unsqueeze_el r1 w1 P R d1
    refine ⟨r, ?_, w2, d2, ?_⟩
    · rw [bcastRule_split bm P R n hne, e1]; exact e2
    · intro p q hp hq
      rw [f2 p q hp hq, f1 (p ++ q) (valid_app hp hq), bred_fn]
      refine congrArg (fun l => C15x.bfac bm n * List.sum l) (List.map_congr_left fun k _ => ?_)
      rw [← hp.length_eq, C14y.insAt_split]


noncomputable def den (X : Tensor ℝ) (n : Nat) (p q : List Nat) : ℝ :=
  ((List.range n).map (fun k => Real.exp (X.el (p ++ k :: q)))).sum

noncomputable def sm (X : Tensor ℝ) (n : Nat) (p : List Nat) (i : Nat) (q : List Nat) : ℝ :=
  Real.exp (X.el (p ++ i :: q)) / den X n p q

noncomputable def gdot (G X : Tensor ℝ) (n : Nat) (p q : List Nat) : ℝ :=
  ((List.range n).map (fun k => G.el (p ++ k :: q) * sm X n p k q)).sum

theorem scale_el (t : Tensor ℝ) (wt : t.WF) (c : ℝ) {u : List Nat} (hu : Valid t.dims u) :
    (vScale t c).el u = c * t.el u := by
  unfold vScale; rw [C14y.map_el _ t wt hu]; rfl

theorem pow_el (t : Tensor ℝ) (wt : t.WF) (c : ℝ) {u : List Nat} (hu : Valid t.dims u) :
    (vPow t c).el u = (t.el u) ^ c := by
  unfold vPow; rw [C14y.map_el _ t wt hu]; rfl

/-- the Softmax chain for either mode of the `Broadcast` rule (`bfac` is `1` or `1/n`):
    `s[p,i,q] · (G[p,i,q] − bfac · Σ_k G[p,k,q] s[p,k,q])` arrives at `x` -/
theorem softmax_chain_split (bm : BMode) (H : Heap ℝ) (x e s s' e' s'' : Nat) (P R : List Nat) (n : Nat) (G : Tensor ℝ)
    (dX : (H.val x).dims = P ++ n :: R)
    (he : H.val e = (H.val x).map Real.exp) (hs : (H.val s).dims = P ++ R) (hs' : (H.val s').dims = P ++ 1 :: R)
    (he' : H.val e' = H.val e)
    (ws'' : (H.val s'').WF) (ds'' : (H.val s'').dims = P ++ n :: R)
    (vs'' : ∀ p i q, Valid P p → i < n → Valid R q → (H.val s'').el (p ++ i :: q) = den (H.val x) n p q)
    (wX : (H.val x).WF) (wG : G.WF) (hd : G.dims = P ++ n :: R) :
    ∃ ga gb g1 g2 ce1 ce2 ge gx,
      evalRule bm H G (.divA s'') = .ok ga ∧
      evalRule bm H G (.divB e' s'') = .ok gb ∧
      evalRule bm H gb (.bcastX s' s'') = .ok g1 ∧
      evalRule bm H g1 (.reshapeX s) = .ok g2 ∧
      evalRule bm H g2 (.sumAlongX e P.length) = .ok ce1 ∧
      evalRule bm H ga (.bcastX e e') = .ok ce2 ∧
      vArith .add ce1 ce2 = .ok ge ∧
      evalRule bm H ge (.expX e) = .ok gx ∧ gx.WF ∧ gx.dims = P ++ n :: R ∧
      ∀ p i q, Valid P p → i < n → Valid R q →
        gx.el (p ++ i :: q)
          = sm (H.val x) n p i q * (G.el (p ++ i :: q) - C15x.bfac bm n * gdot G (H.val x) n p q) := by
  have hv : ∀ {p : List Nat} {i : Nat} {q : List Nat}, Valid P p → i < n → Valid R q →
      Valid (P ++ n :: R) (p ++ i :: q) := fun hp hi hq => valid_app hp (.cons hi hq)
  have wE : (H.val e).WF := by rw [he]; exact map_wf _ _ wX
  have dE : (H.val e).dims = P ++ n :: R := by rw [he]; exact dX
  have elE : ∀ u, Valid (P ++ n :: R) u → (H.val e).el u = Real.exp ((H.val x).el u) := by
    intro u hu; rw [he]; exact C14y.map_el _ _ wX (by rw [dX]; exact hu)
  have wE' : (H.val e').WF := by rw [he']; exact wE
  have dE' : (H.val e').dims = P ++ n :: R := by rw [he']; exact dE
  -- Div, towards the numerator
  obtain ⟨ga, ea, wa, da, fa⟩ := arith_same_el .div G (H.val s'') wG ws'' (by rw [hd, ds''])
  -- Div, towards the denominator
  have wn : (vScale (H.val e') (Scalar.neg Scalar.one)).WF := map_wf _ _ wE'
  have wd : (vPow (H.val s'') Scalar.two).WF := map_wf _ _ ws''
  have dn : (vScale (H.val e') (Scalar.neg Scalar.one)).dims = P ++ n :: R := dE'
  have dd : (vPow (H.val s'') Scalar.two).dims = P ++ n :: R := ds''
  obtain ⟨gb0, eb0, wb0, db0, fb0⟩ := arith_same_el .div _ _ wn wd (dn.trans dd.symm)
  obtain ⟨gb, eb, wb, db, fb⟩ := arith_same_el .mul G gb0 wG wb0 (by rw [db0, dn, hd])
  have rb : evalRule bm H G (.divB e' s'') = .ok gb := by
    simp only [evalRule, bind, Out.bind]
    rw [eb0]
    exact eb
  have fb' : ∀ p k q, Valid P p → k < n → Valid R q →
      gb.el (p ++ k :: q) = (-1 / den (H.val x) n p q) * (G.el (p ++ k :: q) * sm (H.val x) n p k q) := by
    intro p k q hp hk hq
    have hu := hv hp hk hq
    rw [fb _ (by rw [hd]; exact hu), fb0 _ (by rw [dn]; exact hu), scale_el _ wE' _ (by rw [dE']; exact hu),
      pow_el _ ws'' _ (by rw [ds'']; exact hu), vs'' p k q hp hk hq, he', elE _ hu]
    simp only [Arith.fn, mul_eq, div_eq, neg_eq, one_eq, two_eq, sm, Real.rpow_two]
    ring
  obtain ⟨g1, e1, w1, d1, f1⟩ := bcast_split_el bm P R n gb wb (db.trans hd)
  have r1 : evalRule bm H gb (.bcastX s' s'') = .ok g1 := by
    simp only [evalRule, hs', ds'']; exact e1
  obtain ⟨g2, e2, w2, d2, f2⟩ := reshape_rule_el bm H s P R g1 w1 d1 hs
  obtain ⟨ce1, e3, d3, w3, f3⟩ := C02x.rule_sumAlong bm H g2 e P.length wE (by rw [dE]; simp) w2
    (by rw [d2, dE, C14y.squeeze_split])
  have f3' : ∀ p i q, Valid P p → i < n → Valid R q → ce1.el (p ++ i :: q) = g2.el (p ++ q) := by
    intro p i q hp hi hq
    have := f3 (p ++ i :: q) (by rw [dE]; exact hv hp hi hq)
    rw [← hp.length_eq, eraseIdx_split] at this
    unfold Tensor.el; rw [this]
  -- sum at e, Exp rule
  obtain ⟨ge, e4, w4, d4, f4⟩ := arith_same_el .add ce1 ga w3 wa (by rw [d3, dE, da, hd])
  obtain ⟨gx, e5, w5, d5, f5⟩ := arith_same_el .mul ge (H.val e) w4 wE (by rw [d4, d3])
  refine ⟨ga, gb, g1, g2, ce1, ga, ge, gx, ea, rb, r1, e2, e3, C15x.r_bcast bm H ga e e' (by rw [he']), e4, e5, w5,
    by rw [d5, d4, d3, dE], ?_⟩
  intro p i q hp hi hq
  have hu := hv hp hi hq
  have hsum : ((List.range n).map (fun k => gb.el (p ++ k :: q))).sum
      = (-1 / den (H.val x) n p q) * gdot G (H.val x) n p q := by
    unfold gdot
    rw [← List.sum_map_mul_left]
    exact congrArg List.sum (List.map_congr_left fun k hk => fb' p k q hp (List.mem_range.mp hk) hq)
  rw [f5 _ (by rw [d4, d3, dE]; exact hu), f4 _ (by rw [d3, dE]; exact hu), f3' p i q hp hi hq, f2 p q hp hq,
    f1 p q hp hq, hsum, fa _ (by rw [hd]; exact hu), vs'' p i q hp hi hq, elE _ hu]
  simp only [Arith.fn, mul_eq, div_eq, add_eq, sm]
  ring


/-- **Softmax along `dim = P.length`, input dims `P ++ n :: R`, local backward pass, `Broadcast` rule in `sum` mode.**
    Same edges as `C15x.softmax_graph`: `e = Exp(x)`, `s = SumAlong(e, dim)` (dims `P ++ R`), `s' = UnSqueeze(s, dim)`
    (dims `P ++ 1 :: R`), `e' = Broadcast(e)` (identity), `s'' = Broadcast(s')` (a genuine expansion
    `P ++ 1 :: R → P ++ n :: R`), `r = Div(e', s'')`. What arrives at `x` is the product of `G` with the Jacobian
    `s_k (δ_ki − s_i)` of softmax on the fibre through `(p, ·, q)` (`softmax_split_is_vjp`). -/
theorem softmax_local_vjp_split (H : Heap ℝ) (x e s s' e' s'' : Nat) (P R : List Nat) (n : Nat) (G : Tensor ℝ)
    (dX : (H.val x).dims = P ++ n :: R)
    (he : H.val e = (H.val x).map Real.exp) (hs : (H.val s).dims = P ++ R) (hs' : (H.val s').dims = P ++ 1 :: R)
    (he' : H.val e' = H.val e)
    (ws'' : (H.val s'').WF) (ds'' : (H.val s'').dims = P ++ n :: R)
    (vs'' : ∀ p i q, Valid P p → i < n → Valid R q → (H.val s'').el (p ++ i :: q) = den (H.val x) n p q)
    (wX : (H.val x).WF) (wG : G.WF) (hd : G.dims = P ++ n :: R) :
    ∃ ga gb g1 g2 ce1 ce2 ge gx,
      evalRule .sum H G (.divA s'') = .ok ga ∧
      evalRule .sum H G (.divB e' s'') = .ok gb ∧
      evalRule .sum H gb (.bcastX s' s'') = .ok g1 ∧
      evalRule .sum H g1 (.reshapeX s) = .ok g2 ∧
      evalRule .sum H g2 (.sumAlongX e P.length) = .ok ce1 ∧
      evalRule .sum H ga (.bcastX e e') = .ok ce2 ∧
      vArith .add ce1 ce2 = .ok ge ∧
      evalRule .sum H ge (.expX e) = .ok gx ∧ gx.WF ∧ gx.dims = P ++ n :: R ∧
      ∀ p i q, Valid P p → i < n → Valid R q →
        gx.el (p ++ i :: q) = sm (H.val x) n p i q * (G.el (p ++ i :: q) - gdot G (H.val x) n p q) := by
  have key := softmax_chain_split .sum H x e s s' e' s'' P R n G dX he hs hs' he' ws'' ds'' vs'' wX wG hd
  simp only [C15x.bfac, one_mul] at key
  exact key

/-- **the same chain with the library's `Broadcast` rule (`mean` mode, finding D2)**: the factor `1/n` appears on the
    `Σ` term, so the result is NOT the vector-Jacobian product for `n > 1` (`softmax_mean_ne_vjp_split`). -/
theorem softmax_local_vjp_split_mean_partial (H : Heap ℝ) (x e s s' e' s'' : Nat) (P R : List Nat) (n : Nat) (G : Tensor ℝ)
    (dX : (H.val x).dims = P ++ n :: R)
    (he : H.val e = (H.val x).map Real.exp) (hs : (H.val s).dims = P ++ R) (hs' : (H.val s').dims = P ++ 1 :: R)
    (he' : H.val e' = H.val e)
    (ws'' : (H.val s'').WF) (ds'' : (H.val s'').dims = P ++ n :: R)
    (vs'' : ∀ p i q, Valid P p → i < n → Valid R q → (H.val s'').el (p ++ i :: q) = den (H.val x) n p q)
    (wX : (H.val x).WF) (wG : G.WF) (hd : G.dims = P ++ n :: R) :
    ∃ ga gb g1 g2 ce1 ce2 ge gx,
      evalRule .mean H G (.divA s'') = .ok ga ∧
      evalRule .mean H G (.divB e' s'') = .ok gb ∧
      evalRule .mean H gb (.bcastX s' s'') = .ok g1 ∧
      evalRule .mean H g1 (.reshapeX s) = .ok g2 ∧
      evalRule .mean H g2 (.sumAlongX e P.length) = .ok ce1 ∧
      evalRule .mean H ga (.bcastX e e') = .ok ce2 ∧
      vArith .add ce1 ce2 = .ok ge ∧
      evalRule .mean H ge (.expX e) = .ok gx ∧ gx.WF ∧ gx.dims = P ++ n :: R ∧
      ∀ p i q, Valid P p → i < n → Valid R q →
        gx.el (p ++ i :: q)
          = sm (H.val x) n p i q * (G.el (p ++ i :: q) - 1 / (n : ℝ) * gdot G (H.val x) n p q) :=
  softmax_chain_split .mean H x e s s' e' s'' P R n G dX he hs hs' he' ws'' ds'' vs'' wX wG hd

noncomputable def rowDen (X : Tensor ℝ) (n i : Nat) : ℝ := ((List.range n).map (fun k => Real.exp (X.el [i, k]))).sum

noncomputable def sm2 (X : Tensor ℝ) (n i j : Nat) : ℝ := Real.exp (X.el [i, j]) / rowDen X n i

noncomputable def gdot2 (G X : Tensor ℝ) (n i : Nat) : ℝ := ((List.range n).map (fun k => G.el [i, k] * sm2 X n i k)).sum

theorem rowDen_eq (X : Tensor ℝ) (n i : Nat) : rowDen X n i = den X n [i] [] := rfl
theorem sm2_eq (X : Tensor ℝ) (n i j : Nat) : sm2 X n i j = sm X n [i] j [] := rfl
theorem gdot2_eq (G X : Tensor ℝ) (n i : Nat) : gdot2 G X n i = gdot G X n [i] [] := rfl

theorem softmax_chain_rank2 (bm : BMode) (H : Heap ℝ) (x e s s' e' s'' : Nat) (m n : Nat) (G : Tensor ℝ)
    (dX : (H.val x).dims = [m, n])
    (he : H.val e = (H.val x).map Real.exp) (hs : (H.val s).dims = [m]) (hs' : (H.val s').dims = [m, 1])
    (he' : H.val e' = H.val e)
    (ws'' : (H.val s'').WF) (ds'' : (H.val s'').dims = [m, n])
    (vs'' : ∀ i j, i < m → j < n → (H.val s'').el [i, j] = rowDen (H.val x) n i)
    (wX : (H.val x).WF) (wG : G.WF) (hd : G.dims = [m, n]) :
    ∃ ga gb g1 g2 ce1 ce2 ge gx,
      evalRule bm H G (.divA s'') = .ok ga ∧
      evalRule bm H G (.divB e' s'') = .ok gb ∧
      evalRule bm H gb (.bcastX s' s'') = .ok g1 ∧
      evalRule bm H g1 (.reshapeX s) = .ok g2 ∧
      evalRule bm H g2 (.sumAlongX e 1) = .ok ce1 ∧
      evalRule bm H ga (.bcastX e e') = .ok ce2 ∧
      vArith .add ce1 ce2 = .ok ge ∧
      evalRule bm H ge (.expX e) = .ok gx ∧ gx.WF ∧ gx.dims = [m, n] ∧
      ∀ i j, i < m → j < n →
        gx.el [i, j] = sm2 (H.val x) n i j * (G.el [i, j] - C15x.bfac bm n * gdot2 G (H.val x) n i) := by
  obtain ⟨ga, gb, g1, g2, ce1, ce2, ge, gx, k1, k2, k3, k4, k5, k6, k7, k8, k9, k10, k11⟩ :=
    softmax_chain_split bm H x e s s' e' s'' [m] [] n G dX he hs hs' he' ws'' ds''
      (by
        intro p i q hp hi hq
        cases hq
        cases hp with
        | cons hi0 hnil => cases hnil; exact vs'' _ _ hi0 hi)
      wX wG hd
  refine ⟨ga, gb, g1, g2, ce1, ce2, ge, gx, k1, k2, k3, k4, k5, k6, k7, k8, k9, k10, ?_⟩
  intro i j hi hj
  exact k11 [i] j [] (.cons hi .nil) hj .nil

/-- **Softmax on a rank-2 input `[m, n]` along dim 1, local backward pass, `Broadcast` rule in `sum` mode**: the
    vector-Jacobian product of the row-wise softmax. -/
theorem softmax_local_vjp_rank2 (H : Heap ℝ) (x e s s' e' s'' : Nat) (m n : Nat) (G : Tensor ℝ)
    (dX : (H.val x).dims = [m, n])
    (he : H.val e = (H.val x).map Real.exp) (hs : (H.val s).dims = [m]) (hs' : (H.val s').dims = [m, 1])
    (he' : H.val e' = H.val e)
    (ws'' : (H.val s'').WF) (ds'' : (H.val s'').dims = [m, n])
    (vs'' : ∀ i j, i < m → j < n → (H.val s'').el [i, j] = rowDen (H.val x) n i)
    (wX : (H.val x).WF) (wG : G.WF) (hd : G.dims = [m, n]) :
    ∃ ga gb g1 g2 ce1 ce2 ge gx,
      evalRule .sum H G (.divA s'') = .ok ga ∧
      evalRule .sum H G (.divB e' s'') = .ok gb ∧
      evalRule .sum H gb (.bcastX s' s'') = .ok g1 ∧
      evalRule .sum H g1 (.reshapeX s) = .ok g2 ∧
      evalRule .sum H g2 (.sumAlongX e 1) = .ok ce1 ∧
      evalRule .sum H ga (.bcastX e e') = .ok ce2 ∧
      vArith .add ce1 ce2 = .ok ge ∧
      evalRule .sum H ge (.expX e) = .ok gx ∧ gx.WF ∧ gx.dims = [m, n] ∧
      ∀ i j, i < m → j < n →
        gx.el [i, j] = sm2 (H.val x) n i j * (G.el [i, j] - gdot2 G (H.val x) n i) := by
  have key := softmax_chain_rank2 .sum H x e s s' e' s'' m n G dX he hs hs' he' ws'' ds'' vs'' wX wG hd
  simp only [C15x.bfac, one_mul] at key
  exact key

/-- rank 2 with the library's `Broadcast` rule (`mean`, finding D2): factor `1/n` on the `Σ` term -/
theorem softmax_local_vjp_rank2_mean_partial (H : Heap ℝ) (x e s s' e' s'' : Nat) (m n : Nat) (G : Tensor ℝ)
    (dX : (H.val x).dims = [m, n])
    (he : H.val e = (H.val x).map Real.exp) (hs : (H.val s).dims = [m]) (hs' : (H.val s').dims = [m, 1])
    (he' : H.val e' = H.val e)
    (ws'' : (H.val s'').WF) (ds'' : (H.val s'').dims = [m, n])
    (vs'' : ∀ i j, i < m → j < n → (H.val s'').el [i, j] = rowDen (H.val x) n i)
    (wX : (H.val x).WF) (wG : G.WF) (hd : G.dims = [m, n]) :
    ∃ ga gb g1 g2 ce1 ce2 ge gx,
      evalRule .mean H G (.divA s'') = .ok ga ∧
      evalRule .mean H G (.divB e' s'') = .ok gb ∧
      evalRule .mean H gb (.bcastX s' s'') = .ok g1 ∧
      evalRule .mean H g1 (.reshapeX s) = .ok g2 ∧
      evalRule .mean H g2 (.sumAlongX e 1) = .ok ce1 ∧
      evalRule .mean H ga (.bcastX e e') = .ok ce2 ∧
      vArith .add ce1 ce2 = .ok ge ∧
      evalRule .mean H ge (.expX e) = .ok gx ∧ gx.WF ∧ gx.dims = [m, n] ∧
      ∀ i j, i < m → j < n →
        gx.el [i, j] = sm2 (H.val x) n i j * (G.el [i, j] - 1 / (n : ℝ) * gdot2 G (H.val x) n i) :=
  softmax_chain_rank2 .mean H x e s s' e' s'' m n G dX he hs hs' he' ws'' ds'' vs'' wX wG hd


theorem range_sum_fin (n : Nat) (f : Nat → ℝ) : ((List.range n).map f).sum = ∑ k : Fin n, f k :=
  ((Fin.sum_univ_eq_sum_range f n).trans rfl).symm

noncomputable def fibre (X : Tensor ℝ) (n : Nat) (p q : List Nat) : Fin n → ℝ := fun k => X.el (p ++ (k : Nat) :: q)

theorem sm_softmaxF (X : Tensor ℝ) (n : Nat) (p q : List Nat) (j : Fin n) :
    sm X n p j q = C15x.softmaxF (fibre X n p q) j := by
  unfold sm den C15x.softmaxF fibre
  rw [range_sum_fin]

theorem gdot_softmaxF (G X : Tensor ℝ) (n : Nat) (p q : List Nat) :
    gdot G X n p q = ∑ k : Fin n, fibre G n p q k * C15x.softmaxF (fibre X n p q) k := by
  unfold gdot
  rw [range_sum_fin]
  apply Finset.sum_congr rfl
  intro k _
  rw [sm_softmaxF]
  rfl

/-- **what `softmax_local_vjp_split` delivers at `(p, j, q)` is the vector-Jacobian product of softmax on the fibre
    through `(p, ·, q)`**: the product of the upstream fibre with the Jacobian `s_k (δ_kj − s_j)` (`C15x.d_softmax`), and
    the partial derivative with respect to `x[p,j,q]` of the `G`-weighted sum of the fibre's outputs. -/
theorem softmax_split_is_vjp (G X : Tensor ℝ) (n : Nat) (p q : List Nat) (j : Fin n) :
    sm X n p j q * (G.el (p ++ (j : Nat) :: q) - gdot G X n p q)
      = ∑ k : Fin n, fibre G n p q k *
          (C15x.softmaxF (fibre X n p q) k * ((if k = j then 1 else 0) - C15x.softmaxF (fibre X n p q) j)) ∧
    HasDerivAt (fun t => ∑ k : Fin n, fibre G n p q k * C15x.softmaxF (Function.update (fibre X n p q) j t) k)
      (sm X n p j q * (G.el (p ++ (j : Nat) :: q) - gdot G X n p q)) (fibre X n p q j) := by
  rw [sm_softmaxF, gdot_softmaxF]
  exact ⟨(C15x.softmax_jacobian_vjp (fibre X n p q) (fibre G n p q) j).symm,
    C15x.softmax_vjp_deriv (fibre X n p q) (fibre G n p q) j⟩

theorem den_pos (X : Tensor ℝ) (n : Nat) (hn : 0 < n) (p q : List Nat) : 0 < den X n p q := by
  unfold den
  rw [range_sum_fin]
  exact Finset.sum_pos (fun k _ => Real.exp_pos _) ⟨⟨0, hn⟩, Finset.mem_univ _⟩

/-- the `mean` result differs from the vector-Jacobian product at EVERY position as soon as `n > 1` and
    `Σ_k G[p,k,q] s[p,k,q] ≠ 0` (e.g. `x = [[0,0]]`, `G = [[1,0]]`: the product with the Jacobian is `[[¼, −¼]]`, the
    `mean` chain delivers `[[⅜, −⅛]]`) -/
theorem softmax_mean_ne_vjp_split (X : Tensor ℝ) (n : Nat) (hn : 1 < n) (p q : List Nat) (i : Nat) (g d : ℝ) (hd : d ≠ 0) :
    sm X n p i q * (g - 1 / (n : ℝ) * d) ≠ sm X n p i q * (g - d) :=
  C15x.mean_ne_vjp (div_pos (Real.exp_pos _) (den_pos X n (Nat.lt_of_succ_lt hn) p q)).ne' hn hd

section Copies
variable {α : Type} [Scalar α]

theorem expSum_same : ∀ {R q : List Nat}, Valid R q → ∀ (f : List Nat → α), expSum R R q f = f q
  | _, _, .nil, f => by simp [expSum]
  | _, _, .cons (s := i) hi hv, f => by
    simp only [expSum, ne_eq, not_true_eq_false, if_false]
    exact expSum_same hv (fun q => f (i :: q))

theorem expSum_prefix (S D i : List Nat) : ∀ {P p : List Nat}, Valid P p → ∀ (f : List Nat → α),
    expSum (P ++ S) (P ++ D) (p ++ i) f = expSum S D i (fun t => f (p ++ t))
  | _, _, .nil, f => rfl
  | _, _, .cons (s := a) hi hv, f => by
    simp only [List.cons_append, expSum, ne_eq, not_true_eq_false, if_false]
    exact expSum_prefix S D i hv (fun q => f (a :: q))

/-- in the summation order of the code (`bcastRule_sum_spec`) -/
theorem copiesSum_split (P R : List Nat) (n : Nat) (hn : 1 ≠ n) {p q : List Nat} (hp : Valid P p) (hq : Valid R q)
    (g : Tensor α) :
    copiesSum (P ++ 1 :: R) (P ++ n :: R) (p ++ 0 :: q) g = sumOver n (fun k => g.el (p ++ k :: q)) := by
  have hl : (P ++ n :: R).length - (P ++ 1 :: R).length = 0 := by simp
  unfold copiesSum
  simp only [hl, List.take_zero, List.drop_zero, leadSum, List.nil_append]
  rw [expSum_prefix _ _ _ hp]
  simp only [expSum, hn, ne_eq, not_false_eq_true, if_true]
  rw [expSum_same hq]

end Copies

/-- over `ℝ`, also for `n = 1` -/
theorem copiesSum_split_real (P R : List Nat) (n : Nat) {p q : List Nat} (hp : Valid P p) (hq : Valid R q)
    (g : Tensor ℝ) :
    copiesSum (P ++ 1 :: R) (P ++ n :: R) (p ++ 0 :: q) g = ((List.range n).map (fun k => g.el (p ++ k :: q))).sum := by
  by_cases h1 : n = 1
  · subst h1
    have hl : (P ++ 1 :: R).length - (P ++ 1 :: R).length = 0 := by simp
    unfold copiesSum
    simp only [hl, List.take_zero, List.drop_zero, leadSum, List.nil_append]
    rw [expSum_same (valid_app hp (.cons (by omega) hq))]
    simp
  · rw [copiesSum_split P R n (fun h => h1 h.symm) hp hq, sumOver_real]

theorem copiesSum_rank2 (m n i : Nat) (hi : i < m) (G : Tensor ℝ) :
    copiesSum [m, 1] [m, n] [i, 0] G = ((List.range n).map (fun k => G.el [i, k])).sum :=
  copiesSum_split_real [m] [] n (p := [i]) (q := []) (.cons hi .nil) .nil G


theorem bcastN_split_el (t : Tensor ℝ) (wt : t.WF) (P R : List Nat) (n : Nat) (hn : 0 < n) (dt : t.dims = P ++ 1 :: R) :
    ∃ y, vBroadcastN t (P ++ n :: R) = .ok y ∧ y.WF ∧ y.dims = P ++ n :: R ∧
      ∀ p i q, Valid P p → i < n → Valid R q → y.el (p ++ i :: q) = t.el (p ++ 0 :: q) := by
  have hpos : ∀ h ∈ P ++ n :: R, 0 < h := by
    intro h hm
    simp only [List.mem_append, List.mem_cons] at hm
    rcases hm with h1 | h1 | h1
    · exact wt.2 h (by rw [dt]; exact List.mem_append_left _ h1)
    · omega
    · exact wt.2 h (by rw [dt]; exact List.mem_append_right _ (List.mem_cons_of_mem _ h1))
  have hv : validBroadcast t.dims (P ++ n :: R) = true := by
    rw [dt]
    unfold validBroadcast
    rw [C02x.validBroadcastLE_reverse _ _ (by simp)]
    have := C02x.validBroadcastLE_set_one P.length (P ++ n :: R)
    rwa [C14y.set_split] at this
  obtain ⟨y, e, dy, wy, fy⟩ := broadcast_el t wt _ hpos hv
  refine ⟨y, ?_, wy, dy, ?_⟩
  · unfold vBroadcastN vBroadcast
    rw [validInputDims_ofNat _ hpos, natDims_ofNat]
    simp only [Bool.true_and]
    rw [if_pos hv, e]; rfl
  · intro p i q hp hi hq
    have := fy (p ++ i :: q) (valid_app hp (.cons hi hq))
    have hl : (P ++ n :: R).length - (P ++ 1 :: R).length = 0 := by simp
    rw [dt] at this
    simp only [projBE, hl, List.drop_zero] at this
    rw [C14y.projLE_split P R p q n i hp.length_eq hq.length_eq hi] at this
    unfold Tensor.el
    rw [this]

/-- **the graph Softmax (`Dim = P.length`) builds** on a tracked, unspent input `x` of dims `P ++ n :: R`: six new
    tensors `e = Exp(x)`, `s = SumAlong(e,dim)`, `s' = UnSqueeze(s,dim)`, `e' = Broadcast(e)`, `s'' = Broadcast(s')`,
    `r = Div(e',s'')`, their values at index level and their back edges. -/
theorem softmax_graph_split (H : Heap ℝ) (x : Nat) (P R : List Nat) (n : Nat) (hwf : (H.val x).WF)
    (dX : (H.val x).dims = P ++ n :: R) (l : C15x.Live H x) :
    ∃ e s s' e' s'' r H', actForward (Activation.softmax P.length) [some x] H = .ok (r, H') ∧ Extends H H' ∧
      H'.val x = H.val x ∧
      H'.val e = (H.val x).map Real.exp ∧ (H'.val s).dims = P ++ R ∧ (H'.val s').dims = P ++ 1 :: R ∧
      H'.val e' = H'.val e ∧ (H'.val s'').WF ∧ (H'.val s'').dims = P ++ n :: R ∧
      (∀ p i q, Valid P p → i < n → Valid R q → (H'.val s'').el (p ++ i :: q) = den (H.val x) n p q) ∧
      (H'.val r).WF ∧ (H'.val r).dims = P ++ n :: R ∧
      (∀ p i q, Valid P p → i < n → Valid R q → (H'.val r).el (p ++ i :: q) = sm (H.val x) n p i q) ∧
      H'.ctx e = C15x.liveCtx [⟨x, .expX e⟩] ∧
      H'.ctx s = C15x.liveCtx [⟨e, .sumAlongX e P.length⟩] ∧
      H'.ctx s' = C15x.liveCtx [⟨s, .reshapeX s⟩] ∧
      H'.ctx e' = C15x.liveCtx [⟨e, .bcastX e e'⟩] ∧
      H'.ctx s'' = C15x.liveCtx [⟨s', .bcastX s' s''⟩] ∧
      H'.ctx r = C15x.liveCtx [⟨e', .divA s''⟩, ⟨s'', .divB e' s''⟩] := by
  have hn : 0 < n := hwf.2 n (by rw [dX]; simp)
  have we : (vUnary .exp (H.val x)).WF := map_wf _ _ hwf
  have hde : (vUnary .exp (H.val x)).dims = P ++ n :: R := dX
  have hel : ∀ u, Valid (P ++ n :: R) u → (vUnary .exp (H.val x)).el u = Real.exp ((H.val x).el u) :=
    fun u hu => C14y.map_el _ _ hwf (by rw [dX]; exact hu)
  obtain ⟨sv, v1, wsv, dsv, esv⟩ := sumAlong_el (vUnary .exp (H.val x)) we P.length (by rw [hde]; simp)
  rw [hde, C14y.squeeze_split] at dsv esv
  rw [C14y.getD_split] at esv
  obtain ⟨sv', v2, wsv', dsv', esv'⟩ := unsqueeze_el sv wsv P R dsv
  obtain ⟨yv, v3, wy, dy, ey⟩ := C14y.arith_split_el .div (vUnary .exp (H.val x)) sv' we wsv' P R n hde dsv'
  have hden : ∀ p q, Valid P p → Valid R q → sv'.el (p ++ 0 :: q) = den (H.val x) n p q := by
    intro p q hp hq
    rw [esv' p q hp hq, esv (p ++ q) (valid_app hp hq), sumOver_real]
    unfold den
    refine congrArg List.sum (List.map_congr_left fun k hk => ?_)
    rw [← hp.length_eq, C14y.insAt_split, hel _ (valid_app hp (.cons (List.mem_range.mp hk) hq))]
  obtain ⟨e, H1, h1⟩ := ran_hUnary .exp x H
  obtain ⟨s, H2, h2⟩ := ran_hAlong .sum e (P.length : Int) H1 sv (by rw [h1.val]; exact v1)
  obtain ⟨s', H3, h3⟩ := ran_hUnSqueeze s (P.length : Int) H2 sv' (by rw [h2.val]; exact v2)
  have e13 : Extends H1 H3 := h2.ext.trans h3.ext
  have he3 : H3.val e = vUnary .exp (H.val x) := by rw [e13.val h1.lt, h1.val]
  obtain ⟨r, H4, h4⟩ := C14y.ran_hArith_of_val .div e s' H3 (Nat.lt_of_lt_of_le h1.lt e13.1) h3.lt
    (by rw [he3]; exact we) (by rw [h3.val]; exact wsv') yv (by rw [he3, h3.val]; exact v3)
  have hrun : actForward (Activation.softmax P.length) [some x] H = .ok (r, H4) := by
    rw [C14.actForward_softmax, if_neg (by rw [dX]; simp), bind_run h1.run, bind_run h2.run, bind_run h3.run]
    exact h4.run
  obtain ⟨_, _, ce, le1⟩ := C15x.hUnary_live h1.run l
  obtain ⟨_, _, cs, ls⟩ := C15x.hAlong_live h2.run le1
  obtain ⟨_, _, cs', ls'⟩ := C15x.hUnSqueeze_live h3.run ls
  have le3 : C15x.Live H3 e := le1.ext e13
  obtain ⟨e', s'', e4, ve', vs'', _, ce', cs'', cr, le', ls'', lr⟩ := C15x.hArith_live h4.run le3 ls'
  rw [he3, h3.val] at ve' vs''
  rw [hde, dsv', C14y.target_split P R n hn] at ve' vs''
  have hself := vBroadcastN_self _ we
  rw [hde] at hself
  rw [hself] at ve'
  injection ve' with ve'
  obtain ⟨bv, b1, wb, db, fb⟩ := bcastN_split_el sv' wsv' P R n hn dsv'
  rw [b1] at vs''
  injection vs'' with vs''
  have hext : Extends H H4 := ((h1.ext.trans h2.ext).trans h3.ext).trans h4.ext
  have hE4 : H4.val e = (H.val x).map Real.exp := by rw [e4.val le3.1, he3]; rfl
  refine ⟨e, s, s', e', s'', r, H4, hrun, hext, hext.val l.1, hE4, ?_, ?_, ?_, ?_, ?_, ?_, ?_, ?_, ?_, ?_, ?_, ?_, ce',
    cs'', cr⟩
  · rw [(h3.ext.trans h4.ext).val h2.lt, h2.val]; exact dsv
  · rw [h4.ext.val h3.lt, h3.val]; exact dsv'
  · rw [← ve', hE4]; rfl
  · rw [← vs'']; exact wb
  · rw [← vs'']; exact db
  · intro p i q hp hi hq
    rw [← vs'', fb p i q hp hi hq, hden p q hp hq]
  · rw [h4.val]; exact wy
  · rw [h4.val]; exact dy
  · intro p i q hp hi hq
    rw [h4.val, ey p i q hp hi hq, hel _ (valid_app hp (.cons hi hq)), hden p q hp hq]
    rfl
  · rw [(e13.trans e4).ctx le1.1, ce]; rfl
  · rw [(h3.ext.trans h4.ext).ctx ls.1, cs]; rfl
  · rw [h4.ext.ctx ls'.1, cs']

/-- **Softmax along any dim, any rank: graph and local backward pass together** (`Broadcast` rule in `sum` mode), on
    the heap the forward pass returns: for every upstream gradient `G` of the result's shape the rules along exactly
    the listed back edges deliver the vector-Jacobian product (`softmax_split_is_vjp`) at `x`. -/
theorem softmax_vjp_on_graph_split (H : Heap ℝ) (x : Nat) (P R : List Nat) (n : Nat) (hwf : (H.val x).WF)
    (dX : (H.val x).dims = P ++ n :: R) (l : C15x.Live H x) :
    ∃ e s s' e' s'' r H', actForward (Activation.softmax P.length) [some x] H = .ok (r, H') ∧
      (H'.val r).dims = P ++ n :: R ∧
      (∀ p i q, Valid P p → i < n → Valid R q → (H'.val r).el (p ++ i :: q) = sm (H.val x) n p i q) ∧
      H'.ctx r = C15x.liveCtx [⟨e', .divA s''⟩, ⟨s'', .divB e' s''⟩] ∧
      H'.ctx s'' = C15x.liveCtx [⟨s', .bcastX s' s''⟩] ∧ H'.ctx s' = C15x.liveCtx [⟨s, .reshapeX s⟩] ∧
      H'.ctx s = C15x.liveCtx [⟨e, .sumAlongX e P.length⟩] ∧ H'.ctx e' = C15x.liveCtx [⟨e, .bcastX e e'⟩] ∧
      H'.ctx e = C15x.liveCtx [⟨x, .expX e⟩] ∧
      ∀ G : Tensor ℝ, G.WF → G.dims = P ++ n :: R →
        ∃ ga gb g1 g2 ce1 ce2 ge gx,
          evalRule .sum H' G (.divA s'') = .ok ga ∧ evalRule .sum H' G (.divB e' s'') = .ok gb ∧
          evalRule .sum H' gb (.bcastX s' s'') = .ok g1 ∧ evalRule .sum H' g1 (.reshapeX s) = .ok g2 ∧
          evalRule .sum H' g2 (.sumAlongX e P.length) = .ok ce1 ∧ evalRule .sum H' ga (.bcastX e e') = .ok ce2 ∧
          vArith .add ce1 ce2 = .ok ge ∧
          evalRule .sum H' ge (.expX e) = .ok gx ∧ gx.WF ∧ gx.dims = P ++ n :: R ∧
          ∀ p i q, Valid P p → i < n → Valid R q →
            gx.el (p ++ i :: q) = sm (H.val x) n p i q * (G.el (p ++ i :: q) - gdot G (H.val x) n p q) := by
  obtain ⟨e, s, s', e', s'', r, H', hrun, _, hx, he, hs, hs', he', ws'', ds'', vs'', _, dr, vr, ce, cs, cs', ce', cs'', cr⟩ :=
    softmax_graph_split H x P R n hwf dX l
  refine ⟨e, s, s', e', s'', r, H', hrun, dr, vr, cr, cs'', cs', cs, ce', ce, ?_⟩
  intro G wG hd
  have := softmax_local_vjp_split H' x e s s' e' s'' P R n G (by rw [hx]; exact dX) (by rw [hx]; exact he) hs hs' he'
    ws'' ds'' (by rw [hx]; exact vs'') (by rw [hx]; exact hwf) wG hd
  rw [hx] at this
  exact this

/-- rank 2, `Dim = 1`: graph and local backward pass together, at `[i, j]` -/
theorem softmax_vjp_on_graph_rank2 (H : Heap ℝ) (x m n : Nat) (hwf : (H.val x).WF)
    (dX : (H.val x).dims = [m, n]) (l : C15x.Live H x) :
    ∃ e s s' e' s'' r H', actForward (Activation.softmax 1) [some x] H = .ok (r, H') ∧
      (H'.val r).dims = [m, n] ∧
      (∀ i j, i < m → j < n → (H'.val r).el [i, j] = sm2 (H.val x) n i j) ∧
      H'.ctx r = C15x.liveCtx [⟨e', .divA s''⟩, ⟨s'', .divB e' s''⟩] ∧
      H'.ctx s'' = C15x.liveCtx [⟨s', .bcastX s' s''⟩] ∧ H'.ctx s' = C15x.liveCtx [⟨s, .reshapeX s⟩] ∧
      H'.ctx s = C15x.liveCtx [⟨e, .sumAlongX e 1⟩] ∧ H'.ctx e' = C15x.liveCtx [⟨e, .bcastX e e'⟩] ∧
      H'.ctx e = C15x.liveCtx [⟨x, .expX e⟩] ∧
      ∀ G : Tensor ℝ, G.WF → G.dims = [m, n] →
        ∃ ga gb g1 g2 ce1 ce2 ge gx,
          evalRule .sum H' G (.divA s'') = .ok ga ∧ evalRule .sum H' G (.divB e' s'') = .ok gb ∧
          evalRule .sum H' gb (.bcastX s' s'') = .ok g1 ∧ evalRule .sum H' g1 (.reshapeX s) = .ok g2 ∧
          evalRule .sum H' g2 (.sumAlongX e 1) = .ok ce1 ∧ evalRule .sum H' ga (.bcastX e e') = .ok ce2 ∧
          vArith .add ce1 ce2 = .ok ge ∧
          evalRule .sum H' ge (.expX e) = .ok gx ∧ gx.WF ∧ gx.dims = [m, n] ∧
          ∀ i j, i < m → j < n →
            gx.el [i, j] = sm2 (H.val x) n i j * (G.el [i, j] - gdot2 G (H.val x) n i) := by
  obtain ⟨e, s, s', e', s'', r, H', hrun, dr, vr, cr, cs'', cs', cs, ce', ce, hG⟩ :=
    softmax_vjp_on_graph_split H x [m] [] n hwf dX l
  refine ⟨e, s, s', e', s'', r, H', hrun, dr, fun i j hi hj => vr [i] j [] (.cons hi .nil) hj .nil, cr, cs'', cs', cs,
    ce', ce, ?_⟩
  intro G wG hd
  obtain ⟨ga, gb, g1, g2, ce1, ce2, ge, gx, k1, k2, k3, k4, k5, k6, k7, k8, k9, k10, k11⟩ := hG G wG hd
  exact ⟨ga, gb, g1, g2, ce1, ce2, ge, gx, k1, k2, k3, k4, k5, k6, k7, k8, k9, k10,
    fun i j hi hj => k11 [i] j [] (.cons hi .nil) hj .nil⟩

/-- **every rank `≥ 1`, every valid `dim`**, without the split form in the hypotheses -/
theorem softmax_vjp_on_graph_any (H : Heap ℝ) (x dim : Nat) (hwf : (H.val x).WF) (hdim : dim < (H.val x).dims.length)
    (l : C15x.Live H x) :
    ∃ P R n, (H.val x).dims = P ++ n :: R ∧ P.length = dim ∧
    ∃ e s s' e' s'' r H', actForward (Activation.softmax dim) [some x] H = .ok (r, H') ∧
      (H'.val r).dims = P ++ n :: R ∧
      (∀ p i q, Valid P p → i < n → Valid R q → (H'.val r).el (p ++ i :: q) = sm (H.val x) n p i q) ∧
      H'.ctx r = C15x.liveCtx [⟨e', .divA s''⟩, ⟨s'', .divB e' s''⟩] ∧
      H'.ctx s'' = C15x.liveCtx [⟨s', .bcastX s' s''⟩] ∧ H'.ctx s' = C15x.liveCtx [⟨s, .reshapeX s⟩] ∧
      H'.ctx s = C15x.liveCtx [⟨e, .sumAlongX e dim⟩] ∧ H'.ctx e' = C15x.liveCtx [⟨e, .bcastX e e'⟩] ∧
      H'.ctx e = C15x.liveCtx [⟨x, .expX e⟩] ∧
      ∀ G : Tensor ℝ, G.WF → G.dims = P ++ n :: R →
        ∃ ga gb g1 g2 ce1 ce2 ge gx,
          evalRule .sum H' G (.divA s'') = .ok ga ∧ evalRule .sum H' G (.divB e' s'') = .ok gb ∧
          evalRule .sum H' gb (.bcastX s' s'') = .ok g1 ∧ evalRule .sum H' g1 (.reshapeX s) = .ok g2 ∧
          evalRule .sum H' g2 (.sumAlongX e dim) = .ok ce1 ∧ evalRule .sum H' ga (.bcastX e e') = .ok ce2 ∧
          vArith .add ce1 ce2 = .ok ge ∧
          evalRule .sum H' ge (.expX e) = .ok gx ∧ gx.WF ∧ gx.dims = P ++ n :: R ∧
          ∀ p i q, Valid P p → i < n → Valid R q →
            gx.el (p ++ i :: q) = sm (H.val x) n p i q * (G.el (p ++ i :: q) - gdot G (H.val x) n p q) := by
  obtain ⟨hsp, hl⟩ := C14y.dims_split (H.val x).dims dim hdim
  refine ⟨_, _, _, hsp, hl, ?_⟩
  have key := softmax_vjp_on_graph_split H x _ _ _ hwf hsp l
  rw [hl] at key
  exact key

/-- non-vacuity: a heap with a tracked, unspent, well-formed rank-2 tensor (and a rank-3 one) -/
example : ∃ (H : Heap ℝ) (x : Nat), (H.val x).WF ∧ (H.val x).dims = [2, 2] ∧ C15x.Live H x :=
  ⟨#[⟨⟨[2, 2], [0, 0, 1, -1]⟩, freshCtx true⟩], 0, ⟨rfl, by decide⟩, rfl, Nat.one_pos, rfl, rfl⟩

example : ∃ (H : Heap ℝ) (x : Nat), (H.val x).WF ∧ (H.val x).dims = [2] ++ 3 :: [2] ∧ C15x.Live H x :=
  ⟨#[⟨⟨[2, 3, 2], [1, 2, 3, 4, 5, 6, 7, 8, 9, 10, 11, 12]⟩, freshCtx true⟩], 0, ⟨rfl, by decide⟩, rfl, Nat.one_pos, rfl, rfl⟩

end C15y
end Qeep
