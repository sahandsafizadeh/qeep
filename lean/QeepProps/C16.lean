import QeepProps.C10
import QeepProofs.FC
import QeepProofs.Vals
import QeepProofs.Run
/-!
# C16 — the FC layer (validation, liveness of the parameters, footprint)

Proved: `Forward` rejects anything but exactly one non-nil rank-2 input with an error (never a panic);
the forward pass reads the parameter tensors *currently* stored in the layer (so what `Weights()` addresses is what the
next `Forward` uses, for any sequence of replacements — in the Model the pointer is the pair (layer, field));
the forward pass only allocates (no existing tensor, parameter or input is modified).

`fc_forward`: the affine formula `y[b][o] = W[o]·Σ_d x[b][d] + B[o]` whenever `Forward` returns (through the value-level
composition `fcV`, `fc_forward_val`); totality, the graph and the parameter gradients are C16x. Also covered by the
correspondence run with non-uniform parameters, sizes up to 17 and replacements through the pointers.
-/

namespace Qeep
namespace C16

variable {α : Type} [Scalar α]

/-- **input validation**: not exactly one input, a nil input, or an input whose rank is not 2 → error -/
theorem fc_input_validation (c : FC) (H : Heap α) :
    fcForward c [] H = .err ∧ (∀ a b rest, fcForward c (a :: b :: rest) H = .err) ∧ fcForward c [none] H = .err ∧
    (∀ x, (H.val x).dims.length ≠ 2 → fcForward c [some x] H = .err) := by
  refine ⟨rfl, ?_, rfl, ?_⟩
  · intro a b rest
    unfold fcForward
    have : oneInput (a :: b :: rest) = .err := by cases a <;> rfl
    rw [this]; rfl
  intro x hx
  unfold fcForward
  rw [show (liftOut (oneInput [some x]) : HM α Nat) = (fun H => .ok (x, H)) from rfl]
  simp only [bind, StateT.bind, Out.bind, getHeap, hx, if_true, ne_eq, not_false_eq_true]
  rfl

/-- **the parameters are live**: `Forward` depends on the layer only through the tensors currently stored in its two
    fields — replacing a field (through the pointer handed out by `Weights()`) is what the next `Forward` reads -/
theorem fc_weights_live (c c' : FC) (xs : List (Option Nat)) (H : Heap α) (hw : c.w = c'.w) (hb : c.b = c'.b) :
    fcForward c xs H = fcForward c' xs H := by
  cases c; cases c'; simp only at hw hb; subst hw hb; rfl

/-- **footprint**: a forward pass modifies no existing tensor (parameters and input included) -/
theorem fc_only_allocates (c : FC) (xs : List (Option Nat)) : Frame (fcForward (α := α) c xs) := frame_fcForward c xs

/-- on a rank-2 input, `Forward` with both parameters present is the five calls -/
theorem fcForward_eq (w b x : Nat) (H : Heap α) (h : (H.val x).dims.length = 2) :
    fcForward ⟨some w, some b⟩ [some x] H =
      (do let w1 ← hUnSqueeze w 1; let x1 ← hUnSqueeze x 1; let y ← hMatMul w1 x1; let y ← hAlong .sum y 2
          hArith .add y b) H := by
  unfold fcForward
  rw [bind_run (show (liftOut (oneInput [some x]) : HM α Nat) H = .ok (x, H) from rfl),
    bind_run (show (getHeap : HM α (Heap α)) H = .ok (H, H) from rfl), if_neg (by rw [h]; simp)]

theorem op1_lt {x : Nat} {f : Heap α → Out (Tensor α)} {rule : Nat → Rule α} {H H' : Heap α} {r : Nat}
    (h : (getHeap >>= fun H => hOp1 x (f H) rule) H = .ok (r, H')) : r < H'.size := by
  obtain ⟨t, _, rfl, rfl⟩ := hOp1_iff.1 h
  simp

/-- the heap-level forward pass computes the value-level composition `fcV` of the current parameter and input values -/
theorem fc_forward_val (w b x : Nat) (H H' : Heap α) (r : Nat) (hw : w < H.size) (hb : b < H.size) (hx : x < H.size)
    (h : fcForward ⟨some w, some b⟩ [some x] H = .ok (r, H')) :
    fcV (H.val w) (H.val b) (H.val x) = .ok (H'.val r) ∧ Extends H H' := by
  have hr : (H.val x).dims.length = 2 := Decidable.byContradiction fun hr => by
    rw [(fc_input_validation ⟨some w, some b⟩ H).2.2.2 x hr] at h
    cases h
  rw [fcForward_eq w b x H hr] at h
  obtain ⟨w1, Ha, ga, k3⟩ := bind_ok h
  obtain ⟨x1, Hb, gb, k4⟩ := bind_ok k3
  obtain ⟨y, Hc, gc, k5⟩ := bind_ok k4
  obtain ⟨s, Hd, gd, k6⟩ := bind_ok k5
  obtain ⟨va, ra, xa⟩ := hUnSqueeze_val ga
  obtain ⟨vb, rb, xb⟩ := hUnSqueeze_val gb
  have w1lt : w1 < Ha.size := op1_lt (f := fun H => vUnSqueeze (H.val w) 1) (rule := fun _ => .reshapeX w) ga
  have x1lt : x1 < Hb.size := op1_lt (f := fun H => vUnSqueeze (H.val x) 1) (rule := fun _ => .reshapeX x) gb
  obtain ⟨vc, _, ylt, xc⟩ := hMatMul_val (Nat.lt_of_lt_of_le w1lt xb.1) x1lt gc
  obtain ⟨vd, rd, xd⟩ := hAlong_val gd
  have slt : s < Hd.size :=
    op1_lt (f := fun H => vAlong .sum (H.val y) 2) (rule := fun z => alongRule .sum y z (2 : Int).toNat) gd
  have xad : Extends H Hd := ((xa.trans xb).trans xc).trans xd
  obtain ⟨ve, _, _, xe⟩ := hArith_val slt (Nat.lt_of_lt_of_le hb xad.1) k6
  refine ⟨?_, xad.trans xe⟩
  unfold fcV
  simp only [bind, Out.bind]
  rw [va, ← xa.val hx, vb]
  simp only []
  rw [← xb.val w1lt, vc]
  simp only []
  rw [vd]
  simp only []
  rw [← xad.val hb, ve]

/-- **FC is an affine map per output unit** — for every batch size `N`, feature count `D`, output count `O` (≥ 1) and
    all parameter / input values: whenever `Forward` returns a tensor it has shape `[N, O]` and
    `y[b][o] = (Σ_d (0 + W[o]·x[b][d])) + B[o]` (folds in execution order; over `ℝ`: `W[o]·Σ_d x[b][d] + B[o]`);
    row `b` depends on input row `b` only, and existing tensors are untouched. -/
theorem fc_forward (N D O : Nat) (w b x : Nat) (H H' : Heap α) (r : Nat) (hw : w < H.size) (hb : b < H.size) (hx : x < H.size)
    (hN : 0 < N) (hD : 0 < D) (hO : 0 < O)
    (dw : (H.val w).dims = [O]) (db : (H.val b).dims = [O]) (dx : (H.val x).dims = [N, D])
    (ww : (H.val w).WF) (wb : (H.val b).WF) (wx : (H.val x).WF)
    (Wf Bf : Nat → α) (Xf : Nat → Nat → α)
    (hW : ∀ o, o < O → (H.val w).data[o]? = some (Wf o)) (hB : ∀ o, o < O → (H.val b).data[o]? = some (Bf o))
    (hX : ∀ i d, i < N → d < D → (H.val x).data[i * D + d]? = some (Xf i d))
    (h : fcForward ⟨some w, some b⟩ [some x] H = .ok (r, H')) :
    (H'.val r).dims = [N, O] ∧ Extends H H' ∧
    ∀ i o, i < N → o < O →
      (H'.val r).at? [i, o] =
        some (Scalar.add
          (((List.range D).map (fun d => Scalar.add Scalar.zero (Scalar.mul (Wf o) (Xf i d)))).foldl Scalar.add Scalar.zero)
          (Bf o)) := by
  obtain ⟨hv, hext⟩ := fc_forward_val w b x H H' r hw hb hx h
  have e1 : H.val w = ⟨[O], (H.val w).data⟩ := by rw [← dw]
  have e2 : H.val b = ⟨[O], (H.val b).data⟩ := by rw [← db]
  have e3 : H.val x = ⟨[N, D], (H.val x).data⟩ := by rw [← dx]
  obtain ⟨data, s1, s2, s3⟩ := fcV_spec N D O (H.val w).data (H.val b).data (H.val x).data hN hD hO
    (by rw [ww.1, dw]; simp [prod]) (by rw [wb.1, db]; simp [prod]) (by rw [wx.1, dx]; simp [prod])
    Wf Bf Xf hW hB hX
  rw [← e1, ← e2, ← e3, hv] at s1
  injection s1 with s1
  rw [s1]
  exact ⟨rfl, hext, s3⟩

end C16
end Qeep
