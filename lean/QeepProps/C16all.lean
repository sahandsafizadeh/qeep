import QeepProps.C16x
import QeepProps.C16z
import QeepProps.C16w
import QeepProps.C16u
import QeepProps.C16t
/-! Every module with a theorem of property C16; the check of C16 builds this module (`lake build QeepProps.C16all`) and
then prints the axioms of each theorem (`work/audit_C16.lean`). -/
