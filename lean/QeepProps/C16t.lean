import QeepProps.C16y
/-!
# C16 — every back edge of the FC graph accepts a gradient of its tensor's shape (either mode)

`fcShape` is the shape every gradient has at tensor `k + i` of the layer's graph; `fc_edge_ok`: for every back edge of the
graph, the rule evaluated on ANY well-formed gradient of the consumer's shape returns a well-formed gradient of the target's
shape. This is the per-edge premise of the progress theorem `C01p.backprop_ok`, in a form that can be used for a layer wherever
it sits in a network.
-/

namespace Qeep
namespace C16t
open RealScalar C01 C01w C16x C16z

/-- the shape of the gradient at tensor `k + i` of an FC graph (`[N, D]` input, `O` outputs) -/
def fcShape (N D O : Nat) : Nat → List Nat
  | 0 => [O, 1]
  | 1 => [N, 1, D]
  | 2 => [N, O, 1]
  | 3 => [N, 1, D]
  | 4 => [N, O, D]
  | _ => [N, O]

def fcTargetShape (N D O : Nat) (w b x k : Nat) (t : Nat) : List Nat :=
  if t = w ∨ t = b then [O] else if t = x then [N, D] else fcShape N D O (t - k)

section
variable {N D O w b x k : Nat}

theorem fcTargetShape_loc (hwk : w < k) (hbk : b < k) (hxk : x < k) (j : Nat) :
    fcTargetShape N D O w b x k (k + j) = fcShape N D O j := by
  unfold fcTargetShape
  rw [if_neg (by omega), if_neg (by omega), Nat.add_sub_cancel_left]

theorem fcTargetShape_w : fcTargetShape N D O w b x k w = [O] := if_pos (Or.inl rfl)

theorem fcTargetShape_b : fcTargetShape N D O w b x k b = [O] := if_pos (Or.inr rfl)

theorem fcTargetShape_x (hxw : x ≠ w) (hxb : x ≠ b) : fcTargetShape N D O w b x k x = [N, D] := by
  unfold fcTargetShape
  rw [if_neg (by simp [hxw, hxb]), if_pos rfl]

end

theorem fc_edge_ok (bm : BMode) {H2 : Heap ℝ} {w b x k N D O : Nat} {Wf Bf : Nat → ℝ} {Xf : Nat → Nat → ℝ}
    (g : FCGraph H2 w b x k N D O Wf Bf Xf) (hwk : w < k) (hbk : b < k) (hxk : x < k) (hxw : x ≠ w) (hxb : x ≠ b)
    (i : Nat) (hi : i ≤ 8) (e : Edge ℝ) (he : e ∈ fcEdges w b x k i) (gy : Tensor ℝ) (hgy : Shaped (fcShape N D O i) gy) :
    ∃ g', evalRule bm H2 gy e.rule = .ok g' ∧ Shaped (fcTargetShape N D O w b x k e.target) g' := by
  obtain ⟨hN, hD⟩ := g.vx.pos
  have hO := g.vw.pos
  interval_cases i
  · -- UnSqueeze(W) → W
    obtain rfl := List.mem_singleton.mp he
    simp only [fcShape] at hgy
    refine ⟨⟨[O], gy.data⟩, ?_, ?_⟩
    · show vReshape gy ((H2.val w).dims.map Int.ofNat) = .ok ⟨[O], gy.data⟩
      rw [g.vw.dims]
      exact vReshape_data gy hgy.1 [O] (by simp; omega) (by rw [hgy.2]; simp [prod])
    · rw [fcTargetShape_w]
      have := reshape_col (is2_self gy hgy.1 O 1 hgy.2)
      exact ⟨this.wf, this.dims⟩
  · -- UnSqueeze(x) → x
    obtain rfl := List.mem_singleton.mp he
    simp only [fcShape] at hgy
    refine ⟨⟨[N, D], gy.data⟩, ?_, ?_⟩
    · show vReshape gy ((H2.val x).dims.map Int.ofNat) = .ok ⟨[N, D], gy.data⟩
      rw [g.vx.dims]
      exact vReshape_data gy hgy.1 [N, D] (by simp; omega) (by rw [hgy.2]; simp [prod])
    · rw [fcTargetShape_x hxw hxb]
      have := reshape_mid (is3_self gy hgy.1 N 1 D hgy.2)
      exact ⟨this.wf, this.dims⟩
  · -- Broadcast(W₁) → W₁
    obtain rfl := List.mem_singleton.mp he
    simp only [fcShape] at hgy
    obtain ⟨g5, h5, i5⟩ : ∃ g5, bcastRule bm [O, 1] [N, O, 1] gy = .ok g5 ∧ Shaped [O, 1] g5 := by
      cases bm with
      | sum => obtain ⟨g5, h5, i5⟩ := bcastRule_lead3 (is3_self gy hgy.1 N O 1 hgy.2); exact ⟨g5, h5, i5.wf, i5.dims⟩
      | mean => obtain ⟨g5, h5, i5⟩ := bcastRule_lead3_mean (is3_self gy hgy.1 N O 1 hgy.2); exact ⟨g5, h5, i5.wf, i5.dims⟩
    refine ⟨g5, ?_, ?_⟩
    · show bcastRule bm (H2.val k).dims (H2.val (k + 2)).dims gy = .ok g5
      rw [g.w1.dims, g.wb.dims]; exact h5
    · rw [show fcTargetShape N D O w b x k k = _ from fcTargetShape_loc hwk hbk hxk 0]
      exact i5
  · -- Broadcast(x₁) → x₁: equal shapes
    obtain rfl := List.mem_singleton.mp he
    simp only [fcShape] at hgy
    refine ⟨gy, ?_, ?_⟩
    · show bcastRule bm (H2.val (k + 1)).dims (H2.val (k + 3)).dims gy = .ok gy
      rw [g.xb]; exact C16x.bcastRule_same bm _ gy
    · rw [fcTargetShape_loc hwk hbk hxk]
      exact hgy
  · -- MatMul → both operands
    simp only [fcShape] at hgy
    obtain rfl | he := List.mem_cons.mp he
    · have ixb : Is3 (H2.val (k + 3)) N 1 D (fun n _ d => Xf n d) := by rw [g.xb]; exact g.x1
      obtain ⟨XT, ht, iT⟩ := transpose3 ixb
      obtain ⟨g4, hm, i4⟩ := matMul3 (is3_self gy hgy.1 N O D hgy.2) iT
      refine ⟨g4, by simp only [evalRule, bind, Out.bind, ht, hm], ?_⟩
      rw [fcTargetShape_loc hwk hbk hxk]
      exact ⟨i4.wf, i4.dims⟩
    · obtain rfl := List.mem_singleton.mp he
      obtain ⟨WT, ht, iT⟩ := transpose3 g.wb
      obtain ⟨g4, hm, i4⟩ := matMul3 iT (is3_self gy hgy.1 N O D hgy.2)
      refine ⟨g4, by simp only [evalRule, bind, Out.bind, ht, hm], ?_⟩
      rw [fcTargetShape_loc hwk hbk hxk]
      exact ⟨i4.wf, i4.dims⟩
  · -- SumAlong(2) → product
    obtain rfl := List.mem_singleton.mp he
    simp only [fcShape] at hgy
    obtain ⟨u, hu', iu⟩ := unsq2_mat (is2_self gy hgy.1 N O hgy.2)
    obtain ⟨G3, h3, i3⟩ := bcast_last iu D hD
    refine ⟨G3, ?_, ?_⟩
    · show reducerBroadcasted gy (H2.val (k + 4)).dims 2 = .ok G3
      rw [g.mm.dims]
      unfold reducerBroadcasted
      simp only [bind, Out.bind]
      have hu'' : vUnSqueeze gy ((2 : Nat) : Int) = .ok u := hu'
      rw [hu'']
      exact h3
    · rw [fcTargetShape_loc hwk hbk hxk]
      exact ⟨i3.wf, i3.dims⟩
  · -- Broadcast(sum) → sum: equal shapes
    obtain rfl := List.mem_singleton.mp he
    simp only [fcShape] at hgy
    refine ⟨gy, ?_, ?_⟩
    · show bcastRule bm (H2.val (k + 5)).dims (H2.val (k + 6)).dims gy = .ok gy
      rw [g.sb]; exact C16x.bcastRule_same bm _ gy
    · rw [fcTargetShape_loc hwk hbk hxk]
      exact hgy
  · -- Broadcast(B) → B
    obtain rfl := List.mem_singleton.mp he
    simp only [fcShape] at hgy
    obtain ⟨dB, q1, q2⟩ : ∃ dB, bcastRule bm [O] [N, O] gy = .ok dB ∧ Shaped [O] dB := by
      cases bm with
      | sum => obtain ⟨dB, q1, q2⟩ := bcastRule_row (is2_self gy hgy.1 N O hgy.2); exact ⟨dB, q1, q2.wf, q2.dims⟩
      | mean => obtain ⟨dB, q1, q2⟩ := bcastRule_row_mean (is2_self gy hgy.1 N O hgy.2); exact ⟨dB, q1, q2.wf, q2.dims⟩
    refine ⟨dB, ?_, ?_⟩
    · show bcastRule bm (H2.val b).dims (H2.val (k + 7)).dims gy = .ok dB
      rw [g.vb.dims, g.bb.dims]; exact q1
    · rw [fcTargetShape_b]
      exact q2
  · -- the result: identity towards both Broadcast copies
    simp only [fcShape] at hgy
    obtain rfl | he := List.mem_cons.mp he
    · exact ⟨gy, rfl, by rw [fcTargetShape_loc hwk hbk hxk]; exact hgy⟩
    · obtain rfl := List.mem_singleton.mp he
      exact ⟨gy, rfl, by rw [fcTargetShape_loc hwk hbk hxk]; exact hgy⟩

end C16t
end Qeep
