import QeepProps.C16z
/-!
# C16 — the gradient an FC layer passes to its INPUT, end to end

`fc_x_in_walk`: in any heap containing the layer's graph, for a successful walk from any root outside the layer that leaves `G`
on the layer's result, with a tracked input `x` that the walk reaches through the layer only: `x.Gradient()[n][d] = Σ_o W[o]·G[n][o]`
— in either mode (this path contains no expanding `Broadcast`). This is what a preceding layer receives.
-/

namespace Qeep
namespace C16u
open RealScalar C01 C01x C01z C01w C01q C16x C16z C15x

theorem fc_x_in_walk (bm : BMode) (H2 : Heap ℝ) (root w b x k N D O : Nat) {Wf Bf : Nat → ℝ} {Xf : Nat → Nat → ℝ}
    (hdag : HeapDag H2) (htr : H2.tracked root = true) (hok : (backprop bm H2 root).status = .ok ())
    (g : FCGraph H2 w b x k N D O Wf Bf Xf) (hwk : w < k) (hbk : b < k) (hxk : x < k)
    (tx : H2.tracked x = true)
    (cw : H2.dirty w = false) (cb : H2.dirty b = false) (cx' : H2.dirty x = false)
    (gx : H2.grad x = none) (gnew : ∀ i, i ≤ 7 → H2.grad (k + i) = none)
    (hroot1 : root ≠ x) (hroot3 : ∀ i, i ≤ 7 → root ≠ k + i)
    (hsole : ∀ v ∈ backwardOrder H2 root, (v < k ∨ k + 8 < v) → ∀ e ∈ (H2.ctx v).edges,
      e.target ≠ x ∧ ¬ (k ≤ e.target ∧ e.target ≤ k + 7))
    (G : Tensor ℝ) (Gf : Nat → Nat → ℝ) (hG : Is2 G N O Gf)
    (hy : k + 8 ∈ backwardOrder H2 root) (f8 : (backprop bm H2 root).heap.grad (k + 8) = some G) :
    ∃ dX, (backprop bm H2 root).heap.grad x = some dX ∧ dX.WF ∧ dX.dims = [N, D] ∧
      ∀ n d, n < N → d < D → dX.el [n, d] = ∑ o ∈ Finset.range O, Wf o * Gf n o := by
  obtain ⟨_, _, pX⟩ := fc_solePaths g hwk hbk hxk gnew hroot3 (fun v hv hb e he => (hsole v hv hb e he).2) cw cb cx'
  obtain ⟨gX, px1, px2, _⟩ := grad_path bm H2 root hdag htr hok _ _ _
    (pX tx gx hroot1 (fun v hv hb e he => (hsole v hv hb e he).1)) G hy f8
  rw [evalPath_val_congr bm _ H2 (fun n => markDirty_val _ _ n)] at px1
  obtain ⟨dX, q1, _, q3⟩ := fc_grad_input bm g hG
  rw [q1] at px1
  cases px1
  refine ⟨_, px2, q3.wf, q3.dims, fun n d hn hd => ?_⟩
  rw [q3.el n d hn hd, C16x.sumOver_real]
  rfl

end C16u
end Qeep
