import QeepProps.C16x
/-!
# C16 — the weight path as the tree computes it (`mean` mode, finding D2)

`bcastRule_lead3_mean`: the `Broadcast` rule `[O,1] ← [N,O,1]` as the code has it: the batch MEAN.
`fc_grad_weight_mean`: pulling `G : [N, O]` back to `W` gives `dW[o] = (Σ_n Σ_d G[n][o]·x[n][d]) / N` — the wanted gradient
divided by the batch size. Both are the `mean` instances of `bcastRule_lead3_bm` / `fc_grad_weight_bm`.
-/

namespace Qeep
namespace C16x
variable {α : Type} [Scalar α]
open Scalar

/-- `Broadcast` rule as the code has it (`AvgAlong`), `[O, 1] ← [N, O, 1]`: the batch **mean** -/
theorem bcastRule_lead3_mean {G : Tensor α} {N O : Nat} {Gf : Nat → Nat → Nat → α} (hG : Is3 G N O 1 Gf) :
    ∃ g, bcastRule .mean [O, 1] [N, O, 1] G = .ok g ∧
      Is2 g O 1 (fun o k => Scalar.div (sumOver N (fun n => Gf n o k)) (Scalar.ofNat N)) :=
  bcastRule_lead3_bm .mean hG

variable {H : Heap α} {w b x k N D O : Nat} {Wf Bf : Nat → α} {Xf : Nat → Nat → α}

/-- **Weight gradient as the code computes it (`mean` mode, finding D2)**:
    `dW[o] = (Σ_n Σ_d G[n][o]·x[n][d]) / N` — the wanted gradient divided by the batch size. -/
theorem fc_grad_weight_mean (g : FCGraph H w b x k N D O Wf Bf Xf) {G : Tensor α} {Gf : Nat → Nat → α} (hG : Is2 G N O Gf) :
    ∃ dW, evalPath .mean H (pathW w k) G = .ok dW ∧ dW.dims = (H.val w).dims ∧
      Is1 dW O (fun o => Scalar.div (sumOver N (fun n => sumOver D (fun d => Scalar.mul (Gf n o) (Xf n d)))) (Scalar.ofNat N)) :=
  fc_grad_weight_bm .mean g hG

end C16x
end Qeep
