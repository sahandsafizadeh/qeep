import QeepProps.C16x
import QeepProps.C16v
import QeepProps.C01q
import QeepProps.C08z
import QeepProps.C14y
import QeepProps.C15x
import QeepProps.C15w
import QeepProofs.BlockCover
import Mathlib.Tactic.IntervalCases
/-!
# C16 — the nine tensors of an `FC` layer as a block

The graph `FCGraph` describes is a block of nine fresh tensors over the inputs `W`, `x`, `B`. This file reads off, once,
what the walks of the later files need: the edge table `fcEdges` and its covering table `fcCover` (so that "who else
points at this tensor" is a closed question), the flags of the nine tensors as a function of the flags of the three
inputs, what `Forward` on a reachable heap leaves behind (`FCRun`), and the three paths of sole consumers from the
layer's result to `W`, `B` and `x` inside any walk (`fc_solePaths`).
-/

namespace Qeep
namespace C16z
open RealScalar C01 C01x C01z C01w C01q C16x C15x Block

/-- a backward rule reads the heap through the tensors' values only -/
theorem evalRule_val_congr (bm : BMode) (H1 H2 : Heap ℝ) (h : ∀ n, H1.val n = H2.val n) (g : Tensor ℝ) (r : Rule ℝ) :
    evalRule bm H1 g r = evalRule bm H2 g r := by
  cases r <;> simp only [evalRule, h]

theorem evalPath_val_congr (bm : BMode) (H1 H2 : Heap ℝ) (h : ∀ n, H1.val n = H2.val n) :
    ∀ (rs : List (Rule ℝ)) (g : Tensor ℝ), evalPath bm H1 rs g = evalPath bm H2 rs g
  | [], g => rfl
  | r :: rs, g => by
    simp only [evalPath, evalRule_val_congr bm H1 H2 h g r]
    cases evalRule bm H2 g r with
    | ok g1 => simp only [Out.bind]; exact evalPath_val_congr bm H1 H2 h rs g1
    | err => rfl
    | panic => rfl

/-- a result over unspent operands is unspent, and tracked exactly when one of the operands is -/
theorem ctx_flags {H : Heap ℝ} {n : Nat} {ops : List Nat} {es : List (Edge ℝ)} (hc : H.ctx n = mkCtx H ops es)
    (hd : ∀ m ∈ ops, H.dirty m = false) : H.dirty n = false ∧ H.tracked n = ops.any H.tracked := by
  unfold Heap.dirty Heap.tracked
  rw [hc]
  exact ⟨(mkCtx_flags H ops es hd).1, (mkCtx_flags H ops es hd).2.1⟩

theorem ctx_beyond (H : Heap ℝ) (n : Nat) (h : H.size ≤ n) : (H.ctx n).edges = [] :=
  congrArg Ctx.edges (ctx_of_size_le H h)

/-- flags and gradient slot of an old tensor survive an extension of the heap -/
theorem ext_flags {H H' : Heap ℝ} (e : Extends H H') {n : Nat} (hn : n < H.size) :
    H'.tracked n = H.tracked n ∧ H'.dirty n = H.dirty n ∧ H'.grad n = H.grad n :=
  ⟨e.tracked hn, e.dirty hn, e.grad hn⟩

/-- the all-ones seed on an `N × O` result -/
theorem ones_is2 (t : Tensor ℝ) (N O : Nat) (f : Nat → Nat → ℝ) (h : Is2 t N O f) :
    Is2 (vPow t Scalar.zero) N O (fun _ _ => 1) := by
  refine ⟨(ones_shaped t h.wf).1, by rw [(ones_shaped t h.wf).2, h.dims], ?_⟩
  intro i j hi hj
  unfold vPow
  rw [C14y.map_el _ t h.wf (by rw [h.dims]; exact valid2 hi hj)]
  simp

/-! ## the edge table -/

/-- the back edges the nine nodes of the layer's graph can have (node `k + i`) -/
def fcEdges (w b x k : Nat) : Nat → List (Edge ℝ)
  | 0 => [⟨w, .reshapeX w⟩]
  | 1 => [⟨x, .reshapeX x⟩]
  | 2 => [⟨k, .bcastX k (k + 2)⟩]
  | 3 => [⟨k + 1, .bcastX (k + 1) (k + 3)⟩]
  | 4 => [⟨k + 2, .matmulA (k + 3)⟩, ⟨k + 3, .matmulB (k + 2)⟩]
  | 5 => [⟨k + 4, .sumAlongX (k + 4) 2⟩]
  | 6 => [⟨k + 5, .bcastX (k + 5) (k + 6)⟩]
  | 7 => [⟨b, .bcastX b (k + 7)⟩]
  | 8 => [⟨k + 6, .idG⟩, ⟨k + 7, .idG⟩]
  | _ => []

/-- where the edges of `fcEdges` point, relative to the block and its inputs `[W, x, B]` -/
def fcCover : List (List Tgt) :=
  [[.inp 0], [.inp 1], [.loc 0], [.loc 1], [.loc 2, .loc 3], [.loc 4], [.loc 5], [.inp 2], [.loc 6, .loc 7]]

theorem fcEdges_targets (w b x k : Nat) (i : Nat) (h : i < fcCover.length) :
    (fcEdges w b x k i).map (·.target) = (fcCover[i]).map (Tgt.abs k [w, x, b]) := by
  have : i < 9 := h
  interval_cases i <;> rfl

/-- which of the nine tensors are tracked, given which of `W`, `x`, `B` are -/
def fcOn (tw tx tb : Bool) : Nat → Bool
  | 0 | 2 => tw
  | 1 | 3 => tx
  | 7 => tb
  | 8 => tw || tx || tb
  | _ => tw || tx

section graph
variable {H : Heap ℝ} {w b x k N D O : Nat} {Wf Bf : Nat → ℝ} {Xf : Nat → Nat → ℝ}
  (g : FCGraph H w b x k N D O Wf Bf Xf)
include g

theorem fc_ctx_eq (i : Nat) (hi : i ≤ 8) : ∃ ops, H.ctx (k + i) = mkCtx H ops (fcEdges w b x k i) := by
  interval_cases i
  exacts [⟨_, g.c0⟩, ⟨_, g.c1⟩, ⟨_, g.c2⟩, ⟨_, g.c3⟩, ⟨_, g.c4⟩, ⟨_, g.c5⟩, ⟨_, g.c6⟩, ⟨_, g.c7⟩, ⟨_, g.c8⟩]

theorem fc_edges_sub (i : Nat) (hi : i ≤ 8) : ∀ e ∈ (H.ctx (k + i)).edges, e ∈ fcEdges w b x k i := by
  intro e he
  obtain ⟨ops, h⟩ := fc_ctx_eq g i hi
  rw [h] at he
  exact mkCtx_edges_sub _ _ _ e he

theorem fc_edges_of_tracked (i : Nat) (hi : i ≤ 8) (ht : H.tracked (k + i) = true) :
    (H.ctx (k + i)).edges = fcEdges w b x k i := by
  obtain ⟨ops, h⟩ := fc_ctx_eq g i hi
  unfold Heap.tracked at ht
  rw [h] at ht ⊢
  exact mkCtx_tracked_edges _ _ _ ht

theorem fc_x_ne : x ≠ w ∧ x ≠ b := by
  constructor <;> intro h <;> have := g.vx.dims
  · rw [h, g.vw.dims] at this; simp at this
  · rw [h, g.vb.dims] at this; simp at this

/-- the graph is a block over `[W, x, B]` whose edges the table `fcCover` covers, whatever the flags -/
theorem fc_cover (hwk : w < k) (hbk : b < k) (hxk : x < k) : Cover H k [w, x, b] fcCover where
  ins_lt := by simp only [List.mem_cons, List.not_mem_nil, or_false]; rintro y (rfl | rfl | rfl) <;> assumption
  inScope := rfl
  targets := fun i h e he => by
    rw [← fcEdges_targets w b x k i h]
    exact List.mem_map_of_mem (fc_edges_sub g i (Nat.le_of_lt_succ h) e he)

/-- **flags of the nine tensors** when none of `W`, `B`, `x` is spent -/
theorem fc_flags (cw : H.dirty w = false) (cb : H.dirty b = false) (cx : H.dirty x = false) (i : Nat) (hi : i ≤ 8) :
    H.dirty (k + i) = false ∧ H.tracked (k + i) = fcOn (H.tracked w) (H.tracked x) (H.tracked b) i := by
  have f0 : H.dirty k = false ∧ H.tracked k = H.tracked w := by simpa using ctx_flags g.c0 (by simpa using cw)
  have f1 : H.dirty (k + 1) = false ∧ H.tracked (k + 1) = H.tracked x := by
    simpa using ctx_flags g.c1 (by simpa using cx)
  have f2 : H.dirty (k + 2) = false ∧ H.tracked (k + 2) = H.tracked w := by
    simpa [f0.2] using ctx_flags g.c2 (by simpa using f0.1)
  have f3 : H.dirty (k + 3) = false ∧ H.tracked (k + 3) = H.tracked x := by
    simpa [f1.2] using ctx_flags g.c3 (by simpa using f1.1)
  have f4 : H.dirty (k + 4) = false ∧ H.tracked (k + 4) = (H.tracked w || H.tracked x) := by
    simpa [f2.2, f3.2] using ctx_flags g.c4 (by simpa using ⟨f2.1, f3.1⟩)
  have f5 : H.dirty (k + 5) = false ∧ H.tracked (k + 5) = (H.tracked w || H.tracked x) := by
    simpa [f4.2] using ctx_flags g.c5 (by simpa using f4.1)
  have f6 : H.dirty (k + 6) = false ∧ H.tracked (k + 6) = (H.tracked w || H.tracked x) := by
    simpa [f5.2] using ctx_flags g.c6 (by simpa using f5.1)
  have f7 : H.dirty (k + 7) = false ∧ H.tracked (k + 7) = H.tracked b := by
    simpa using ctx_flags g.c7 (by simpa using cb)
  have f8 : H.dirty (k + 8) = false ∧ H.tracked (k + 8) = (H.tracked w || H.tracked x || H.tracked b) := by
    simpa [f6.2, f7.2] using ctx_flags g.c8 (by simpa using ⟨f6.1, f7.1⟩)
  interval_cases i
  exacts [f0, f1, f2, f3, f4, f5, f6, f7, f8]

/-- the layer's result is tracked and unspent when `B` is tracked and none of `W`, `B`, `x` is spent -/
theorem fc_live_result (hk : k + 8 < H.size) (tb : H.tracked b = true) (cw : H.dirty w = false)
    (cb : H.dirty b = false) (cx : H.dirty x = false) : Live H (k + 8) := by
  obtain ⟨d8, t8⟩ := fc_flags g cw cb cx 8 (by omega)
  exact ⟨hk, by rw [t8]; simp [fcOn, tb], d8⟩

end graph

/-- a back edge to an older tensor other than `W`, `B`, or to nothing older than the layer's result, does not point at
    `W`, `B` or one of the layer's eight internal tensors -/
theorem outside_of {t w b k : Nat} (hw : w < k) (hb : b < k) (h : (t < k ∧ t ≠ w ∧ t ≠ b) ∨ k + 8 ≤ t) :
    t ≠ w ∧ t ≠ b ∧ ¬ (k ≤ t ∧ t ≤ k + 7) := by
  omega

/-! ## `Forward` on a reachable heap -/

/-- what `Forward` of a layer with live parameters and an unspent input leaves behind -/
structure FCRun (H : Heap ℝ) (w b x N D O : Nat) (H' : Heap ℝ) : Prop where
  hw : w < H.size
  hb : b < H.size
  hx : x < H.size
  run : fcForward ⟨some w, some b⟩ [some x] H = .ok (H.size + 8, H')
  ext : Extends H H'
  size : H'.size = H.size + 9
  graph : FCGraph H' w b x H.size N D O (fun i => (H.val w).el [i]) (fun i => (H.val b).el [i])
    (fun i j => (H.val x).el [i, j])
  dag : HeapDag H'
  lw : Live H' w
  lb : Live H' b
  cx : H'.dirty x = false
  gw : H'.grad w = none
  gb : H'.grad b = none
  gnew : ∀ n, H.size ≤ n → H'.grad n = none

theorem fc_run {bm : BMode} {H : Heap ℝ} {w b x : Nat} (N D O : Nat) (hR : Reach bm H) (lw : Live H w) (lb : Live H b)
    (hx : x < H.size) (cx : H.dirty x = false) (ww : (H.val w).WF) (wb : (H.val b).WF) (wx : (H.val x).WF)
    (dw : (H.val w).dims = [O]) (db : (H.val b).dims = [O]) (dx : (H.val x).dims = [N, D]) :
    ∃ H', FCRun H w b x N D O H' := by
  obtain ⟨H', h1, hext, hsz, g⟩ := fc_forward_graph N D O w b x H lw.1 lb.1 hx _ _ _
    (is1_self _ ww O dw) (is1_self _ wb O db) (is2_self _ wx N D dx)
  refine ⟨H', lw.1, lb.1, hx, h1, hext, hsz, g, (fc_cover g lw.1 lb.1 hx).dag (reach_dag hR) hext hsz, lw.ext hext, lb.ext hext, ?_, ?_, ?_,
    (fresh_fcForward _ _ H _ H' h1).2⟩
  · rw [(ext_flags hext hx).2.1]; exact cx
  · rw [(ext_flags hext lw.1).2.2]; exact reach_clean_nograd hR w lw.2.2
  · rw [(ext_flags hext lb.1).2.2]; exact reach_clean_nograd hR b lb.2.2

/-! ## the three paths of sole consumers -/

theorem filter_sole (t : Nat) (r : Rule ℝ) : [(⟨t, r⟩ : Edge ℝ)].filter (fun e => decide (e.target = t)) = [⟨t, r⟩] := by
  simp

theorem filter_fst {t t' : Nat} (r r' : Rule ℝ) (h : t' ≠ t) :
    [(⟨t, r⟩ : Edge ℝ), ⟨t', r'⟩].filter (fun e => decide (e.target = t)) = [⟨t, r⟩] := by
  simp [h]

theorem filter_snd {t t' : Nat} (r r' : Rule ℝ) (h : t ≠ t') :
    [(⟨t, r⟩ : Edge ℝ), ⟨t', r'⟩].filter (fun e => decide (e.target = t')) = [⟨t', r'⟩] := by
  simp [h]

section paths
variable {H : Heap ℝ} {root w b x k N D O : Nat} {Wf Bf : Nat → ℝ} {Xf : Nat → Nat → ℝ}
  (g : FCGraph H w b x k N D O Wf Bf Xf) (hwk : w < k) (hbk : b < k) (hxk : x < k)
  (gnew : ∀ i, i ≤ 7 → H.grad (k + i) = none) (hroot : ∀ i, i ≤ 7 → root ≠ k + i)
  (hout : ∀ v ∈ backwardOrder H root, (v < k ∨ k + 8 < v) → ∀ e ∈ (H.ctx v).edges, ¬ (k ≤ e.target ∧ e.target ≤ k + 7))
include g hwk hbk hxk

/-- the last step of a path: tensor `k + c` is the only visited consumer of the `j`-th input -/
theorem fc_last {j c : Nat} {r : Rule ℝ} (hj : j < 3) (hc : c ≤ 8) (tc : H.tracked (k + c) = true)
    (hd : ∀ y ∈ [w, x, b].eraseIdx j, y ≠ [w, x, b][j]) (tj : H.tracked [w, x, b][j] = true)
    (gj : H.grad [w, x, b][j] = none) (hr : root ≠ [w, x, b][j])
    (houtj : ∀ v ∈ backwardOrder H root, (v < k ∨ k + 8 < v) → ∀ e ∈ (H.ctx v).edges, e.target ≠ [w, x, b][j])
    (hcs : Table.consumers (fcCover.map some) (.inp j) = [c])
    (hf : (fcEdges w b x k c).filter (fun e => decide (e.target = [w, x, b][j])) = [⟨[w, x, b][j], r⟩]) :
    SolePath H root (k + c) [r] [w, x, b][j] := by
  refine .cons (by rw [fc_edges_of_tracked g c hc tc]; exact hf) (fun v hv hne => ?_) tj gj hr.symm (.nil _)
  refine (fc_cover g hwk hbk hxk).no_other_inp root j hj hd (fun v hv hb => houtj v hv ?_) hcs v hv (by simpa using hne)
  have : fcCover.length = 9 := rfl
  omega

include gnew hroot hout

/-- an inner step: tensor `k + c` is the only visited consumer of tensor `k + j` -/
theorem fc_step {j c m : Nat} {r : Rule ℝ} {rs : List (Rule ℝ)} (hj : j ≤ 7) (hc : c ≤ 8)
    (tc : H.tracked (k + c) = true) (tj : H.tracked (k + j) = true)
    (hcs : Table.consumers (fcCover.map some) (.loc j) = [c])
    (hf : (fcEdges w b x k c).filter (fun e => decide (e.target = k + j)) = [⟨k + j, r⟩])
    (p : SolePath H root (k + j) rs m) : SolePath H root (k + c) (r :: rs) m := by
  refine .cons (by rw [fc_edges_of_tracked g c hc tc]; exact hf) (fun v hv hne => ?_) tj (gnew j hj) (hroot j hj).symm p
  refine (fc_cover g hwk hbk hxk).no_other_loc root j (fun v hv hb e he h => hout v hv ?_ e he (by omega)) hcs v hv
    (by simpa using hne)
  have : fcCover.length = 9 := rfl
  omega

variable (cw : H.dirty w = false) (cb : H.dirty b = false) (cx : H.dirty x = false)
include cw cb cx

/-- result → `Broadcast` copy → `SumAlong(2)` → product, shared by the paths to `W` and to `x` -/
theorem fc_path_mm {m : Nat} {rs : List (Rule ℝ)} (t4 : H.tracked (k + 4) = true) (p : SolePath H root (k + 4) rs m) :
    SolePath H root (k + 8) (pathMM k ++ rs) m := by
  have F := fc_flags g cw cb cx
  have t4' : (H.tracked w || H.tracked x) = true := (F 4 (by omega)).2.symm.trans t4
  have t5 : H.tracked (k + 5) = true := (F 5 (by omega)).2.trans t4'
  have t6 : H.tracked (k + 6) = true := (F 6 (by omega)).2.trans t4'
  have t8 : H.tracked (k + 8) = true := by rw [(F 8 (by omega)).2]; simp only [fcOn, t4', Bool.true_or]
  have s := fc_step g hwk hbk hxk gnew hroot hout (j := 4) (c := 5) (r := .sumAlongX (k + 4) 2) (by decide) (by decide) t5 t4 rfl
    (filter_sole _ _) p
  have s := fc_step g hwk hbk hxk gnew hroot hout (j := 5) (c := 6) (r := .bcastX (k + 5) (k + 6)) (by decide) (by decide) t6 t5 rfl
    (filter_sole _ _) s
  exact fc_step g hwk hbk hxk gnew hroot hout (j := 6) (c := 8) (r := .idG) (by decide) (by decide) t8 t6 rfl
    (filter_fst _ _ (by omega)) s

/-- **The layer inside any walk: three paths of sole consumers.** In any heap that contains the layer's graph with unspent
    `W`, `B`, `x`, for a walk from a root outside the layer's eight internal tensors, none of which holds a gradient or is
    consumed by a visited tensor outside the layer: the back-edge path from the layer's result to each of `W`, `B`, `x`
    that is tracked, holds no gradient, is not the root and is consumed by no visited tensor outside the layer is a path of
    sole consumers. -/
theorem fc_solePaths :
    (H.tracked w = true → H.grad w = none → root ≠ w → w ≠ b →
      (∀ v ∈ backwardOrder H root, (v < k ∨ k + 8 < v) → ∀ e ∈ (H.ctx v).edges, e.target ≠ w) →
      SolePath H root (k + 8) (pathW w k) w) ∧
    (H.tracked b = true → H.grad b = none → root ≠ b → w ≠ b →
      (∀ v ∈ backwardOrder H root, (v < k ∨ k + 8 < v) → ∀ e ∈ (H.ctx v).edges, e.target ≠ b) →
      SolePath H root (k + 8) (pathB b k) b) ∧
    (H.tracked x = true → H.grad x = none → root ≠ x →
      (∀ v ∈ backwardOrder H root, (v < k ∨ k + 8 < v) → ∀ e ∈ (H.ctx v).edges, e.target ≠ x) →
      SolePath H root (k + 8) (pathX x k) x) := by
  have F := fc_flags g cw cb cx
  obtain ⟨hxw, hxb⟩ := fc_x_ne g
  have on : ∀ i, i ≤ 8 → fcOn (H.tracked w) (H.tracked x) (H.tracked b) i = true → H.tracked (k + i) = true :=
    fun i hi h => (F i hi).2.trans h
  refine ⟨fun tw gw hr hwb ho => ?_, fun tb gb hr hwb ho => ?_, fun tx gx hr ho => ?_⟩
  · have t0 := on 0 (by decide) tw
    have t2 := on 2 (by decide) tw
    have t4 := on 4 (by decide) (show (H.tracked w || H.tracked x) = true by rw [tw]; rfl)
    have p := fc_last g hwk hbk hxk (j := 0) (c := 0) (r := .reshapeX w) (by decide) (by decide) t0
      (by simp [List.eraseIdx]; exact ⟨hxw, Ne.symm hwb⟩) tw gw hr ho rfl (filter_sole _ _)
    have p := fc_step g hwk hbk hxk gnew hroot hout (j := 0) (c := 2) (r := .bcastX k (k + 2)) (by decide) (by decide) t2 t0
      rfl (filter_sole _ _) p
    have p := fc_step g hwk hbk hxk gnew hroot hout (j := 2) (c := 4) (r := .matmulA (k + 3)) (by decide) (by decide) t4 t2
      rfl (filter_fst _ _ (by omega)) p
    exact fc_path_mm g hwk hbk hxk gnew hroot hout cw cb cx t4 p
  · have t7 := on 7 (by decide) tb
    have t8 := on 8 (by decide) (show (H.tracked w || H.tracked x || H.tracked b) = true by rw [tb]; exact Bool.or_true _)
    have p := fc_last g hwk hbk hxk (j := 2) (c := 7) (r := .bcastX b (k + 7)) (by decide) (by decide) t7
      (by simp [List.eraseIdx]; exact ⟨hwb, hxb⟩) tb gb hr ho rfl (filter_sole _ _)
    exact fc_step g hwk hbk hxk gnew hroot hout (j := 7) (c := 8) (r := .idG) (by decide) (by decide) t8 t7 rfl
      (filter_snd _ _ (by omega)) p
  · have t1 := on 1 (by decide) tx
    have t3 := on 3 (by decide) tx
    have t4 := on 4 (by decide) (show (H.tracked w || H.tracked x) = true by rw [tx]; exact Bool.or_true _)
    have p := fc_last g hwk hbk hxk (j := 1) (c := 1) (r := .reshapeX x) (by decide) (by decide) t1
      (by simp [List.eraseIdx]; exact ⟨Ne.symm hxw, Ne.symm hxb⟩) tx gx hr ho rfl (filter_sole _ _)
    have p := fc_step g hwk hbk hxk gnew hroot hout (j := 1) (c := 3) (r := .bcastX (k + 1) (k + 3)) (by decide) (by decide) t3 t1
      rfl (filter_sole _ _) p
    have p := fc_step g hwk hbk hxk gnew hroot hout (j := 3) (c := 4) (r := .matmulB (k + 2)) (by decide) (by decide) t4 t3
      rfl (filter_snd _ _ (by omega)) p
    exact fc_path_mm g hwk hbk hxk gnew hroot hout cw cb cx t4 p

end paths

end C16z
end Qeep
