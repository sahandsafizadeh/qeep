import QeepProps.C16y
import QeepProps.C16t
/-!
# C16 — what `BackPropagate` stores on the parameters of an `FC` layer (end to end)

`fc_backprop`: `Forward(x)` then `tensor.BackPropagate` on the result, on ANY heap the public API can build. The proof
runs the real walk: `C01w.grad_root` (the root keeps the all-ones seed), `C01q.grad_path` (a tensor whose only consumer
is its predecessor on a path receives the rules of the path applied in order) along the back-edge paths `pathW` /
`pathB` of the nine-node graph `fc_forward_graph` describes (`fc_solePaths`), and the path results `fc_grad_weight` /
`fc_grad_bias`.
-/

namespace Qeep
namespace C16z
open RealScalar C01 C01x C01z C01w C01q C16x C15x C16t Block

/-- **An FC layer inside ANY walk** (either mode). Let `H2` be any heap with older-pointing back edges that contains the
    nine-node graph of a `Forward` call at base id `k` (`FCGraph`), with `W`, `B` tracked, unspent and without a gradient,
    the input unspent; let the tensors outside the graph that the walk visits have no back edge to `W`, `B` or the layer's eight internal
    tensors (the layer's result `k + 8` may be consumed by anything: a loss, further layers). Take a successful walk from
    ANY root (not inside the layer) that visits the layer's result and leaves the gradient `G` on it. Then `W.Gradient()` and
    `B.Gradient()` are the rules of the two back-edge paths applied to `G`, in order. -/
theorem fc_paths_in_walk (bm : BMode) (H2 : Heap ℝ) (root w b x k N D O : Nat) {Wf Bf : Nat → ℝ} {Xf : Nat → Nat → ℝ}
    (hdag : HeapDag H2) (htr : H2.tracked root = true) (hok : (backprop bm H2 root).status = .ok ())
    (g : FCGraph H2 w b x k N D O Wf Bf Xf) (hwk : w < k) (hbk : b < k) (hxk : x < k) (hwb : w ≠ b)
    (tw : H2.tracked w = true) (tb : H2.tracked b = true)
    (cw : H2.dirty w = false) (cb : H2.dirty b = false) (cx' : H2.dirty x = false)
    (gw : H2.grad w = none) (gb : H2.grad b = none) (gnew : ∀ i, i ≤ 7 → H2.grad (k + i) = none)
    (hroot1 : root ≠ w) (hroot2 : root ≠ b) (hroot3 : ∀ i, i ≤ 7 → root ≠ k + i)
    (hsole : ∀ v ∈ backwardOrder H2 root, (v < k ∨ k + 8 < v) → ∀ e ∈ (H2.ctx v).edges,
      e.target ≠ w ∧ e.target ≠ b ∧ ¬ (k ≤ e.target ∧ e.target ≤ k + 7))
    (G : Tensor ℝ) (hy : k + 8 ∈ backwardOrder H2 root) (f8 : (backprop bm H2 root).heap.grad (k + 8) = some G) :
    ∃ gW gB,
      evalPath bm H2 (pathW w k) G = .ok gW ∧ (backprop bm H2 root).heap.grad w = some gW ∧
      evalPath bm H2 (pathB b k) G = .ok gB ∧ (backprop bm H2 root).heap.grad b = some gB := by
  obtain ⟨pW, pB, _⟩ := fc_solePaths g hwk hbk hxk gnew hroot3 (fun v hv hb e he => (hsole v hv hb e he).2.2) cw cb cx'
  obtain ⟨gW, pw1, pw2, _⟩ := grad_path bm H2 root hdag htr hok _ _ _
    (pW tw gw hroot1 hwb (fun v hv hb e he => (hsole v hv hb e he).1)) G hy f8
  obtain ⟨gB, pb1, pb2, _⟩ := grad_path bm H2 root hdag htr hok _ _ _
    (pB tb gb hroot2 hwb (fun v hv hb e he => (hsole v hv hb e he).2.1)) G hy f8
  rw [evalPath_val_congr bm _ H2 (fun n => markDirty_val _ _ n)] at pw1 pb1
  exact ⟨gW, gB, pw1, pw2, pb1, pb2⟩

/-- what the walk stores on `W` and `B`, given what the rules of the two paths compute -/
theorem grads_of_paths {bm : BMode} {H2 : Heap ℝ} {root w b k O : Nat} {G : Tensor ℝ} {fW fB : Nat → ℝ}
    (hp : ∃ gW gB, evalPath bm H2 (pathW w k) G = .ok gW ∧ (backprop bm H2 root).heap.grad w = some gW ∧
      evalPath bm H2 (pathB b k) G = .ok gB ∧ (backprop bm H2 root).heap.grad b = some gB)
    (qW : ∃ dW, evalPath bm H2 (pathW w k) G = .ok dW ∧ dW.dims = (H2.val w).dims ∧ Is1 dW O fW)
    (qB : ∃ dB, evalPath bm H2 (pathB b k) G = .ok dB ∧ dB.dims = (H2.val b).dims ∧ Is1 dB O fB) :
    ∃ dW dB, (backprop bm H2 root).heap.grad w = some dW ∧ (backprop bm H2 root).heap.grad b = some dB ∧
      Is1 dW O fW ∧ Is1 dB O fB := by
  obtain ⟨gW, gB, pw1, pw2, pb1, pb2⟩ := hp
  obtain ⟨dW, qw1, _, qw3⟩ := qW
  obtain ⟨dB, qb1, _, qb3⟩ := qB
  rw [qw1] at pw1; rw [qb1] at pb1
  cases pw1; cases pb1
  exact ⟨_, _, pw2, pb2, qw3, qb3⟩

theorem sumOver_weight (N D : Nat) (a : Nat → ℝ) (X : Nat → Nat → ℝ) :
    sumOver N (fun n => sumOver D (fun d => Scalar.mul (a n) (X n d))) =
      ∑ n ∈ Finset.range N, a n * ∑ d ∈ Finset.range D, X n d := by
  rw [C16x.sumOver_real]
  refine Finset.sum_congr rfl (fun n _ => ?_)
  rw [C16x.sumOver_real, Finset.mul_sum]
  rfl

/-- **either mode**: what the walk stores on `W` and `B` when it leaves `G` on the layer's result, with the factor
    `bfac bm N` (`1` in `sum` mode, `1/N` in `mean` mode: finding D2) the batch `Broadcast` rules put on both -/
theorem grads_of_paths_bm (bm : BMode) {H2 : Heap ℝ} {root w b x k N D O : Nat} {Wf Bf : Nat → ℝ} {Xf : Nat → Nat → ℝ}
    (g : FCGraph H2 w b x k N D O Wf Bf Xf) {G : Tensor ℝ} {Gf : Nat → Nat → ℝ} (hG : Is2 G N O Gf)
    (hp : ∃ gW gB, evalPath bm H2 (pathW w k) G = .ok gW ∧ (backprop bm H2 root).heap.grad w = some gW ∧
      evalPath bm H2 (pathB b k) G = .ok gB ∧ (backprop bm H2 root).heap.grad b = some gB) :
    ∃ dW dB, (backprop bm H2 root).heap.grad w = some dW ∧ (backprop bm H2 root).heap.grad b = some dB ∧
      dW.WF ∧ dW.dims = [O] ∧ dB.WF ∧ dB.dims = [O] ∧
      (∀ o, o < O → dW.el [o] = bfac bm N * ∑ n ∈ Finset.range N, Gf n o * ∑ d ∈ Finset.range D, Xf n d) ∧
      (∀ o, o < O → dB.el [o] = bfac bm N * ∑ n ∈ Finset.range N, Gf n o) := by
  cases bm with
  | sum =>
    obtain ⟨dW, dB, pw, pb, iw, ib⟩ := grads_of_paths hp (fc_grad_weight g hG) (fc_grad_bias g hG)
    exact ⟨dW, dB, pw, pb, iw.wf, iw.dims, ib.wf, ib.dims,
      fun o ho => by rw [iw.el o ho, sumOver_weight]; exact (one_mul _).symm,
      fun o ho => by rw [ib.el o ho, C16x.sumOver_real]; exact (one_mul _).symm⟩
  | mean =>
    obtain ⟨dW, dB, pw, pb, iw, ib⟩ := grads_of_paths hp (fc_grad_weight_mean g hG) (fc_grad_bias_mean g hG)
    exact ⟨dW, dB, pw, pb, iw.wf, iw.dims, ib.wf, ib.dims,
      fun o ho => by rw [iw.el o ho, sumOver_weight]; exact (one_div_mul_eq_div _ _).symm,
      fun o ho => by rw [ib.el o ho, C16x.sumOver_real]; exact (one_div_mul_eq_div _ _).symm⟩

/-- **in `sum` mode, inside any walk**: `dW[o] = Σ_n G[n][o]·Σ_d x[n][d]`, `dB[o] = Σ_n G[n][o]` for the gradient `G`
    the walk leaves on the layer's result -/
theorem fc_in_walk_sum (H2 : Heap ℝ) (root w b x k N D O : Nat) {Wf Bf : Nat → ℝ} {Xf : Nat → Nat → ℝ}
    (hdag : HeapDag H2) (htr : H2.tracked root = true) (hok : (backprop .sum H2 root).status = .ok ())
    (g : FCGraph H2 w b x k N D O Wf Bf Xf) (hwk : w < k) (hbk : b < k) (hxk : x < k) (hwb : w ≠ b)
    (tw : H2.tracked w = true) (tb : H2.tracked b = true)
    (cw : H2.dirty w = false) (cb : H2.dirty b = false) (cx' : H2.dirty x = false)
    (gw : H2.grad w = none) (gb : H2.grad b = none) (gnew : ∀ i, i ≤ 7 → H2.grad (k + i) = none)
    (hroot1 : root ≠ w) (hroot2 : root ≠ b) (hroot3 : ∀ i, i ≤ 7 → root ≠ k + i)
    (hsole : ∀ v ∈ backwardOrder H2 root, (v < k ∨ k + 8 < v) → ∀ e ∈ (H2.ctx v).edges,
      e.target ≠ w ∧ e.target ≠ b ∧ ¬ (k ≤ e.target ∧ e.target ≤ k + 7))
    (G : Tensor ℝ) (Gf : Nat → Nat → ℝ) (hG : Is2 G N O Gf)
    (hy : k + 8 ∈ backwardOrder H2 root) (f8 : (backprop .sum H2 root).heap.grad (k + 8) = some G) :
    ∃ dW dB, (backprop .sum H2 root).heap.grad w = some dW ∧ (backprop .sum H2 root).heap.grad b = some dB ∧
      dW.WF ∧ dW.dims = [O] ∧ dB.WF ∧ dB.dims = [O] ∧
      (∀ o, o < O → dW.el [o] = ∑ n ∈ Finset.range N, Gf n o * ∑ d ∈ Finset.range D, Xf n d) ∧
      (∀ o, o < O → dB.el [o] = ∑ n ∈ Finset.range N, Gf n o) := by
  obtain ⟨dW, dB, pw, pb, q3, q4, q5, q6, q7, q8⟩ := grads_of_paths_bm .sum g hG (fc_paths_in_walk .sum H2 root w b x k N D O
    hdag htr hok g hwk hbk hxk hwb tw tb cw cb cx' gw gb gnew hroot1 hroot2 hroot3 hsole G hy f8)
  exact ⟨dW, dB, pw, pb, q3, q4, q5, q6, fun o ho => (q7 o ho).trans (one_mul _), fun o ho => (q8 o ho).trans (one_mul _)⟩

/-- **in `mean` mode (the tree as it is, finding D2), inside any walk**: `dW[o] = (Σ_n G[n][o]·Σ_d x[n][d]) / N`,
    `dB[o] = (Σ_n G[n][o]) / N` — the wanted gradients divided by the batch size -/
theorem fc_in_walk_mean (H2 : Heap ℝ) (root w b x k N D O : Nat) {Wf Bf : Nat → ℝ} {Xf : Nat → Nat → ℝ}
    (hdag : HeapDag H2) (htr : H2.tracked root = true) (hok : (backprop .mean H2 root).status = .ok ())
    (g : FCGraph H2 w b x k N D O Wf Bf Xf) (hwk : w < k) (hbk : b < k) (hxk : x < k) (hwb : w ≠ b)
    (tw : H2.tracked w = true) (tb : H2.tracked b = true)
    (cw : H2.dirty w = false) (cb : H2.dirty b = false) (cx' : H2.dirty x = false)
    (gw : H2.grad w = none) (gb : H2.grad b = none) (gnew : ∀ i, i ≤ 7 → H2.grad (k + i) = none)
    (hroot1 : root ≠ w) (hroot2 : root ≠ b) (hroot3 : ∀ i, i ≤ 7 → root ≠ k + i)
    (hsole : ∀ v ∈ backwardOrder H2 root, (v < k ∨ k + 8 < v) → ∀ e ∈ (H2.ctx v).edges,
      e.target ≠ w ∧ e.target ≠ b ∧ ¬ (k ≤ e.target ∧ e.target ≤ k + 7))
    (G : Tensor ℝ) (Gf : Nat → Nat → ℝ) (hG : Is2 G N O Gf)
    (hy : k + 8 ∈ backwardOrder H2 root) (f8 : (backprop .mean H2 root).heap.grad (k + 8) = some G) :
    ∃ dW dB, (backprop .mean H2 root).heap.grad w = some dW ∧ (backprop .mean H2 root).heap.grad b = some dB ∧
      dW.WF ∧ dW.dims = [O] ∧ dB.WF ∧ dB.dims = [O] ∧
      (∀ o, o < O → dW.el [o] = (∑ n ∈ Finset.range N, Gf n o * ∑ d ∈ Finset.range D, Xf n d) / (N : ℝ)) ∧
      (∀ o, o < O → dB.el [o] = (∑ n ∈ Finset.range N, Gf n o) / (N : ℝ)) := by
  obtain ⟨dW, dB, pw, pb, q3, q4, q5, q6, q7, q8⟩ := grads_of_paths_bm .mean g hG (fc_paths_in_walk .mean H2 root w b x k N D O
    hdag htr hok g hwk hbk hxk hwb tw tb cw cb cx' gw gb gnew hroot1 hroot2 hroot3 hsole G hy f8)
  exact ⟨dW, dB, pw, pb, q3, q4, q5, q6, fun o ho => (q7 o ho).trans (one_div_mul_eq_div _ _),
    fun o ho => (q8 o ho).trans (one_div_mul_eq_div _ _)⟩

/-- either mode: after `Forward` and a successful `BackPropagate` of the result, `W` and `B` hold what the rules of their
    back-edge paths make of the all-ones seed, and the graph is the one `FCGraph` describes -/
theorem fc_backprop_paths (bm : BMode) (H : Heap ℝ) (w b x N D O : Nat) (hR : Reach bm H)
    (lw : Live H w) (lb : Live H b) (hx : x < H.size) (cx : H.dirty x = false) (hwb : w ≠ b)
    (ww : (H.val w).WF) (wb : (H.val b).WF) (wx : (H.val x).WF)
    (dw : (H.val w).dims = [O]) (db : (H.val b).dims = [O]) (dx : (H.val x).dims = [N, D])
    (hsole : ∀ v, ∀ e ∈ (H.ctx v).edges, e.target ≠ w ∧ e.target ≠ b) :
    ∃ H', fcForward ⟨some w, some b⟩ [some x] H = .ok (H.size + 8, H') ∧ Extends H H' ∧
      FCGraph H' w b x H.size N D O (fun i => (H.val w).el [i]) (fun i => (H.val b).el [i]) (fun i j => (H.val x).el [i, j]) ∧
      ((backprop bm H' (H.size + 8)).status = .ok () →
        ∃ G gW gB, Is2 G N O (fun _ _ => 1) ∧
          evalPath bm H' (pathW w H.size) G = .ok gW ∧ (backprop bm H' (H.size + 8)).heap.grad w = some gW ∧
          evalPath bm H' (pathB b H.size) G = .ok gB ∧ (backprop bm H' (H.size + 8)).heap.grad b = some gB) := by
  obtain ⟨H', r⟩ := fc_run N D O hR lw lb hx cx ww wb wx dw db dx
  refine ⟨H', r.run, r.ext, r.graph, fun hok => ?_⟩
  have t8 := (fc_live_result r.graph (by have := r.size; omega) r.lb.2.1 r.lw.2.2 r.lb.2.2 r.cx).2.1
  have hlt := order_lt_size H' _ r.dag t8
  -- the walk stays below `H.size + 9`, and the old tensors kept their edges
  have hsole' : ∀ v ∈ backwardOrder H' (H.size + 8), (v < H.size ∨ H.size + 8 < v) → ∀ e ∈ (H'.ctx v).edges,
      e.target ≠ w ∧ e.target ≠ b ∧ ¬ (H.size ≤ e.target ∧ e.target ≤ H.size + 7) := by
    intro v hv hb e he
    have hv' : v < H.size := by have := hlt v hv; have := r.size; omega
    rw [r.ext.ctx hv'] at he
    exact outside_of r.hw r.hb (.inl ⟨Nat.lt_trans (reach_dag hR v e he) hv', hsole v e he⟩)
  obtain ⟨gW, gB, h⟩ := fc_paths_in_walk bm H' (H.size + 8) w b x H.size N D O r.dag t8 hok r.graph r.hw r.hb r.hx hwb
    r.lw.2.1 r.lb.2.1 r.lw.2.2 r.lb.2.2 r.cx r.gw r.gb (fun i _ => r.gnew _ (by omega)) (by have := r.hw; omega)
    (by have := r.hb; omega) (fun i hi => by omega) hsole' _ (backwardOrder_spec H' _ r.dag t8).1
    (grad_root bm H' _ r.dag t8 hok (r.gnew _ (by omega)) r.graph.y.wf)
  exact ⟨_, gW, gB, ones_is2 _ N O _ r.graph.y, h⟩

/-- **`BackPropagate` on the output of an FC layer** (`sum` mode). ANY heap the public API can build, parameters
    `W, B : [O]` that are tracked and unspent and have not been consumed by any other tracked operation (the situation
    of a layer's parameters at every training step: `Update` replaces them by fresh tensors), any unspent input
    `x : [N, D]` — tracked or not, with any ancestors. If the walk returns without error then
    `W.Gradient()[o] = Σ_n Σ_d x[n][d]` and `B.Gradient()[o] = N` — the partial derivatives of `Σ_{n,o} y[n][o]`
    (`fc_backward_is_gradient` with the all-ones upstream gradient). -/
theorem fc_backprop (H : Heap ℝ) (w b x N D O : Nat) (hR : Reach .sum H)
    (lw : Live H w) (lb : Live H b) (hx : x < H.size) (cx : H.dirty x = false) (hwb : w ≠ b)
    (ww : (H.val w).WF) (wb : (H.val b).WF) (wx : (H.val x).WF)
    (dw : (H.val w).dims = [O]) (db : (H.val b).dims = [O]) (dx : (H.val x).dims = [N, D])
    (hsole : ∀ v, ∀ e ∈ (H.ctx v).edges, e.target ≠ w ∧ e.target ≠ b) :
    ∃ y H', fcForward ⟨some w, some b⟩ [some x] H = .ok (y, H') ∧
      ((backprop .sum H' y).status = .ok () →
        ∃ dW dB, (backprop .sum H' y).heap.grad w = some dW ∧ (backprop .sum H' y).heap.grad b = some dB ∧
          dW.WF ∧ dW.dims = [O] ∧ dB.WF ∧ dB.dims = [O] ∧
          (∀ o, o < O → dW.el [o] = ∑ n ∈ Finset.range N, ∑ d ∈ Finset.range D, (H.val x).el [n, d]) ∧
          (∀ o, o < O → dB.el [o] = (N : ℝ))) := by
  obtain ⟨H', h1, hext, g, himp⟩ := fc_backprop_paths .sum H w b x N D O hR lw lb hx cx hwb ww wb wx dw db dx hsole
  refine ⟨H.size + 8, H', h1, fun hok => ?_⟩
  obtain ⟨G, gW, gB, hG, hp⟩ := himp hok
  obtain ⟨dW, dB, pw, pb, iw, ib⟩ := grads_of_paths ⟨gW, gB, hp⟩ (fc_grad_weight g hG) (fc_grad_bias g hG)
  exact ⟨dW, dB, pw, pb, iw.wf, iw.dims, ib.wf, ib.dims, fun o ho => by rw [iw.el o ho, sumOver_weight]; simp,
    fun o ho => by rw [ib.el o ho, C16x.sumOver_real]; simp⟩

/-- **The tree as it is (`mean` mode, finding D2), end to end**: under the same hypotheses `B.Gradient()[o]` is `1` for every
    batch size `N` — the wanted `N` divided by the batch size: the real walk, not only the path, exhibits the defect. -/
theorem fc_backprop_bias_mean (H : Heap ℝ) (w b x N D O : Nat) (hR : Reach .mean H)
    (lw : Live H w) (lb : Live H b) (hx : x < H.size) (cx : H.dirty x = false) (hwb : w ≠ b)
    (ww : (H.val w).WF) (wb : (H.val b).WF) (wx : (H.val x).WF)
    (dw : (H.val w).dims = [O]) (db : (H.val b).dims = [O]) (dx : (H.val x).dims = [N, D])
    (hsole : ∀ v, ∀ e ∈ (H.ctx v).edges, e.target ≠ w ∧ e.target ≠ b) :
    ∃ y H', fcForward ⟨some w, some b⟩ [some x] H = .ok (y, H') ∧
      ((backprop .mean H' y).status = .ok () →
        ∃ dB, (backprop .mean H' y).heap.grad b = some dB ∧ dB.WF ∧ dB.dims = [O] ∧ (∀ o, o < O → dB.el [o] = 1)) := by
  obtain ⟨H', h1, hext, g, himp⟩ := fc_backprop_paths .mean H w b x N D O hR lw lb hx cx hwb ww wb wx dw db dx hsole
  refine ⟨H.size + 8, H', h1, fun hok => ?_⟩
  obtain ⟨G, gW, gB, hG, hp⟩ := himp hok
  obtain ⟨dW, dB, _, pb, _, ib⟩ := grads_of_paths ⟨gW, gB, hp⟩ (fc_grad_weight_mean g hG) (fc_grad_bias_mean g hG)
  refine ⟨dB, pb, ib.wf, ib.dims, fun o ho => ?_⟩
  have hN : (N : ℝ) ≠ 0 := by have := g.vx.pos.1; exact_mod_cast (by omega : N ≠ 0)
  rw [ib.el o ho, C16x.sumOver_real]
  simp [div_eq, ofNat_eq, hN]

/-- leaf parameters, data input: the result is tracked, and the walk from it visits tracked tensors of the graph (so
    neither copy of the input) and `W`, `B` -/
theorem fc_leaf_walk {H H' : Heap ℝ} {w b x N D O : Nat} (r : FCRun H w b x N D O H') (ux : H.tracked x = false)
    (leafw : (H.ctx w).edges = []) (leafb : (H.ctx b).edges = []) :
    H'.tracked (H.size + 8) = true ∧ ∀ v ∈ backwardOrder H' (H.size + 8),
      (∃ i, i ≤ 8 ∧ i ≠ 1 ∧ i ≠ 3 ∧ v = H.size + i) ∨ v = w ∨ v = b := by
  have t8 := (fc_live_result r.graph (by have := r.size; omega) r.lb.2.1 r.lw.2.2 r.lb.2.2 r.cx).2.1
  have ux' : H'.tracked x = false := by rw [(ext_flags r.ext r.hx).1]; exact ux
  have hleaf : ∀ y ∈ [w, x, b], H'.tracked y = true → (H'.ctx y).edges = [] := by
    simp only [List.mem_cons, List.not_mem_nil, or_false]
    rintro y (rfl | rfl | rfl) hy
    · rw [r.ext.ctx r.hw]; exact leafw
    · rw [ux'] at hy; cases hy
    · rw [r.ext.ctx r.hb]; exact leafb
  refine ⟨t8, fun v hv => ?_⟩
  obtain ⟨hvt, h | h⟩ := (fc_cover r.graph r.hw r.hb r.hx).visited_leaves (H.size + 8) (by omega)
    (by show _ < _ + 9; omega) t8 hleaf v hv
  · obtain ⟨i, rfl⟩ : ∃ i, v = H.size + i := ⟨v - H.size, by omega⟩
    have hi : i ≤ 8 := by have : fcCover.length = 9 := rfl; omega
    rw [(fc_flags r.graph r.lw.2.2 r.lb.2.2 r.cx i hi).2, ux'] at hvt
    refine Or.inl ⟨i, hi, ?_, ?_, rfl⟩ <;> rintro rfl <;> cases hvt
  · simp only [List.mem_cons, List.not_mem_nil, or_false] at h
    rcases h with rfl | rfl | rfl
    · exact Or.inr (Or.inl rfl)
    · rw [ux'] at hvt; cases hvt
    · exact Or.inr (Or.inr rfl)

/-- leaf parameters, data input: the walk from the layer's result visits seven tensors of the graph and `W`, `B` -/
theorem fc_leaf_visited (H : Heap ℝ) (w b x N D O : Nat) (bm : BMode) (hR : Reach bm H)
    (lw : Live H w) (lb : Live H b) (hx : x < H.size) (cx : H.dirty x = false) (ux : H.tracked x = false) (hwb : w ≠ b)
    (ww : (H.val w).WF) (wb : (H.val b).WF) (wx : (H.val x).WF)
    (dw : (H.val w).dims = [O]) (db : (H.val b).dims = [O]) (dx : (H.val x).dims = [N, D])
    (leafw : (H.ctx w).edges = []) (leafb : (H.ctx b).edges = [])
    (H' : Heap ℝ) (h1 : fcForward ⟨some w, some b⟩ [some x] H = .ok (H.size + 8, H')) :
    HeapDag H' ∧ ∀ v ∈ backwardOrder H' (H.size + 8), v = H.size + 8 ∨ v = H.size + 7 ∨ v = H.size + 6 ∨ v = H.size + 5 ∨
      v = H.size + 4 ∨ v = H.size + 2 ∨ v = H.size ∨ v = w ∨ v = b := by
  obtain ⟨H'', r⟩ := fc_run N D O hR lw lb hx cx ww wb wx dw db dx
  obtain ⟨_, rfl⟩ := C15w.run_unique h1 r.run
  refine ⟨r.dag, fun v hv => ?_⟩
  rcases (fc_leaf_walk r ux leafw leafb).2 v hv with ⟨i, hi, h1, h3, rfl⟩ | rfl | rfl
  · interval_cases i <;> simp at h1 h3 ⊢
  · simp
  · simp

/-- **`BackPropagate` on the output of an FC layer succeeds** (either mode) when the parameters are leaves (as the
    initializers and `Update` + `ResetGradContext` leave them) and the input is an untracked, unspent data tensor -/
theorem fc_backprop_ok (bm : BMode) (H : Heap ℝ) (w b x N D O : Nat) (hR : Reach bm H)
    (lw : Live H w) (lb : Live H b) (hx : x < H.size) (cx : H.dirty x = false) (ux : H.tracked x = false) (hwb : w ≠ b)
    (ww : (H.val w).WF) (wb : (H.val b).WF) (wx : (H.val x).WF)
    (dw : (H.val w).dims = [O]) (db : (H.val b).dims = [O]) (dx : (H.val x).dims = [N, D])
    (leafw : (H.ctx w).edges = []) (leafb : (H.ctx b).edges = [])
    (H' : Heap ℝ) (h1 : fcForward ⟨some w, some b⟩ [some x] H = .ok (H.size + 8, H')) :
    (backprop bm H' (H.size + 8)).status = .ok () := by
  obtain ⟨H'', r⟩ := fc_run N D O hR lw lb hx cx ww wb wx dw db dx
  obtain ⟨_, rfl⟩ := C15w.run_unique h1 r.run
  obtain ⟨t8, hM⟩ := fc_leaf_walk r ux leafw leafb
  obtain ⟨hxw, hxb⟩ := fc_x_ne r.graph
  refine C01p.backprop_ok bm H' (H.size + 8) r.dag t8 (fun n g => Shaped (fcTargetShape N D O w b x H.size n) g)
    (fun n a b' ha hb => C15w.shaped_add_ok _ a b' ha hb) ?_ ?_ ?_
  · intro n hn gg hgg
    rcases hM n hn with ⟨i, hi, _, _, rfl⟩ | rfl | rfl
    · rw [r.gnew _ (by omega)] at hgg; cases hgg
    · rw [r.gw] at hgg; cases hgg
    · rw [r.gb] at hgg; cases hgg
  · rw [fcTargetShape_loc r.hw r.hb r.hx 8]
    have := ones_shaped _ r.graph.y.wf
    rwa [r.graph.y.dims] at this
  · -- every visited edge is an edge of the graph: `fc_edge_ok`
    intro u hu e he htr gy hgy
    rw [evalRule_val_congr bm _ H' (fun n => markDirty_val _ _ n)]
    rcases hM u hu with ⟨i, hi, _, _, rfl⟩ | rfl | rfl
    · rw [fcTargetShape_loc r.hw r.hb r.hx] at hgy
      exact fc_edge_ok bm r.graph r.hw r.hb r.hx hxw hxb i hi e (fc_edges_sub r.graph i hi e he) gy hgy
    · rw [r.ext.ctx r.hw, leafw] at he; cases he
    · rw [r.ext.ctx r.hb, leafb] at he; cases he

/-- **leaf parameters, data input**: `BackPropagate` succeeds, and `W.Gradient()[o] = Σ_n Σ_d x[n][d]`,
    `B.Gradient()[o] = N` — no hypothesis on the outcome of the walk -/
theorem fc_backprop_leaf (H : Heap ℝ) (w b x N D O : Nat) (hR : Reach .sum H)
    (lw : Live H w) (lb : Live H b) (hx : x < H.size) (cx : H.dirty x = false) (ux : H.tracked x = false) (hwb : w ≠ b)
    (ww : (H.val w).WF) (wb : (H.val b).WF) (wx : (H.val x).WF)
    (dw : (H.val w).dims = [O]) (db : (H.val b).dims = [O]) (dx : (H.val x).dims = [N, D])
    (leafw : (H.ctx w).edges = []) (leafb : (H.ctx b).edges = [])
    (hsole : ∀ v, ∀ e ∈ (H.ctx v).edges, e.target ≠ w ∧ e.target ≠ b) :
    ∃ y H', fcForward ⟨some w, some b⟩ [some x] H = .ok (y, H') ∧ (backprop .sum H' y).status = .ok () ∧
        ∃ dW dB, (backprop .sum H' y).heap.grad w = some dW ∧ (backprop .sum H' y).heap.grad b = some dB ∧
          dW.WF ∧ dW.dims = [O] ∧ dB.WF ∧ dB.dims = [O] ∧
          (∀ o, o < O → dW.el [o] = ∑ n ∈ Finset.range N, ∑ d ∈ Finset.range D, (H.val x).el [n, d]) ∧
          (∀ o, o < O → dB.el [o] = (N : ℝ)) := by
  obtain ⟨H', h1, hext, g, _⟩ := fc_backprop_paths .sum H w b x N D O hR lw lb hx cx hwb ww wb wx dw db dx hsole
  obtain ⟨y, H'', h2, himp⟩ := fc_backprop H w b x N D O hR lw lb hx cx hwb ww wb wx dw db dx hsole
  obtain ⟨rfl, rfl⟩ := C15w.run_unique h1 h2
  have hok := fc_backprop_ok .sum H w b x N D O hR lw lb hx cx ux hwb ww wb wx dw db dx leafw leafb H' h1
  exact ⟨_, H', h1, hok, himp hok⟩

/-- the hypotheses of `fc_backprop` are satisfiable: `W = [3, 4]`, `B = [0, 1]` tracked leaves, `x = [[1, 2, 5]]` -/
example : ∃ (H : Heap ℝ) (w b x N D O : Nat), Reach .sum H ∧ Live H w ∧ Live H b ∧ x < H.size ∧ H.dirty x = false ∧ w ≠ b ∧
    (H.val w).WF ∧ (H.val b).WF ∧ (H.val x).WF ∧ (H.val w).dims = [O] ∧ (H.val b).dims = [O] ∧ (H.val x).dims = [N, D] ∧
    (∀ v, ∀ e ∈ (H.ctx v).edges, e.target ≠ w ∧ e.target ≠ b) := by
  let H0 : Heap ℝ := #[⟨⟨[2], [3, 4]⟩, freshCtx true⟩]
  let H1 : Heap ℝ := H0.push ⟨⟨[2], [0, 1]⟩, freshCtx true⟩
  let H2 : Heap ℝ := H1.push ⟨⟨[1, 3], [1, 2, 5]⟩, freshCtx false⟩
  have r0 : Reach .sum H0 := Reach.leaf (v := ⟨[2], [3, 4]⟩) (b := true) (r := 0) Reach.empty rfl
  have r1 : Reach .sum H1 := Reach.leaf (v := ⟨[2], [0, 1]⟩) (b := true) (r := 1) r0 rfl
  have r2 : Reach .sum H2 := Reach.leaf (v := ⟨[1, 3], [1, 2, 5]⟩) (b := false) (r := 2) r1 rfl
  refine ⟨H2, 0, 1, 2, 1, 3, 2, r2, ⟨by decide, rfl, rfl⟩, ⟨by decide, rfl, rfl⟩, by decide, rfl, by decide,
    ⟨rfl, by decide⟩, ⟨rfl, by decide⟩, ⟨rfl, by decide⟩, rfl, rfl, rfl, fun v e he => ?_⟩
  have : (H2.ctx v).edges = [] := by
    by_cases h3 : v < 3
    · interval_cases v <;> rfl
    · exact ctx_beyond H2 v (Nat.le_of_not_lt h3)
  rw [this] at he
  cases he
end C16z
end Qeep
