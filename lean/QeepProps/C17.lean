import QeepProofs.Run
/-!
# C17 — an SGD update subtracts exactly learning-rate times gradient, element-wise

Generic in the scalar domain (so it holds for `ℝ` and describes the operation order executed on `float64`).
-/

namespace Qeep
namespace C17

variable {α : Type} [Scalar α]

/-- **Update**: for a weight of any shape whose gradient has the weight's shape, the step succeeds, allocates the
    replacement — same dims, element `k` equal to `w_k - lr * g_k` — and leaves the previous tensor object, its
    gradient and every other tensor exactly as they were (`Extends`). -/
theorem sgd_update (lr : α) (H : Heap α) (w : Nat) (g : Tensor α) (hw : w < H.size) (hg : H.grad w = some g)
    (wfw : (H.val w).WF) (wfg : g.WF) (hd : g.dims = (H.val w).dims) :
    ∃ r H', sgdUpdate lr (some w) H = .ok (r, H') ∧ Extends H H' ∧
      H'.val r = ⟨(H.val w).dims,
        List.zipWith (fun wv gv => Scalar.sub wv (Scalar.mul lr gv)) (H.val w).data g.data⟩ := by
  -- g := w.Gradient()
  have hgn : (hGradNode w : HM α (Option Nat)) H = .ok (some H.size, H.push ⟨g, dirtyCtx⟩) := by
    simp [hGradNode, hm_bind, getHeap, hg, Out.bind, alloc, pure, StateT.pure]
  have e0 : Extends H (H.push ⟨g, dirtyCtx⟩) := extends_push H _
  have hgv : Heap.val (H.push ⟨g, dirtyCtx⟩) H.size = g := push_val_new H _
  -- delta := g.Scale(lr)
  obtain ⟨d, H2, hdl⟩ := ran_hScale H.size lr (H.push ⟨g, dirtyCtx⟩)
  have hwlt : w < (H.push ⟨g, dirtyCtx⟩).size := by simp; omega
  have hw2 : H2.val w = H.val w := by rw [hdl.ext.val hwlt, e0.val hw]
  have wd : (H2.val d).WF := by rw [hdl.val, hgv]; exact map_wf _ _ wfg
  have hdd : (H2.val w).dims = (H2.val d).dims := by rw [hw2, hdl.val, hgv]; exact hd.symm
  -- *wptr = w.Sub(delta)
  obtain ⟨r, H3, hr⟩ := ran_hArith_same .sub w d H2 (Nat.lt_of_lt_of_le hwlt hdl.ext.1) hdl.lt
    (by rw [hw2]; exact wfw) wd hdd
  refine ⟨r, H3, ?_, (e0.trans hdl.ext).trans hr.ext, ?_⟩
  · unfold sgdUpdate
    simp only []
    rw [bind_run hgn]
    simp only []
    rw [bind_run hdl.run]
    exact hr.run
  · rw [hr.val, hw2, hdl.val, hgv]
    simp only [vScale, Tensor.map, Arith.fn]
    congr 1
    rw [List.zipWith_map_right]

/-- **Errors**: a nil tensor behind the pointer, or a tensor without gradient, is rejected and nothing is
    replaced (an `err` outcome carries no new heap). -/
theorem sgd_errors (lr : α) (H : Heap α) :
    sgdUpdate lr none H = .err ∧ (∀ w, H.grad w = none → sgdUpdate lr (some w) H = .err) := by
  constructor
  · rfl
  · intro w hg
    simp [sgdUpdate, hGradNode, hm_bind, getHeap, hg, Out.bind, pure, StateT.pure, liftOut]

/-- non-vacuity: a weight with a gradient of its own shape (kernel-checked on `Int`) -/
example : ∃ r H', sgdUpdate (2 : Int) (some 0) (#[⟨⟨[2], [10, 20]⟩, { tracked := true, grad := some ⟨[2], [1, 3]⟩ }⟩] : Heap Int) = .ok (r, H') ∧
    H'.val r = ⟨[2], [8, 14]⟩ := by
  refine ⟨_, _, rfl, ?_⟩
  decide

end C17
end Qeep
