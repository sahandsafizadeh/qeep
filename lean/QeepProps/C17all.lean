import QeepProps.C17
import QeepProps.C11x
import QeepProps.C11t
/-! `C17` together with the statements about `Update` that are proved for C11 (`C11x.sgd_bounds`,
`C11.sgd_result_is_spent`, `C11.missing_reset_is_reported`, `C11t.sgd_nodes_no_edges`); the check of C17 builds this
module (`lake build QeepProps.C17all`) and then prints the axioms of each theorem (`work/audit_C17.lean`). -/
