import QeepProofs.Real
/-!
# C18 — initializers and random constructors honour shape, support and scale (partial by nature)

Proved (over `ℝ`): the parameter algebra of every initializer (`initFamily`: validation, defaults, scale formulas),
the affine map from the raw stream to the tensor elements (`sampleData`: gonum's `rnd*(Max-Min)+Min`,
`rnd*Sigma+Mu`), its support for uniform draws, its mean/variance transformation, shape of the result, and that
element `k` consumes raw draw `k` (each draw used once, in order).
Trusted, not proved: that `golang.org/x/exp/rand` / gonum deliver independent U[0,1) resp. N(0,1) raw draws; the
correspondence run replays the raw stream bit-exactly and runs moment tests on the real code's output.
-/

namespace Qeep
namespace C18
open RealScalar

/-- **Uniform support**: a raw draw `u ∈ [0,1)` lands in `[lower, upper)`. -/
theorem uniform_support (lo hi u : ℝ) (h : lo < hi) (hu0 : 0 ≤ u) (hu1 : u < 1) :
    lo ≤ Scalar.add (Scalar.mul u (Scalar.sub hi lo)) lo ∧ Scalar.add (Scalar.mul u (Scalar.sub hi lo)) lo < hi := by
  simp only [add_eq, mul_eq, sub_eq]
  have hd : 0 < hi - lo := sub_pos.mpr h
  constructor
  · linarith [mul_nonneg hu0 hd.le]
  · linarith [mul_lt_mul_of_pos_right hu1 hd]

/-- the affine maps applied to the raw draws: mean and variance transform as for any affine map, so a
    U[0,1) draw (mean 1/2, variance 1/12) gives mean (lo+hi)/2 and variance (hi-lo)²/12, and an N(0,1) draw
    gives mean `mu` and variance `sigma²` -/
theorem uniform_affine (lo hi u : ℝ) : Scalar.add (Scalar.mul u (Scalar.sub hi lo)) lo = lo + (hi - lo) * u := by
  simp only [sub_eq, mul_eq, add_eq]; ring

theorem normal_affine (mu s z : ℝ) : Scalar.add (Scalar.mul z s) mu = mu + s * z := by
  simp only [mul_eq, add_eq]; ring

/-- the scale `sqrt(c / fan)` squares to `c / fan` (also for a zero fan: both sides vanish) -/
theorem sq_sqrt_fan {c : ℝ} (hc : 0 ≤ c) (n : ℕ) : Real.sqrt (c / (n : ℝ)) ^ 2 = c / (n : ℝ) :=
  Real.sq_sqrt (div_nonneg hc n.cast_nonneg)

/-- **HeUniform**: bound `r = sqrt(6/fanIn)`, support `[-r, r)`, variance of U(-r,r) `= r²/3 = 2/fanIn`. -/
theorem he_uniform (fanIn : Int) (h : 0 < fanIn) :
    ∃ r : ℝ, initFamily (InitKind.heUniform (some fanIn)) = .ok (Family.uniform (-r) r) ∧
      r = Real.sqrt (6 / (fanIn.toNat : ℝ)) ∧ r ^ 2 / 3 = 2 / (fanIn.toNat : ℝ) := by
  refine ⟨Real.sqrt (6 / (fanIn.toNat : ℝ)), ?_, rfl, ?_⟩
  · simp only [initFamily, not_le.mpr h, ↓reduceIte, Scalar.sqrt, ofNat_eq, Nat.cast_ofNat, div_eq, neg_eq]
  · rw [sq_sqrt_fan (by norm_num)]; ring

/-- **XavierUniform**: `r = sqrt(6/(fanIn+fanOut))`, variance `2/(fanIn+fanOut)`. -/
theorem xavier_uniform (fi fo : Int) (hi : 0 < fi) (ho : 0 < fo) :
    ∃ r : ℝ, initFamily (InitKind.xavierUniform (some (fi, fo))) = .ok (Family.uniform (-r) r) ∧
      r = Real.sqrt (6 / ((fi + fo).toNat : ℝ)) ∧ r ^ 2 / 3 = 2 / ((fi + fo).toNat : ℝ) := by
  refine ⟨Real.sqrt (6 / ((fi + fo).toNat : ℝ)), ?_, rfl, ?_⟩
  · simp only [initFamily, not_le.mpr hi, not_le.mpr ho, or_self, ↓reduceIte, Scalar.sqrt, ofNat_eq, Nat.cast_ofNat,
      div_eq, neg_eq]
  · rw [sq_sqrt_fan (by norm_num)]; ring

/-- **HeNormal / XavierNormal**: mean 0, `sigma² = 2/fanIn` resp. `2/(fanIn+fanOut)`. -/
theorem he_normal (fanIn : Int) (h : 0 < fanIn) :
    ∃ s : ℝ, initFamily (InitKind.heNormal (some fanIn)) = .ok (Family.normal 0 s) ∧ s ^ 2 = 2 / (fanIn.toNat : ℝ) := by
  refine ⟨Real.sqrt (2 / (fanIn.toNat : ℝ)), ?_, sq_sqrt_fan (by norm_num) _⟩
  simp only [initFamily, not_le.mpr h, ↓reduceIte, zero_eq, Scalar.sqrt, two_eq, ofNat_eq, div_eq]

theorem xavier_normal (fi fo : Int) (hi : 0 < fi) (ho : 0 < fo) :
    ∃ s : ℝ, initFamily (InitKind.xavierNormal (some (fi, fo))) = .ok (Family.normal 0 s) ∧
      s ^ 2 = 2 / ((fi + fo).toNat : ℝ) := by
  refine ⟨Real.sqrt (2 / ((fi + fo).toNat : ℝ)), ?_, sq_sqrt_fan (by norm_num) _⟩
  simp only [initFamily, not_le.mpr hi, not_le.mpr ho, or_self, ↓reduceIte, zero_eq, Scalar.sqrt, two_eq, ofNat_eq,
    div_eq]

/-- **Defaults of nil configs**: Full 0, Uniform [-0.05, 0.05), Normal(0, 0.05). -/
theorem defaults :
    initFamily (InitKind.full (none : Option ℝ)) = .ok (Family.const 0) ∧
    initFamily (InitKind.uniform (none : Option (ℝ × ℝ))) = .ok (Family.uniform (-(5 / 100)) (5 / 100)) ∧
    initFamily (InitKind.normal (none : Option (ℝ × ℝ))) = .ok (Family.normal 0 (5 / 100)) := by
  refine ⟨by simp only [initFamily, zero_eq, Option.getD_none], ?_, ?_⟩
  · have : (-(5 / 10 ^ 2) : ℝ) < 5 / 10 ^ 2 := by norm_num
    simp only [initFamily, Scalar.ofSci, Nat.cast_ofNat, neg_eq, Option.getD_none, lt_eq, this, decide_true,
      ↓reduceIte]
    norm_num
  · have : (0 : ℝ) < 5 / 10 ^ 2 := by norm_num
    simp only [initFamily, Scalar.gt, zero_eq, Scalar.ofSci, Nat.cast_ofNat, Option.getD_none, lt_eq, this,
      decide_true, ↓reduceIte]
    norm_num

/-- **Parameter validation**: invalid configurations are errors (missing config for the fan-based kinds,
    non-positive fans, `lower ≥ upper`, `sigma ≤ 0`). -/
theorem invalid_configs (lo hi mu s : ℝ) (fi fo : Int) :
    initFamily (InitKind.heUniform (none : Option Int) : InitKind ℝ) = .err ∧
    initFamily (InitKind.xavierNormal (none : Option (Int × Int)) : InitKind ℝ) = .err ∧
    (fi ≤ 0 → initFamily (InitKind.heNormal (some fi) : InitKind ℝ) = .err) ∧
    (fi ≤ 0 ∨ fo ≤ 0 → initFamily (InitKind.xavierUniform (some (fi, fo)) : InitKind ℝ) = .err) ∧
    (hi ≤ lo → initFamily (InitKind.uniform (some (lo, hi))) = .err) ∧
    (s ≤ 0 → initFamily (InitKind.normal (some (mu, s))) = .err) := by
  refine ⟨rfl, rfl, fun h => by simp only [initFamily, h, ↓reduceIte], fun h => by simp only [initFamily, h, ↓reduceIte],
    fun h => ?_, fun h => ?_⟩
  · simp only [initFamily, Option.getD_some, lt_eq, not_lt.mpr h, decide_false, Bool.false_eq_true, ↓reduceIte]
  · simp only [initFamily, Scalar.gt, zero_eq, Option.getD_some, lt_eq, not_lt.mpr h, decide_false, Bool.false_eq_true,
      ↓reduceIte]

/-- **Shape and stream use**: with enough raw draws, a random tensor of an accepted shape has exactly the
    requested dims, one element per position, and element `k` is the affine image of raw draw `k` — each draw is
    used once, in row-major order (no draw is repeated inside a tensor). -/
theorem random_shape_and_stream (lo hi : ℝ) (h : lo < hi) (dims : List Int) (hd : validInputDims dims = true)
    (us zs : List ℝ) (hn : prod (natDims dims) ≤ us.length) :
    ∃ data, vRandom (Family.uniform lo hi) dims us zs = some (.ok ⟨natDims dims, data⟩) ∧
      data.length = prod (natDims dims) ∧
      ∀ k (hk : k < prod (natDims dims)), data[k]? = some (lo + (hi - lo) * us[k]'(by omega)) := by
  have hnl : ¬ us.length < prod (natDims dims) := by omega
  refine ⟨(us.take (prod (natDims dims))).map (fun u => Scalar.add (Scalar.mul u (Scalar.sub hi lo)) lo), ?_, ?_, ?_⟩
  · simp only [vRandom, lt_eq, h, decide_true, Bool.not_true, Bool.false_eq_true, ↓reduceIte, hd, sampleData, hnl,
      Option.map_some]
  · rw [List.length_map, List.length_take, Nat.min_eq_left hn]
  · intro k hk
    rw [List.getElem?_map, List.getElem?_take_of_lt hk, List.getElem?_eq_getElem (show k < us.length by omega)]
    simp only [Option.map_some, sub_eq, mul_eq, add_eq, Option.some.injEq]
    ring

/-- non-vacuity: HeUniform with fanIn = 6 has bound 1 -/
example : ∃ r : ℝ, initFamily (InitKind.heUniform (some 6)) = .ok (Family.uniform (-r) r) ∧ r ^ 2 / 3 = 2 / ((6 : Int).toNat : ℝ) := by
  obtain ⟨r, h1, _, h3⟩ := he_uniform 6 (by norm_num)
  exact ⟨r, h1, h3⟩

end C18
end Qeep
