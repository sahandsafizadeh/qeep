import QeepProofs.Run
import QeepProofs.Real
/-!
# C19 — accuracy equals matched over total across everything accumulated

`matchCount p t` counts the positions at which prediction and target compare equal (the library's `Eq`).
The running counters are natural numbers in the Model as they are `int`s in the code.
-/

namespace Qeep
namespace C19

variable {α : Type} [Scalar α]

def matchCount (p t : List α) : Nat := (List.zipWith (fun a b => Scalar.near a b) p t).count true

/-- the scalar domain counts correctly: the sum of a 0/1 mask, truncated to an integer, is the number of ones
    (true of `ℝ`, see `countLaw_real`; true of binary64 for masks shorter than 2^53) -/
def CountLaw (α : Type) [Scalar α] : Prop :=
  ∀ bs : List Bool, Scalar.toNat (List.foldl Scalar.add (Scalar.zero : α) (bs.map Scalar.ofBool)) = bs.count true

theorem countLaw_real : CountLaw ℝ := by
  intro bs
  have key : ∀ (l : List Bool) (acc : ℝ),
      List.foldl Scalar.add acc (l.map (Scalar.ofBool : Bool → ℝ)) = acc + (l.count true : ℝ) := by
    intro l
    induction l with
    | nil => intro acc; simp
    | cons b bs ih =>
      intro acc
      simp only [List.map_cons, List.foldl_cons, ih]
      cases b
      · simp only [Scalar.ofBool, Bool.false_eq_true, ↓reduceIte, RealScalar.zero_eq, RealScalar.add_eq, add_zero,
          ne_eq, not_false_eq_true, List.count_cons_of_ne]
      · simp only [Scalar.ofBool, ↓reduceIte, RealScalar.one_eq, RealScalar.add_eq, List.count_cons_self,
          Nat.cast_add, Nat.cast_one, add_assoc, add_comm (1 : ℝ)]
  rw [key]
  simp only [Scalar.toNat, RealScalar.zero_eq, zero_add, Nat.floor_natCast]

/-- **An accepted batch** adds its size to `total` and its number of matching positions to `correct`; nothing
    else changes (existing tensors untouched). -/
theorem acc_counts (hlaw : CountLaw α) (c : Accuracy) (H : Heap α) (p t : Nat) (d : Nat)
    (wp : (H.val p).WF) (wt : (H.val t).WF) (hp : (H.val p).dims = [d]) (ht : (H.val t).dims = [d]) :
    ∃ c' H', accAccumulate c (some p) (some t) H = .ok (c', H') ∧ Extends H H' ∧
      c'.total = c.total + d ∧ c'.correct = c.correct + matchCount (H.val p).data (H.val t).data := by
  have hdims : (H.val p).dims = (H.val t).dims := by rw [hp, ht]
  obtain ⟨e, H1, he⟩ := ran_hCmp .eq p t H _ (vCmp_same .eq _ _ wp wt hdims)
  refine ⟨{ total := c.total + (H1.val e).dims.headD 0, correct := c.correct + Scalar.toNat (H1.val e).sum }, H1, ?_, he.ext, ?_, ?_⟩
  · unfold accAccumulate
    rw [bind_run (show (getHeap : HM α (Heap α)) H = .ok (H, H) from rfl)]
    simp only [hp, ht, List.length_cons, List.length_nil, and_self, if_true]
    rw [bind_run he.run, bind_run (show (getHeap : HM α (Heap α)) H1 = .ok (H1, H1) from rfl)]
    rfl
  · simp [he.val, hp]
  · simp only [he.val, Tensor.sum, Tensor.fold, Cmp.fn]
    have : List.zipWith (fun a b => (Scalar.ofBool (Scalar.near a b) : α)) (H.val p).data (H.val t).data
        = (List.zipWith (fun a b => Scalar.near a b) (H.val p).data (H.val t).data).map Scalar.ofBool := by
      rw [List.map_zipWith]
    rw [this, hlaw]
    rfl

/-- **A rejected call leaves the counters unchanged**: nil tensors, wrong rank or mismatched lengths produce an
    error, and an error outcome carries no new state. -/
theorem acc_rejected (c : Accuracy) (H : Heap α) :
    (∀ t, accAccumulate c none t H = .err) ∧ (∀ p, accAccumulate c (some p) none H = .err) ∧
    (∀ p t, ¬ ((H.val p).dims.length = 1 ∧ (H.val t).dims.length = 1 ∧ (H.val p).dims = (H.val t).dims) →
        accAccumulate c (some p) (some t) H = .err) := by
  refine ⟨?_, ?_, ?_⟩
  · intro t; cases t <;> rfl
  · intro p; rfl
  · intro p t h
    unfold accAccumulate
    rw [bind_run (show (getHeap : HM α (Heap α)) H = .ok (H, H) from rfl)]
    simp only [h, if_false]
    rfl

/-- **Partition invariance**: matches (and sizes) of a batch split in two add up -/
theorem matchCount_append (p1 p2 t1 t2 : List α) (h : p1.length = t1.length) :
    matchCount (p1 ++ p2) (t1 ++ t2) = matchCount p1 t1 + matchCount p2 t2 := by
  unfold matchCount
  rw [List.zipWith_append h, List.count_append]

/-- matches never exceed the batch size, so `correct ≤ total` is an invariant of every history -/
theorem matchCount_le (p t : List α) : matchCount p t ≤ p.length := by
  unfold matchCount
  refine Nat.le_trans (List.count_le_length) ?_
  simp [List.length_zipWith]

/-- **Result** is `correct / total` (0 before anything was accumulated) and lies in [0, 1] -/
theorem acc_result (c : Accuracy) (h : c.correct ≤ c.total) :
    (c.total = 0 → (accResult c : ℝ) = 0) ∧ (c.total ≠ 0 → (accResult c : ℝ) = (c.correct : ℝ) / (c.total : ℝ)) ∧
    0 ≤ (accResult c : ℝ) ∧ (accResult c : ℝ) ≤ 1 := by
  unfold accResult
  by_cases h0 : c.total = 0
  · simp only [h0, ↓reduceIte, RealScalar.zero_eq, imp_self, ne_eq, not_true_eq_false, false_imp_iff, le_refl,
      zero_le_one, and_self]
  · have hpos : (0 : ℝ) < c.total := Nat.cast_pos.mpr (Nat.pos_of_ne_zero h0)
    simp only [h0, ↓reduceIte, RealScalar.ofNat_eq, RealScalar.div_eq, false_imp_iff, ne_eq, not_false_eq_true,
      forall_const, true_and]
    exact ⟨div_nonneg c.correct.cast_nonneg c.total.cast_nonneg, (div_le_one hpos).mpr (Nat.cast_le.mpr h)⟩

/-- non-vacuity (kernel-checked on `Int`): [1,2,3] vs [1,0,3] has two matches -/
example : matchCount ([1, 2, 3] : List Int) [1, 0, 3] = 2 := by decide

end C19
end Qeep
