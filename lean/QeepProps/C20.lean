import QeepProps.C01
import QeepProps.C10
/-!
# C20 — concurrent computations on shared tensors are race-free and deterministic (partial by nature)

What a theorem about the Model can carry is the *footprint* argument:

* every forward operation, layer / activation / loss evaluation and graph construction only READS existing
  tensors and WRITES freshly allocated nodes (`C10.forward_ops_only_allocate`, `C10.components_only_allocate`):
  goroutines that only run such computations never write a location another goroutine can reach;
* `backprop` writes contexts (gradient, spent flag) of exactly the tensors in `backwardOrder` — the tracked tensors
  reachable from the root through tracked back edges — and nothing else (`backprop_footprint`); it never writes a
  value (`C10.backprop_changes_no_value`). Two back-propagations whose graphs share only untracked tensors therefore
  have disjoint write sets, and neither writes what the other reads (values, and contexts outside its own order).
* the library keeps no mutable package-level state (checked on the source by `extract/`, on every run).

Not expressible here: the Go memory model and the scheduler. The correspondence run executes generated programs
with 2–16 goroutines under the race detector and compares every goroutine's results with the sequential Model.
-/
set_option linter.unusedSectionVars false

namespace Qeep
namespace C20
open C01

variable {α : Type} [Scalar α]

theorem markDirty_ctx_outside (H : Heap α) (ns : List Nat) (n : Nat) (h : n ∉ ns) : (markDirty H ns).ctx n = H.ctx n := by
  rw [markDirty_ctx, if_neg (fun h' => h h'.1)]

theorem writeBack_ctx_same (H : Heap α) (G : Nat → Option (Tensor α)) (n : Nat) (hg : G n = H.grad n) :
    (writeBack H G).ctx n = H.ctx n := by
  rw [writeBack_ctx, hg]; split <;> rfl

/-- **Footprint of BackPropagate**: it writes the contexts of the tensors in its own order only — every other
    tensor keeps its gradient, flags and back edges; (values are never written: `C10.backprop_changes_no_value`). -/
theorem backprop_footprint (bm : BMode) (H : Heap α) (root : Nat) (hdag : HeapDag H) (n : Nat)
    (hn : n ∉ backwardOrder H root) : (backprop bm H root).heap.ctx n = H.ctx n := by
  cases htr : H.tracked root with
  | false => rw [(backprop_untracked_root bm H root htr).1]
  | true =>
    rw [backprop_eq bm H root htr]
    cases hseed : accumG (vArith Arith.add) (fun m => H.grad m) root (vPow (H.val root) Scalar.zero) with
    | err => exact markDirty_ctx_outside H _ n hn
    | panic => exact markDirty_ctx_outside H _ n hn
    | ok G1 =>
      -- the store at `n` is never written: `n` is not the root, and no visited tracked edge targets it (the order is closed)
      have hne : n ≠ root := fun e => hn (e ▸ (backwardOrder_spec H root hdag htr).1)
      have hG : (bpRun bm H root G1).grads n = H.grad n :=
        (fold_grads_unchanged _ _ _ _ _ n fun p hp ht heq => by
          obtain ⟨hu, e, he, hpe⟩ := mem_bpPairs.mp hp
          rw [← hpe] at ht heq
          exact hn (heq ▸ order_closed hdag hu he ht)).trans (accumG_other _ hseed n hne)
      exact (writeBack_ctx_same _ _ n (hG.trans (markDirty_fields H _ n).2.2.symm)).trans (markDirty_ctx_outside H _ n hn)

theorem backprop_footprint_reachable (bm : BMode) (H : Heap α) (root : Nat) (hr : Reach bm H) (n : Nat)
    (hn : n ∉ backwardOrder H root) : (backprop bm H root).heap.ctx n = H.ctx n :=
  backprop_footprint bm H root (reach_dag hr) n hn

/-- every member of the order is the root or a successor of a member (`succs` filters on `tracked`): the order holds
    only what is reachable from the root through tracked back edges, so by `backprop_footprint` two back-propagations
    over graphs that share only untracked tensors have disjoint write sets -/
theorem order_members_tracked (H : Heap α) (root : Nat) (hdag : HeapDag H) :
    ∀ n ∈ backwardOrder H root, n = root ∨ ∃ u ∈ backwardOrder H root, n ∈ succs H u := by
  intro n hn
  obtain ⟨hroot, hcl, _, _⟩ := backwardOrder_spec H root hdag (order_root_tracked hn)
  exact (order_induct H root (fun x => x ∈ backwardOrder H root ∧ (x = root ∨ ∃ u ∈ backwardOrder H root, x ∈ succs H u))
    ⟨hroot, .inl rfl⟩ (fun u hu v hv => ⟨hcl u hu.1 v hv, .inr ⟨u, hu.1, hv⟩⟩) n hn).2

end C20
end Qeep
