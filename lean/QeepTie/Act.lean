import QeepGen.Act
/-!
# Activations: the Go text of `forward` is `actForward` on a validated input
Generated definitions (QeepGen/Act.lean, regenerated from /repo's Go source by /verif/xlate on every check run) coincide
with the hand-written model the property theorems are about. See QeepTie/Rules.lean for the reading of these equations.
-/
namespace Qeep.Tie
open Scalar

variable {α : Type} [Scalar α]

omit [Scalar α] in
/-- a layer given exactly one non-nil input continues with that input -/
theorem liftOut_ok_bind {β γ : Type} (b : β) (k : β → HM α γ) : liftOut (.ok b) >>= k = k b := rfl

theorem comp_Relu (x : Nat) : actForward (.relu : Activation α) [some x] = Gen.Relu_forward x :=
  liftOut_ok_bind x _

theorem comp_LeakyRelu (m : α) (x : Nat) : actForward (.leaky m) [some x] = Gen.LeakyRelu_forward m x :=
  liftOut_ok_bind x _

theorem comp_Sigmoid (x : Nat) : actForward (.sigmoid : Activation α) [some x] = Gen.Sigmoid_forward x :=
  liftOut_ok_bind x _

theorem comp_Tanh (x : Nat) : actForward (.tanh : Activation α) [some x] = Gen.Tanh_forward x :=
  liftOut_ok_bind x _

theorem comp_Softmax (dim x : Nat) (H : Heap α) (h : dim < (H.val x).dims.length) :
    actForward (.softmax dim : Activation α) [some x] H = Gen.Softmax_forward dim x H := by
  show (if (H.val x).dims.length ≤ dim then _ else _ : HM α Nat) H = _
  rw [if_neg (Nat.not_le.2 h)]
  rfl

end Qeep.Tie
