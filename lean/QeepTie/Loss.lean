import QeepGen.Loss
/-!
# Losses: the Go text of `clip` / `Compute` is `clip` / `lossCompute` on validated inputs
Generated definitions (QeepGen/Loss.lean, regenerated from /repo's Go source by /verif/xlate on every check run) coincide
with the hand-written model the property theorems are about. See QeepTie/Rules.lean for the reading of these equations.
-/
namespace Qeep.Tie
open Scalar

variable {α : Type} [Scalar α]

theorem comp_clip (x : Nat) (l u : α) : Qeep.clip x l u = Gen.clip x l u := rfl

theorem comp_MSE (H : Heap α) (yp yt : Nat) (hv : lossValid H .mse (some yp) (some yt) = .ok (yp, yt)) :
    lossCompute (α := α) .mse (some yp) (some yt) H = Gen.MSE_compute yp yt H := by
  show (liftOut (lossValid H .mse (some yp) (some yt)) H).bind _ = _
  rw [hv]
  rfl

theorem comp_BCE (H : Heap α) (yp yt : Nat) (hv : lossValid H .bce (some yp) (some yt) = .ok (yp, yt)) :
    lossCompute (α := α) .bce (some yp) (some yt) H = Gen.BCE_compute yp yt H := by
  show (liftOut (lossValid H .bce (some yp) (some yt)) H).bind _ = _
  rw [hv]
  rfl

theorem comp_CE (H : Heap α) (yp yt : Nat) (hv : lossValid H .ce (some yp) (some yt) = .ok (yp, yt)) :
    lossCompute (α := α) .ce (some yp) (some yt) H = Gen.CE_compute yp yt H := by
  show (liftOut (lossValid H .ce (some yp) (some yt)) H).bind _ = _
  rw [hv]
  rfl

end Qeep.Tie
