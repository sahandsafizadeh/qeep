import QeepGen.SGD
/-!
# SGD: the Go text of `Update` is `sgdUpdate` on a tensor that has a gradient
Generated definitions (QeepGen/SGD.lean, regenerated from /repo's Go source by /verif/xlate on every check run) coincide
with the hand-written model the property theorems are about. See QeepTie/Rules.lean for the reading of these equations.
-/
namespace Qeep.Tie
open Scalar

variable {α : Type} [Scalar α]

theorem comp_SGD (lr : α) (H H' : Heap α) (w g : Nat) (hg : hGradNode w H = .ok (some g, H')) :
    sgdUpdate lr (some w) H = Gen.SGD_update lr w g H' := by
  show (hGradNode w H).bind _ = _
  rw [hg]
  rfl

end Qeep.Tie
