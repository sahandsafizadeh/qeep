import QeepGen.Valid
/-!
# Validators: the Go text of `tensor/internal/validator/*.go` (if-chains and index loops, translated by /verif/xlate to
# Bool-valued functions over Go ints) decides exactly what the model's validators (`Qeep/Validate.lean`) decide.

Tensor dimensions are `List Nat` in the model and `[]int` in Go: the equations take the Go-side argument `dims.map Int.ofNat`.
-/
namespace Qeep.Tie
open Scalar

theorem all_range_iff (n : Nat) (f : Nat → Bool) : (List.range n).all f = true ↔ ∀ i, i < n → f i = true := by
  simp [List.all_eq_true, List.mem_range]

theorem all_zip_iff {β γ : Type} (l : List β) (m : List γ) (f : β × γ → Bool) :
    (l.zip m).all f = true ↔ ∀ i (h1 : i < l.length) (h2 : i < m.length), f (l[i], m[i]) = true := by
  rw [List.all_eq_true]
  constructor
  · intro h i h1 h2
    have hi : i < (l.zip m).length := by rw [List.length_zip]; omega
    exact List.getElem_zip (h := hi) ▸ h _ (List.getElem_mem hi)
  · intro h p hp
    obtain ⟨i, hi, rfl⟩ := List.getElem_of_mem hp
    rw [List.length_zip] at hi
    rw [List.getElem_zip]
    exact h i (by omega) (by omega)

theorem getD_lt {β : Type} (l : List β) (i : Nat) (d : β) (h : i < l.length) : l.getD i d = l[i] := by
  simp [List.getD, h]

/-- reading a Go `[]int` of dimensions at any index, in or out of range, reads the model's `List Nat` with the same default -/
theorem getD_map_ofNat (l : List Nat) (i : Nat) : (l.map Int.ofNat).getD i 0 = ((l.getD i 0 : Nat) : Int) := by
  rw [List.getD_eq_getElem?_getD, List.getD_eq_getElem?_getD, List.getElem?_map]
  cases l[i]? <;> rfl

theorem getD_ofNat (l : List Nat) (i : Nat) (h : i < l.length) : (l.map Int.ofNat).getD i 0 = (l[i] : Int) := by
  rw [getD_map_ofNat, getD_lt _ _ _ h]

theorem valid_InputDims (dims : List Int) : Gen.ValidateInputDims dims = validInputDims dims := by
  rw [Bool.eq_iff_iff]
  unfold Gen.ValidateInputDims validInputDims
  simp only [Bool.not_eq_eq_eq_not, Bool.not_true, ite_eq_right_iff, Bool.false_eq_true, imp_false,
    Bool.not_eq_false, List.all_eq_true, List.mem_range, decide_eq_true_eq]
  constructor
  · intro h d hd
    obtain ⟨i, hi, rfl⟩ := List.getElem_of_mem hd
    have := h i hi
    rw [getD_lt _ _ _ hi] at this
    omega
  · intro h i hi
    have := h dims[i] (List.getElem_mem hi)
    rw [getD_lt _ _ _ hi]
    omega

theorem valid_Transpose (dims : List Nat) : Gen.ValidateTransposeDims (dims.map Int.ofNat) = validTranspose dims := by
  rw [Bool.eq_iff_iff]
  simp [Gen.ValidateTransposeDims, validTranspose]
  omega

theorem valid_UnSqueeze (dim : Int) (dims : List Nat) :
    Gen.ValidateUnSqueezeDimAgainstDims dim (dims.map Int.ofNat) = validUnSqueeze dim dims := by
  rw [Bool.eq_iff_iff]
  simp [Gen.ValidateUnSqueezeDimAgainstDims, validUnSqueeze]

theorem valid_Flatten (dim : Int) (dims : List Nat) :
    Gen.ValidateFlattenDimAgainstDims dim (dims.map Int.ofNat) = validDimLt dim dims := by
  rw [Bool.eq_iff_iff]
  simp [Gen.ValidateFlattenDimAgainstDims, validDimLt]

theorem valid_Reduced (dim : Int) (dims : List Nat) :
    Gen.ValidateReducedDimAgainstDims dim (dims.map Int.ofNat) = validDimLt dim dims := by
  rw [Bool.eq_iff_iff]
  simp [Gen.ValidateReducedDimAgainstDims, validDimLt]

theorem valid_Squeeze (dim : Int) (dims : List Nat) :
    Gen.ValidateSqueezeDimAgainstDims dim (dims.map Int.ofNat) = validSqueeze dim dims := by
  rw [Bool.eq_iff_iff]
  simp only [Gen.ValidateSqueezeDimAgainstDims, validSqueeze, List.length_map]
  by_cases h : 0 ≤ dim ∧ dim < (dims.length : Int)
  · have hlt : dim.toNat < dims.length := by omega
    simp [h.1, h.2, List.getD, hlt]
    omega
  · have : ¬ (decide (0 ≤ dim) && decide (dim < (dims.length : Int))) = true := by simpa using h
    simp [this]

/-- a Go index loop `for i := range index` reading `index[i]` and `dims[i]`, against the model's statement about the
pairs of `index.zip dims` (as `all_zip_iff` reads it) -/
theorem forall_getD_iff {β γ : Type} (l : List β) (m : List γ) (a : β) (b : γ) (hl : l.length ≤ m.length)
    (P : β → γ → Prop) :
    (∀ i, i < l.length → P (l.getD i a) (m.getD i b)) ↔ ∀ i (h1 : i < l.length) (h2 : i < m.length), P l[i] m[i] := by
  constructor
  · intro h i h1 h2
    have := h i h1
    rwa [getD_lt _ _ _ h1, getD_lt _ _ _ h2] at this
  · intro h i hi
    rw [getD_lt _ _ _ hi, getD_lt _ _ _ (by omega)]
    exact h i hi (by omega)

theorem valid_At (index : List Int) (dims : List Nat) :
    Gen.ValidateAtIndexAgainstDims index (dims.map Int.ofNat) = validAtIndex index dims := by
  rw [Bool.eq_iff_iff]
  unfold Gen.ValidateAtIndexAgainstDims validAtIndex
  simp only [getD_map_ofNat, Bool.if_false_left, List.length_map, Bool.and_eq_true, beq_iff_eq, all_zip_iff, decide_eq_true_eq,
    decide_eq_false_iff_not, Bool.and_true, all_range_iff, bne_iff_ne, ne_eq,
    Decidable.not_not, Bool.not_eq_eq_eq_not, Bool.not_true, Bool.not_eq_false]
  have loop := fun hl => forall_getD_iff index dims 0 0 hl (fun a d => 0 ≤ a ∧ a < (d : Int))
  constructor
  · rintro ⟨hl, h⟩
    have hl' : index.length = dims.length := by exact_mod_cast hl
    exact ⟨hl', (loop (by omega)).1 h⟩
  · rintro ⟨hl, h⟩
    exact ⟨by exact_mod_cast hl, (loop (by omega)).2 h⟩

theorem valid_DimsMatch (d1 d2 : List Nat) :
    Gen.ValidateBinaryFuncDimsMatch (d1.map Int.ofNat) (d2.map Int.ofNat) = validDimsMatch d1 d2 := by
  rw [Bool.eq_iff_iff]
  unfold Gen.ValidateBinaryFuncDimsMatch validDimsMatch
  simp only [List.length_map, beq_iff_eq]
  by_cases hl : d1.length = d2.length
  · have hne : ((d1.length : Int) != (d2.length : Int)) = false := by simp [hl]
    simp only [hne, Bool.false_eq_true, if_false, Int.toNat_natCast]
    simp only [Bool.not_eq_eq_eq_not, Bool.not_true, ite_eq_right_iff, Bool.false_eq_true, imp_false,
      Bool.not_eq_false, List.all_eq_true, List.mem_range, bne_iff_ne, ne_eq, Decidable.not_not]
    constructor
    · intro h
      apply List.ext_getElem hl
      intro i h1 h2
      have := h i h1
      rw [getD_ofNat _ _ h1, getD_ofNat _ _ h2] at this
      exact_mod_cast this
    · rintro rfl i hi
      rfl
  · have hne : ((d1.length : Int) != (d2.length : Int)) = true := by simp; omega
    simp only [hne, if_true, Bool.false_eq_true, false_iff]
    intro h; exact hl (by rw [h])

theorem getLast?_eq_getD (l : List Nat) (h : 1 ≤ l.length) : l.getLast? = some (l.getD (l.length - 1) 0) := by
  rw [List.getLast?_eq_getElem?, List.getD_eq_getElem?_getD, List.getElem?_eq_getElem (by omega)]
  rfl

/-- Go compares `dims1[len1-1]` with `dims2[len2-k]` behind the guard `len1 < k || len2 < k` (`k` is 1 for Dot, 2 for
MatMul); the model compares two `Option`s, which behind the same guard are those two entries -/
theorem last_dims (d1 d2 : List Nat) (k : Nat) (hk : 1 ≤ k) (o1 o2 : Option Nat)
    (h1 : k ≤ d1.length → o1 = some (d1.getD (d1.length - 1) 0))
    (h2 : k ≤ d2.length → o2 = some (d2.getD (d2.length - k) 0)) :
    (if (decide ((d1.length : Int) < k) || decide ((d2.length : Int) < k)) = true then false
     else if ((d1.map Int.ofNat).getD ((d1.length : Int) - 1).toNat 0
              != (d2.map Int.ofNat).getD ((d2.length : Int) - k).toNat 0) = true then false else true)
    = (decide (d1.length ≥ k) && decide (d2.length ≥ k) && o1 == o2) := by
  rw [Bool.eq_iff_iff]
  by_cases h : k ≤ d1.length ∧ k ≤ d2.length
  · have e1 : ((d1.length : Int) - 1).toNat = d1.length - 1 := by omega
    have e2 : ((d2.length : Int) - k).toNat = d2.length - k := by omega
    rw [h1 h.1, h2 h.2, e1, e2, getD_map_ofNat, getD_map_ofNat]
    simp [h.1, h.2]
    omega
  · simp
    omega

theorem valid_Dot (d1 d2 : List Nat) :
    Gen.ValidateDotProductDims (d1.map Int.ofNat) (d2.map Int.ofNat) = validDot d1 d2 := by
  unfold Gen.ValidateDotProductDims validDot
  simp only [List.length_map]
  exact last_dims d1 d2 1 (Nat.le_refl 1) _ _ (getLast?_eq_getD d1) (getLast?_eq_getD d2)

theorem valid_MatMul (d1 d2 : List Nat) :
    Gen.ValidateMatMulDims (d1.map Int.ofNat) (d2.map Int.ofNat) = validMatMul d1 d2 := by
  unfold Gen.ValidateMatMulDims validMatMul
  simp only [List.length_map]
  refine last_dims d1 d2 2 (by omega) _ _ (fun h => getLast?_eq_getD d1 (by omega)) fun h => ?_
  rw [getLast?_eq_getD _ (by rw [List.length_dropLast]; omega), List.length_dropLast,
    List.getD_eq_getElem?_getD, List.getD_eq_getElem?_getD, List.getElem?_dropLast, if_pos (by omega), Nat.sub_sub]

theorem foldl_mul_ofNat (l : List Nat) (a : Nat) : (l.map Int.ofNat).foldl (· * ·) (a : Int) = ((a * prod l : Nat) : Int) := by
  induction l generalizing a with
  | nil => simp [prod]
  | cons d l ih =>
    simp only [List.map_cons, List.foldl_cons, prod]
    have : (a : Int) * Int.ofNat d = ((a * d : Nat) : Int) := by simp
    rw [this, ih, Nat.mul_assoc]

theorem foldl_mul_ofNat_one (l : List Nat) : (l.map Int.ofNat).foldl (· * ·) 1 = ((prod l : Nat) : Int) := by
  have := foldl_mul_ofNat l 1
  rw [Nat.one_mul] at this
  exact this

theorem valid_Reshape (src dst : List Nat) :
    Gen.ValidateReshapeSourceDimsAgainstTargetDims (src.map Int.ofNat) (dst.map Int.ofNat) = validReshape src dst := by
  rw [Bool.eq_iff_iff]
  unfold Gen.ValidateReshapeSourceDimsAgainstTargetDims validReshape
  simp only [foldl_mul_ofNat_one, Bool.if_false_left, Bool.and_true, decide_eq_false_iff_not, beq_iff_eq,
    bne_iff_ne, ne_eq, Decidable.not_not, Bool.not_eq_eq_eq_not, Bool.not_true]
  constructor
  · intro h; exact_mod_cast h
  · intro h; exact_mod_cast h

/-- the loop body of `ValidateSliceIndexAgainstDims` on one (range, size) pair is the model's `validRange` -/
theorem slice_body (r : Int × Int) (d : Nat) :
    (if (r.1 == (0 : Int) && r.2 == (0 : Int)) = true then true
     else if decide (r.1 ≥ r.2) = true then false
     else if (((decide (r.1 < (0 : Int)) || decide (r.1 ≥ (d : Int))) || decide (r.2 < (1 : Int))) ||
              decide (r.2 ≥ (d : Int) + (1 : Int))) = true
          then (if (r.2 == r.1 + (1 : Int)) = true then false else false) else true) = validRange r d := by
  unfold validRange
  by_cases h0 : (r.1 == (0 : Int) && r.2 == (0 : Int)) = true
  · simp [h0]
  · simp only [h0, Bool.false_eq_true, if_false]
    by_cases h1 : r.1 ≥ r.2
    · simp [h1]
    · simp only [h1, decide_false, Bool.false_eq_true, if_false, ite_self]
      simp

theorem valid_Slice (index : List (Int × Int)) (dims : List Nat) :
    Gen.ValidateSliceIndexAgainstDims index (dims.map Int.ofNat) = validSliceIndex index dims := by
  rw [Bool.eq_iff_iff]
  unfold Gen.ValidateSliceIndexAgainstDims validSliceIndex
  simp only [getD_map_ofNat, slice_body]
  simp only [List.length_map, Bool.if_false_left, Bool.and_true, Bool.and_eq_true, Bool.not_eq_true', decide_eq_false_iff_not,
    decide_eq_true_eq, all_zip_iff, all_range_iff, Bool.not_eq_false]
  have loop := fun hl => forall_getD_iff index dims (0, 0) 0 hl (fun r d => validRange r d = true)
  constructor
  · rintro ⟨hl, h⟩
    have hl' : index.length ≤ dims.length := by omega
    exact ⟨hl', (loop hl').1 h⟩
  · rintro ⟨hl, h⟩
    exact ⟨by omega, (loop hl).2 h⟩

theorem valid_Patch (index : List (Int × Int)) (src dst : List Nat) :
    Gen.ValidatePatchIndexAgainstDims index (src.map Int.ofNat) (dst.map Int.ofNat) = validPatchIndex index src dst := by
  rw [Bool.eq_iff_iff]
  unfold Gen.ValidatePatchIndexAgainstDims validPatchIndex
  rw [valid_Slice]
  simp only [getD_map_ofNat, List.length_map, Bool.if_false_left, Bool.and_true, Bool.and_eq_true, decide_eq_false_iff_not,
    decide_eq_true_eq, all_zip_iff, all_range_iff, Bool.not_eq_eq_eq_not, Bool.not_true,
    Bool.not_eq_false, beq_iff_eq, bne_iff_ne, ne_eq, Decidable.not_not, Int.toNat_natCast, Bool.if_true_left, Bool.or_eq_true]
  have sizes := fun hl => forall_getD_iff src dst 0 0 hl (fun s d => ¬ (s : Int) > (d : Int))
  have ranges := fun hl => forall_getD_iff index src (0, 0) 0 hl (fun r s => r.1 = 0 ∧ r.2 = 0 ∨ r.2 - r.1 = (s : Int))
  have fits : validSliceIndex index dst = true → index.length ≤ dst.length := fun hs => by
    unfold validSliceIndex at hs
    simp only [Bool.and_eq_true, decide_eq_true_eq] at hs
    exact hs.1
  constructor
  · rintro ⟨hl, hle, hs, hc⟩
    have hl' : src.length = dst.length := by exact_mod_cast hl
    have hi := fits hs
    exact ⟨⟨⟨hl', fun i h1 h2 => Int.ofNat_le.1 (Int.not_lt.1 ((sizes (by omega)).1 hle i h1 h2))⟩, hs⟩,
      (ranges (by omega)).1 hc⟩
  · rintro ⟨⟨⟨hl, hle⟩, hs⟩, hc⟩
    have hi := fits hs
    exact ⟨by exact_mod_cast hl, (sizes (by omega)).2 fun i h1 h2 => Int.not_lt.2 (Int.ofNat_le.2 (hle i h1 h2)), hs,
      (ranges (by omega)).2 hc⟩

theorem validBroadcastLE_eq (a b : List Nat) : validBroadcastLE a b =
    (decide (a.length ≤ b.length) && (a.zip b).all fun p => p.1 == p.2 || p.1 == 1) := by
  induction a generalizing b with
  | nil => simp [validBroadcastLE]
  | cons x a ih =>
    cases b with
    | nil => simp [validBroadcastLE]
    | cons y b =>
      simp only [validBroadcastLE, ih, List.length_cons, List.zip_cons_cons, List.all_cons, Nat.add_le_add_iff_right]
      exact Bool.and_left_comm ..

theorem validBroadcastLE_iff (a b : List Nat) : validBroadcastLE a b = true ↔
    a.length ≤ b.length ∧ ∀ k (h1 : k < a.length) (h2 : k < b.length), (a[k] = b[k] ∨ a[k] = 1) := by
  simp only [validBroadcastLE_eq, Bool.and_eq_true, decide_eq_true_eq, all_zip_iff, Bool.or_eq_true, beq_iff_eq]

/-- the Go loop walks both shapes from the last dimension: its `k`-th step reads the `k`-th entry of the reversed list -/
theorem getD_reverse (l : List Nat) (k : Nat) (h : k < l.length) :
    (l.map Int.ofNat).getD ((l.length : Int) - 1 - k).toNat 0 = ((l.reverse[k]'(by simpa using h) : Nat) : Int) := by
  have e : ((l.length : Int) - 1 - k).toNat = l.length - 1 - k := by omega
  rw [e, getD_ofNat _ _ (by omega), List.getElem_reverse]

theorem valid_Broadcast (src dst : List Nat) :
    Gen.ValidateBroadcastSourceDimsAgainstTargetDims (src.map Int.ofNat) (dst.map Int.ofNat) = validBroadcast src dst := by
  rw [Bool.eq_iff_iff]
  unfold Gen.ValidateBroadcastSourceDimsAgainstTargetDims validBroadcast
  rw [validBroadcastLE_iff]
  simp only [List.length_map, Bool.if_false_left, Bool.and_true, Bool.and_eq_true, decide_eq_false_iff_not,
    decide_eq_true_eq, all_range_iff, Bool.not_eq_eq_eq_not, Bool.not_true,
    Bool.not_eq_false, Int.toNat_natCast, List.length_reverse, Bool.or_eq_true, beq_iff_eq]
  constructor
  · rintro ⟨hl, h⟩
    refine ⟨by omega, fun k h1 h2 => ?_⟩
    have := h k h1
    rw [getD_reverse _ _ h1, getD_reverse _ _ h2] at this
    exact_mod_cast this
  · rintro ⟨hl, h⟩
    refine ⟨by omega, fun k hk => ?_⟩
    rw [getD_reverse _ _ hk, getD_reverse _ _ (by omega)]
    exact_mod_cast h k hk (by omega)

/-- the Go-side argument of the Concat validator: the operands' dims as Go ints -/
def goDims (tsDims : List (List Nat)) : List (List Int) := tsDims.map (fun d => d.map Int.ofNat)

/-- one operand of Concat against the first: what the Go loop body has checked of its dims once it falls through, and what
the model asks of them; entry by entry the two compare the same numbers because the lengths agree -/
theorem concat_row (base dims : List Nat) (dim : Int) :
    (¬((dims.map Int.ofNat).length : Int) = 0 ∧ ((dims.map Int.ofNat).length : Int) = (base.length : Int) ∧
      (0 ≤ dim ∧ dim < (base.length : Int)) ∧ ∀ j, j < (dims.map Int.ofNat).length →
        (j : Int) = dim ∨ (dims.map Int.ofNat).getD j 0 = (base.map Int.ofNat).getD j 0) ↔
    ((¬dims.length = 0 ∧ dims.length = base.length) ∧ 0 ≤ dim ∧ dim < (base.length : Int)) ∧
      ∀ j, j < dims.length → (j : Int) = dim ∨ dims[j]? = base[j]? := by
  rw [List.length_map]
  have entry : dims.length = base.length → ∀ j, j < dims.length →
      ((dims.map Int.ofNat).getD j 0 = (base.map Int.ofNat).getD j 0 ↔ dims[j]? = base[j]?) := fun hl j hj => by
    rw [getD_ofNat _ _ hj, getD_ofNat _ _ (hl ▸ hj), List.getElem?_eq_getElem hj, List.getElem?_eq_getElem (hl ▸ hj),
      Option.some_inj, Int.ofNat_inj]
  constructor
  · rintro ⟨h1, h2, h3, h4⟩
    have hl : dims.length = base.length := by omega
    exact ⟨⟨⟨by omega, hl⟩, h3⟩, fun j hj => (h4 j hj).imp_right (entry hl j hj).1⟩
  · rintro ⟨⟨⟨h1, hl⟩, h3⟩, h4⟩
    exact ⟨by omega, by omega, h3, fun j hj => (h4 j hj).imp_right (entry hl j hj).2⟩

theorem valid_Concat (tsDims : List (List Nat)) (dim : Int) (hne : tsDims ≠ []) :
    Gen.ValidateConcatTensorsDimsAlongDim (goDims tsDims) dim = validConcat tsDims dim := by
  cases tsDims with
  | nil => exact absurd rfl hne
  | cons base rest =>
    have key : ∀ i (hi : i < (base :: rest).length),
        ((base :: rest).map (fun d => d.map Int.ofNat)).getD i [] = ((base :: rest)[i]).map Int.ofNat := by
      intro i hi
      rw [List.getD_eq_getElem?_getD, List.getElem?_map, List.getElem?_eq_getElem hi]
      rfl
    have key0 := key 0 (by simp)
    simp only [List.getElem_cons_zero] at key0
    rw [Bool.eq_iff_iff]
    unfold Gen.ValidateConcatTensorsDimsAlongDim validConcat goDims
    simp only [Int.toNat_zero, key0, List.length_map,
      Bool.if_false_left, Bool.if_true_left, Bool.and_true, Bool.and_eq_true, decide_eq_false_iff_not,
      decide_eq_true_eq, Bool.not_eq_eq_eq_not, Bool.not_true,
      Bool.not_eq_false, beq_iff_eq, bne_iff_ne, ne_eq, Decidable.not_not, List.all_eq_true, List.mem_range, Bool.or_eq_true]
    constructor
    · intro h dims hd
      obtain ⟨i, hi, rfl⟩ := List.getElem_of_mem hd
      have := h i hi
      rw [key i hi] at this
      exact (concat_row base _ dim).1 this
    · intro h i hi
      rw [key i hi]
      exact (concat_row base _ dim).2 (h _ (List.getElem_mem hi))
end Qeep.Tie
